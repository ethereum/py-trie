import PyTrie.Lemmas.HexTrav
import PyTrie.Lemmas.PathOrder
/-! `NodeIterator`: `_get_next_key` (`nextKey`), `_get_key_after` (`keyAfter`), `nodes()` (`preorder`),
    `items()` (`itemsOf`) on canonical trees, stated in terms of the contents `get t`. `plt` is Python's
    tuple order on nibble paths, `blt` Python's order on byte strings. -/
namespace PyTrie.Hex
open Node

/-- byte-string order is nibble-path order (`bytes_to_nibbles` is strictly monotone) -/
theorem plt_nibs (a b : Bytes) : plt (nibs a) (nibs b) = blt a b := by
  induction a generalizing b with
  | nil => cases b <;> rfl
  | cons x xs ih =>
    cases b with
    | nil => rfl
    | cons y ys =>
      -- both sides become cascades of comparisons, of `x / 16`, `x % 16` on the left and of `x` on the right
      simp only [nibs, blt, plt, ih, Fin.lt_def, nib_hi_val, nib_lo_val, UInt8.lt_iff_toNat_lt]
      grind

/-- `_get_next_key` returns the smallest stored key below the node (relative to `tr`) -/
theorem nextKey_some (t : Node) (hc : Canon t) (hb : isBlank t = false) (tr : Path) :
    ∃ r, nextKey t tr = some (tr ++ r) ∧ get t r ≠ [] ∧ ∀ k, get t k ≠ [] → plt k r = false := by
  induction t generalizing tr with
  | blank => simp [isBlank] at hb
  | leaf p v =>
    have hv : v ≠ [] := hc
    refine ⟨p, by simp [nextKey, hv], by simp [get, hv], fun k hk => ?_⟩
    rw [leaf_key_eq p v k hk]; exact plt_irrefl p
  | ext p c ih =>
    obtain ⟨r, h1, h2, h3⟩ := ih hc.2.2 (isBlank_false_of_isBranch hc.2.1) (tr ++ p)
    refine ⟨p ++ r, by simp [nextKey, h1], by simpa [get] using h2, fun k hk => ?_⟩
    obtain ⟨k', rfl, hk'⟩ := ext_key p c k hk
    rw [plt_append_left]
    exact h3 k' hk'
  | branch ch v ih =>
    by_cases hv : v = []
    · subst hv
      simp only [nextKey, ne_eq, not_true_eq_false, ↓reduceIte]
      cases hf : (List.finRange 16).find? (fun i => !(isBlank (ch i))) with
      | none =>
        obtain ⟨k, hk⟩ := exists_key _ hc rfl
        cases k with
        | nil => exact absurd rfl hk
        | cons a r => exact absurd (find_finRange_none hf a) (by simp [not_blank_of_get (n := ch a) hk])
      | some i =>
        obtain ⟨hi, hlt⟩ := find_finRange_some hf
        obtain ⟨r, h1, h2, h3⟩ := ih i (hc.1 i) (by simpa using hi) (tr ++ [i])
        refine ⟨i :: r, by simp [h1], h2, fun k hk => ?_⟩
        cases k with
        | nil => exact absurd rfl hk
        | cons a k' =>
          rw [plt_cons_false]
          rcases Nat.lt_trichotomy a.val i.val with h | h | h
          · exact absurd (hlt a h) (by simp [not_blank_of_get (n := ch a) hk])
          · obtain rfl := Fin.ext h
            exact Or.inr ⟨rfl, h3 k' hk⟩
          · exact Or.inl h
    · exact ⟨[], by simp [nextKey, hv], hv, fun k _ => plt_nil_right k⟩

def KASpec (t : Node) (key tr : Path) : Prop :=
  (∀ res, keyAfter t key tr = some res → ∃ r, res = tr ++ r ∧ get t r ≠ [] ∧ plt key r = true ∧
      ∀ k, get t k ≠ [] → plt key k = true → plt k r = false) ∧
  (keyAfter t key tr = none → ∀ k, get t k ≠ [] → plt key k = false)

/-- the per-child step of `_get_key_after` on a branch -/
def kaStep (ch : Nib → Node) (key tr : Path) (i : Nib) : Option (Option Path) :=
  if isBlank (ch i) then none
  else if plt [i] (key.take 1) then none
  else match key with
    | [] => some (nextKey (ch i) (tr ++ [i]))
    | a :: rest =>
      if a = i then
        match keyAfter (ch i) rest (tr ++ [i]) with
        | none => none
        | some k => some (some k)
      else some (nextKey (ch i) (tr ++ [i]))

theorem keyAfter_branch (ch : Nib → Node) (v : Bytes) (key tr : Path) :
    keyAfter (branch ch v) key tr =
      match (List.finRange 16).findSome? (kaStep ch key tr) with
      | some x => x
      | none => none := by
  simp only [keyAfter]
  rfl

theorem keyAfter_leaf_spec (p : Path) (v : Bytes) (hv : v ≠ []) (key tr : Path) :
    KASpec (leaf p v) key tr := by
  unfold KASpec
  by_cases h : plt key p = true
  · simp only [keyAfter, h, ↓reduceIte, Option.some.injEq, reduceCtorEq, false_imp_iff, and_true]
    rintro res rfl
    refine ⟨p, rfl, by simpa [get] using hv, h, ?_⟩
    intro k hk _
    rw [leaf_key_eq p v k hk]; exact plt_irrefl p
  · simp only [keyAfter, h, Bool.false_eq_true, ↓reduceIte, reduceCtorEq, false_imp_iff, implies_true,
      true_and, forall_const]
    intro k hk
    rw [leaf_key_eq p v k hk]; simpa using h

theorem keyAfter_ext_spec (p : Path) (c : Node) (hc : Canon (ext p c))
    (ih : ∀ key tr, KASpec c key tr) (key tr : Path) : KASpec (ext p c) key tr := by
  unfold KASpec
  by_cases h1 : plt p (key.take p.length) = true
  · -- the whole subtree lies to the left of `key`
    simp only [keyAfter, h1, ↓reduceIte, reduceCtorEq, false_imp_iff, implies_true, true_and,
      forall_const]
    intro k hk
    obtain ⟨k', rfl, _⟩ := ext_key p c k hk
    exact plt_take_true h1 k'
  · have h1' : plt p (key.take p.length) = false := by simpa using h1
    by_cases hp : p <+: key
    · -- `key` runs through `p`
      obtain ⟨kr, rfl⟩ := hp
      have hn : cpl (p ++ kr) p = p.length := by rw [cpl_comm, cpl_append_left]
      simp only [keyAfter, h1', Bool.false_eq_true, ↓reduceIte, hn, List.drop_length,
        List.drop_left]
      obtain ⟨i1, i2⟩ := ih kr (tr ++ p)
      constructor
      · intro res hres
        obtain ⟨r, e, g, l, m⟩ := i1 res hres
        refine ⟨p ++ r, by simp [e], by simpa [get] using g, by simpa using l, fun k hk hlt => ?_⟩
        obtain ⟨k', rfl, hk'⟩ := ext_key p c k hk
        rw [plt_append_left] at hlt ⊢
        exact m k' hk' hlt
      · intro hnone k hk
        obtain ⟨k', rfl, hk'⟩ := ext_key p c k hk
        rw [plt_append_left]
        exact i2 hnone k' hk'
    · -- the whole subtree lies to the right of `key`
      have hd : ¬ (p.drop (cpl key p) = []) := fun h => hp ((cpl_drop_right_nil_iff key p).1 h)
      obtain ⟨r, e, g, m⟩ := nextKey_some c hc.2.2 (isBlank_false_of_isBranch hc.2.1) (tr ++ p)
      simp only [keyAfter, h1', Bool.false_eq_true, ↓reduceIte, hd, e]
      refine ⟨fun res hres => ?_, fun h => nomatch h⟩
      cases hres
      refine ⟨p ++ r, by simp, by simpa [get] using g, plt_take_false h1' hp r, fun k hk _ => ?_⟩
      obtain ⟨k', rfl, hk'⟩ := ext_key p c k hk
      rw [plt_append_left]
      exact m k' hk'

/-- the step for child `i`: nothing stored below `i` is above `key`, or the step returns the least such key -/
theorem kaStep_spec (ch : Nib → Node) (hc : ∀ i, Canon (ch i)) (ih : ∀ i key tr, KASpec (ch i) key tr)
    (key tr : Path) (i : Nib) :
    (kaStep ch key tr i = none ∧ ∀ k, get (ch i) k ≠ [] → plt key (i :: k) = false) ∨
    ∃ r, kaStep ch key tr i = some (some (tr ++ i :: r)) ∧ get (ch i) r ≠ [] ∧
      plt key (i :: r) = true ∧ ∀ k, get (ch i) k ≠ [] → plt key (i :: k) = true → plt k r = false := by
  cases hb : isBlank (ch i) with
  | true => exact .inl ⟨by simp [kaStep, hb], fun k hk => absurd (get_blank_of_isBlank hb k) hk⟩
  | false =>
    -- when all of child `i` lies above `key`, the step returns the least key of the child
    obtain ⟨r, en, g, m⟩ := nextKey_some (ch i) (hc i) hb (tr ++ [i])
    cases key with
    | nil => exact .inr ⟨r, by simp [kaStep, hb, en], g, rfl, fun k hk _ => m k hk⟩
    | cons a rest =>
      rcases Nat.lt_trichotomy i.val a.val with h | h | h
      · exact .inl ⟨by simp [kaStep, plt, Fin.lt_def, h], fun k _ => (plt_cons_false ..).2 (Or.inl h)⟩
      · obtain rfl := Fin.ext h
        have e : kaStep ch (i :: rest) tr i = (keyAfter (ch i) rest (tr ++ [i])).map some := by
          simp only [kaStep, hb, List.take_succ_cons, List.take_zero, plt_irrefl, Bool.false_eq_true,
            ↓reduceIte]
          cases keyAfter (ch i) rest (tr ++ [i]) <;> rfl
        obtain ⟨i1, i2⟩ := ih i rest (tr ++ [i])
        cases hka : keyAfter (ch i) rest (tr ++ [i]) with
        | none => exact .inl ⟨by rw [e, hka]; rfl, fun k hk => by rw [plt_cons_same]; exact i2 hka k hk⟩
        | some res =>
          obtain ⟨r', rfl, g', l', m'⟩ := i1 res hka
          exact .inr ⟨r', by simp [e, hka], g', by simpa using l', fun k hk hkl => m' k hk (by simpa using hkl)⟩
      · exact .inr ⟨r, by simp [kaStep, hb, en, plt, Fin.lt_def, Nat.lt_asymm h, h, Fin.ne_of_lt h], g,
          (plt_cons ..).2 (Or.inl h), fun k hk _ => m k hk⟩

theorem keyAfter_branch_spec (ch : Nib → Node) (v : Bytes) (hc : Canon (branch ch v))
    (ih : ∀ i key tr, KASpec (ch i) key tr) (key tr : Path) : KASpec (branch ch v) key tr := by
  have step := kaStep_spec ch hc.1 ih key tr
  unfold KASpec
  rw [keyAfter_branch]
  cases hr : (List.finRange 16).findSome? (kaStep ch key tr) with
  | none =>
    refine ⟨fun _ h => (nomatch h), fun _ k hk => ?_⟩
    cases k with
    | nil => exact plt_nil_right key
    | cons b k' =>
      rcases step b with ⟨_, h⟩ | ⟨_, e, _⟩
      · exact h k' hk
      · rw [findSome_finRange_none hr b] at e; cases e
  | some x =>
    obtain ⟨i, hi, hlt⟩ := findSome_finRange_some hr
    rcases step i with ⟨e, _⟩ | ⟨r, e, g, l, m⟩ <;> rw [e] at hi <;> cases hi
    refine ⟨fun res hres => ?_, fun h => nomatch h⟩
    cases hres
    refine ⟨i :: r, rfl, g, l, fun k hk hkl => ?_⟩
    cases k with
    | nil => simp at hkl
    | cons b k' =>
      rw [plt_cons_false]
      rcases Nat.lt_trichotomy b.val i.val with h | h | h
      · rcases step b with ⟨_, hno⟩ | ⟨_, e, _⟩
        · rw [hno k' hk] at hkl; cases hkl
        · rw [hlt b h] at e; cases e
      · obtain rfl := Fin.ext h
        exact Or.inr ⟨rfl, m k' hk hkl⟩
      · exact Or.inl h

/-- `_get_key_after`: a returned key is stored, strictly greater than `key`, and no stored key lies
    strictly between; `none` means no stored key is greater than `key` -/
theorem keyAfter_spec (t : Node) (hc : Canon t) (key tr : Path) :
    (∀ res, keyAfter t key tr = some res → ∃ r, res = tr ++ r ∧ get t r ≠ [] ∧ plt key r = true ∧
        ∀ k, get t k ≠ [] → plt key k = true → plt k r = false) ∧
    (keyAfter t key tr = none → ∀ k, get t k ≠ [] → plt key k = false) := by
  show KASpec t key tr
  induction t generalizing key tr with
  | blank => exact ⟨fun _ h => (nomatch h), fun _ k hk => absurd rfl hk⟩
  | leaf p v => exact keyAfter_leaf_spec p v hc key tr
  | ext p c ih => exact keyAfter_ext_spec p c hc (fun key tr => ih hc.2.2 key tr) key tr
  | branch ch v ih => exact keyAfter_branch_spec ch v hc (fun i key tr => ih i (hc.1 i) key tr) key tr

theorem mem_ite_nil {α} {c : Prop} [Decidable c] {l : List α} {x : α} :
    x ∈ (if c then [] else l) ↔ ¬ c ∧ x ∈ l := by
  split <;> simp [*]

theorem preorder_mem (t : Node) (hc : Canon t) (pre : Path) (e : Path × Node)
    (h : e ∈ preorder t pre) : ∃ q, e.1 = pre ++ q ∧ nodeAt t q = some e.2 := by
  induction t generalizing pre with
  | blank | leaf =>
    simp only [preorder, List.mem_singleton] at h
    subst h; exact ⟨[], by simp, rfl⟩
  | ext p c ih =>
    simp only [preorder, List.mem_cons] at h
    rcases h with rfl | h
    · exact ⟨[], by simp, rfl⟩
    · obtain ⟨q, h1, h2⟩ := ih hc.2.2 _ h
      exact ⟨p ++ q, by simp [h1], nodeAt_ext_append p c q _ h2 hc.1⟩
  | branch ch v ih =>
    simp only [preorder, List.mem_cons, List.mem_flatMap, mem_ite_nil] at h
    rcases h with rfl | ⟨i, _, _, h⟩
    · exact ⟨[], by simp, rfl⟩
    · obtain ⟨q, h1, h2⟩ := ih i (hc.1 i) _ h
      exact ⟨i :: q, by simp [h1], by simpa [nodeAt] using h2⟩

/-- every pair yielded by `nodes()` is the subtree at its prefix, which is what `traverse(prefix)` returns -/
theorem preorder_nodeAt (t : Node) (hc : Canon t) (p : Path) (n : Node) (h : (p, n) ∈ preorder t []) :
    nodeAt t p = some n ∧ traverseT t p = (n, []) := by
  obtain ⟨q, h1, h2⟩ := preorder_mem t hc [] (p, n) h
  simp only [List.nil_append] at h1
  subst h1
  refine ⟨h2, ?_⟩
  have := traverseT_nodeAt t p n h2 []
  rw [traverseT_nil, List.append_nil] at this
  exact this.symm

/-- order of the "keys" `κ` attached to the entries of `preorder`, for any `κ` that extends the
    entry's prefix and is the prefix itself on inner nodes -/
theorem preorder_pairwise (κ : Path × Node → Option Path)
    (hκ : ∀ e b, κ e = some b → ∃ s, b = e.1 ++ s)
    (hext : ∀ pre p c b, κ (pre, ext p c) = some b → b = pre)
    (hbr : ∀ pre ch v b, κ (pre, branch ch v) = some b → b = pre)
    (t : Node) (hc : Canon t) (pre : Path) :
    (preorder t pre).Pairwise
      (fun e e' => ∀ b, κ e = some b → ∀ b', κ e' = some b' → plt b b' = true) := by
  induction t generalizing pre with
  | blank => simp [preorder]
  | leaf p v => simp [preorder]
  | ext p c ih =>
    simp only [preorder, List.pairwise_cons]
    refine ⟨?_, ih hc.2.2 _⟩
    intro e' he' b hb b' hb'
    obtain ⟨q, h1, _⟩ := preorder_mem c hc.2.2 _ e' he'
    obtain ⟨s, h2⟩ := hκ e' b' hb'
    rw [hext _ _ _ _ hb, h2, h1, List.append_assoc, List.append_assoc]
    exact plt_append_right_self pre _ (by simp [hc.1])
  | branch ch v ih =>
    simp only [preorder, List.pairwise_cons, List.mem_flatMap, mem_ite_nil]
    refine ⟨?_, ?_⟩
    · rintro e' ⟨i, _, _, he'⟩ b hb b' hb'
      obtain ⟨q, h1, _⟩ := preorder_mem (ch i) (hc.1 i) _ e' he'
      obtain ⟨s, h2⟩ := hκ e' b' hb'
      rw [hbr _ _ _ _ hb, h2, h1, List.append_assoc, List.append_assoc]
      exact plt_append_right_self pre _ (by simp)
    · rw [List.pairwise_flatMap]
      refine ⟨?_, ?_⟩
      · intro i _
        split
        · exact List.Pairwise.nil
        · exact ih i (hc.1 i) _
      · refine (List.pairwise_lt_finRange 16).imp ?_
        intro i j hij x hx y hy b hb b' hb'
        obtain ⟨q1, h1, _⟩ := preorder_mem (ch i) (hc.1 i) _ x (mem_ite_nil.1 hx).2
        obtain ⟨s1, g1⟩ := hκ x b hb
        obtain ⟨q2, h2, _⟩ := preorder_mem (ch j) (hc.1 j) _ y (mem_ite_nil.1 hy).2
        obtain ⟨s2, g2⟩ := hκ y b' hb'
        rw [g1, g2, h1, h2]
        simp only [List.append_assoc, plt_append_left, List.cons_append, List.nil_append]
        exact (plt_cons _ _ _ _).2 (Or.inl hij)

/-- `nodes()` is in pre-order, left to right: prefixes strictly increase in tuple order (so every
    node is yielded once, parents — being proper prefixes — before their children) -/
theorem preorder_sorted (t : Node) (hc : Canon t) :
    ((preorder t []).map (·.1)).Pairwise (fun a b => plt a b = true) := by
  rw [List.pairwise_map]
  refine (preorder_pairwise (fun e => some e.1) ?_ ?_ ?_ t hc []).imp ?_
  · intro e b h; exact ⟨[], by simpa using h.symm⟩
  · intro pre p c b h; simpa using h.symm
  · intro pre ch v b h; simpa using h.symm
  · intro a b h; exact h _ rfl _ rfl

/-- `nodes()` yields every non-blank node of the trie -/
theorem preorder_complete (t : Node) (pre p : Path) (n : Node)
    (h : nodeAt t p = some n) (hb : isBlank n = false) : (pre ++ p, n) ∈ preorder t pre := by
  refine nodeAt_induct (motive := fun t p => ∀ pre, (pre ++ p, n) ∈ preorder t pre) ?_ ?_ ?_ t p h pre
  · intro pre; cases n <;> simp [preorder]
  · intro q c r _ _ ih pre
    simpa [preorder, List.append_assoc] using Or.inr (ih (pre ++ q))
  · intro ch v a r h ih pre
    have hnb : isBlank (ch a) = false := by
      cases hba : isBlank (ch a) with
      | false => rfl
      | true =>
        rw [(isBlank_iff _).1 hba] at h
        cases r <;> cases h
        exact hb
    simp only [preorder, List.mem_cons, List.mem_flatMap]
    exact Or.inr ⟨a, List.mem_finRange a, by simpa [hnb, List.append_assoc] using ih (pre ++ [a])⟩

/-- the item, if any, contributed by one entry of `nodes()` -/
def itemKey (e : Path × Node) : Option (Path × Bytes) :=
  let a := annotate e.2
  if a.value ≠ [] then some (e.1 ++ a.suffix, a.value) else none

theorem itemsOf_eq (t : Node) : itemsOf t = (preorder t []).filterMap itemKey := rfl

/-- contents of a subtree with absolute keys, by structural recursion -/
def ent : Node → Path → List (Path × Bytes)
  | blank, _ => []
  | leaf p v, pre => if v ≠ [] then [(pre ++ p, v)] else []
  | ext p c, pre => ent c (pre ++ p)
  | branch ch v, pre =>
    (if v ≠ [] then [(pre, v)] else []) ++ (List.finRange 16).flatMap fun x => ent (ch x) (pre ++ [x])

theorem ent_of_isBlank {t : Node} (h : isBlank t = true) (pre : Path) : ent t pre = [] := by
  cases t <;> simp_all [isBlank, ent]

theorem preorder_filterMap_itemKey (t : Node) (pre : Path) :
    (preorder t pre).filterMap itemKey = ent t pre := by
  induction t generalizing pre with
  | blank => simp [preorder, itemKey, annotate, ent]
  | leaf p v =>
    by_cases hv : v = [] <;> simp [preorder, itemKey, annotate, ent, hv]
  | ext p c ih =>
    simp only [preorder, List.filterMap_cons, ent]
    have : itemKey (pre, ext p c) = none := by simp [itemKey, annotate]
    rw [this]
    exact ih _
  | branch ch v ih =>
    simp only [preorder, List.filterMap_cons, ent, List.filterMap_flatMap]
    have hfl : ((List.finRange 16).flatMap fun a =>
          (if isBlank (ch a) then [] else preorder (ch a) (pre ++ [a])).filterMap itemKey) =
        (List.finRange 16).flatMap fun x => ent (ch x) (pre ++ [x]) := by
      congr 1
      funext a
      cases hb : isBlank (ch a) with
      | true => simp [ent_of_isBlank hb]
      | false => simp [ih a]
    rw [hfl]
    by_cases hv : v = [] <;> simp [itemKey, annotate, hv]

theorem itemsOf_eq_ent (t : Node) : itemsOf t = ent t [] := by
  rw [itemsOf_eq, preorder_filterMap_itemKey]

theorem mem_ent_iff (t : Node) (pre : Path) (e : Path × Bytes) :
    e ∈ ent t pre ↔ ∃ k, e = (pre ++ k, get t k) ∧ get t k ≠ [] := by
  induction t generalizing pre with
  | blank => simp [ent, get]
  | leaf p v =>
    constructor
    · intro h
      by_cases hv : v = []
      · simp [ent, hv] at h
      · exact ⟨p, by simpa [ent, hv, get] using h, by simpa [get] using hv⟩
    · rintro ⟨k, rfl, hk⟩
      obtain rfl := leaf_key_eq p v k hk
      simpa [ent, get] using hk
  | ext p c ih =>
    simp only [ent, ih]
    constructor
    · rintro ⟨k, rfl, hk⟩
      exact ⟨p ++ k, by simp [get], by simpa [get] using hk⟩
    · rintro ⟨k, rfl, hk⟩
      obtain ⟨k', rfl, hk'⟩ := ext_key p c k hk
      exact ⟨k', by simp [get], hk'⟩
  | branch ch v ih =>
    simp only [ent, List.mem_append, List.mem_flatMap, ih]
    constructor
    · rintro (h | ⟨x, _, k, rfl, hk⟩)
      · by_cases hv : v = []
        · simp [hv] at h
        · exact ⟨[], by simpa [hv, get] using h, hv⟩
      · exact ⟨x :: k, by simp [get], hk⟩
    · rintro ⟨k, rfl, hk⟩
      cases k with
      | nil => exact Or.inl (by simpa [get] using hk)
      | cons x k => exact Or.inr ⟨x, List.mem_finRange x, k, by simp [get], hk⟩

/-- `items()` yields exactly the stored pairs -/
theorem itemsOf_mem (t : Node) (_hc : Canon t) (k : Path) (v : Bytes) :
    (k, v) ∈ itemsOf t ↔ v ≠ [] ∧ get t k = v := by
  rw [itemsOf_eq_ent, mem_ent_iff]
  constructor
  · rintro ⟨k', h, hk⟩
    cases h
    exact ⟨hk, rfl⟩
  · rintro ⟨hv, rfl⟩
    exact ⟨k, rfl, hv⟩

theorem itemKey_fst (e : Path × Node) (b : Path × Bytes) (h : itemKey e = some b) :
    ∃ s, b.1 = e.1 ++ s := by
  simp only [itemKey] at h
  split at h
  · simp only [Option.some.injEq] at h
    subst h; exact ⟨_, rfl⟩
  · simp at h

/-- … in strictly ascending key order (hence each once) -/
theorem itemsOf_sorted (t : Node) (hc : Canon t) :
    ((itemsOf t).map (·.1)).Pairwise (fun a b => plt a b = true) := by
  rw [itemsOf_eq, List.map_filterMap, List.pairwise_filterMap]
  refine preorder_pairwise (fun e => (itemKey e).map (·.1)) ?_ ?_ ?_ t hc []
  · intro e b h
    simp only [Option.map_eq_some_iff] at h
    obtain ⟨b0, h0, rfl⟩ := h
    exact itemKey_fst e b0 h0
  · intro pre p c b h
    simp [itemKey, annotate] at h
  · intro pre ch v b h
    simp only [itemKey, annotate, Option.map_eq_some_iff] at h
    obtain ⟨b0, h0, rfl⟩ := h
    by_cases hv : v = []
    · simp [hv] at h0
    · simp only [ne_eq, hv, not_false_eq_true, ↓reduceIte, Option.some.injEq] at h0
      subst h0; simp

end PyTrie.Hex
