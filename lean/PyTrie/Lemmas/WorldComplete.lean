import PyTrie.Lemmas.WorldMono
import PyTrie.Lemmas.MissingProofs
/-! Completeness invariant of a non-pruning trie over a plain dict (C04, C01 at database level):
    after every successful `set` / `delete` every hashed node of the new tree (and the root) is stored
    under its hash with its encoding, the operation never raises on a complete database, and the new
    tree is the tree-level `set` / `delete` of the old one. No assumption on the hashing; collisions are
    excluded by the run-level predicate `NoClobber` (every key written keeps one body). -/
namespace PyTrie.HexW
open PyTrie.Hex hiding get set
open PyTrie.Hex.Node

variable (Hs : Hashing) (blankRootHash : Hash)

/-- every hashed proper subtree is stored under its hash with its encoding -/
def StoredBelow (d : Dict Bytes) : Node → Prop
  | blank => True
  | leaf _ _ => True
  | ext _ c => (Hs.hashed c = true → Dict.get? d (Hs.hashOf c) = some (Hs.encOf c)) ∧ StoredBelow d c
  | branch ch _ => ∀ i, (Hs.hashed (ch i) = true → Dict.get? d (Hs.hashOf (ch i)) = some (Hs.encOf (ch i))) ∧
      StoredBelow d (ch i)

/-- the trie's root pointer is the hash of its tree, the root node is stored, and so is everything below -/
def Complete (d : Dict Bytes) (T : TrieSt) : Prop :=
  (if isBlank T.tree then T.root = blankRootHash
   else T.root = Hs.hashOf T.tree ∧ T.root ≠ blankRootHash ∧ Dict.get? d T.root = some (Hs.encOf T.tree)) ∧
  StoredBelow Hs d T.tree

/-- run-level no-collision predicate for one operation: no key written by the operation is bound
    (before, or by another write of the same operation) to a different body -/
def NoClobber (d : Dict Bytes) (ws : List (Hash × Bytes)) : Prop :=
  (∀ h b b', (h, b) ∈ ws → Dict.get? d h = some b' → b' = b) ∧
  (∀ h b b', (h, b) ∈ ws → (h, b') ∈ ws → b = b')

def Ref (d : Dict Bytes) (n : Node) : Prop :=
  (Hs.hashed n = true → Dict.get? d (Hs.hashOf n) = some (Hs.encOf n)) ∧ StoredBelow Hs d n

theorem storedBelow_ext (d : Dict Bytes) (p : Path) (c : Node) :
    StoredBelow Hs d (ext p c) ↔ Ref Hs d c := Iff.rfl

theorem storedBelow_branch (d : Dict Bytes) (ch : Nib → Node) (v : Bytes) :
    StoredBelow Hs d (branch ch v) ↔ ∀ i, Ref Hs d (ch i) := Iff.rfl

theorem Ref.below {d : Dict Bytes} {n : Node} (h : Ref Hs d n) : StoredBelow Hs d n := h.2

theorem ref_blank (d : Dict Bytes) : Ref Hs d blank :=
  ⟨fun h => by simp [Hs.hashed_blank] at h, trivial⟩

theorem ref_of_isBlank (d : Dict Bytes) {n : Node} (hb : isBlank n = true) : Ref Hs d n :=
  (isBlank_iff n).1 hb ▸ ref_blank Hs d

theorem ref_upd {d : Dict Bytes} {ch : Nib → Node} {x : Node} (n : Nib)
    (hch : ∀ i, Ref Hs d (ch i)) (hx : Ref Hs d x) : ∀ i, Ref Hs d (upd ch n x i) := by
  intro i; unfold upd; split
  · exact hx
  · exact hch i

def Wr (d : Dict Bytes) (evs : List Ev) : Prop := ∀ h b, (h, b) ∈ writesOf evs → Dict.get? d h = some b

theorem Wr_nil (d : Dict Bytes) : Wr d [] := by intro h b hm; cases hm

theorem Wr_append {d : Dict Bytes} {a b : List Ev} : Wr d (a ++ b) ↔ Wr d a ∧ Wr d b := by
  simp only [Wr, writesOf_append, List.mem_append, or_imp, forall_and]

theorem Wr_pruneEv (d : Dict Bytes) (n : Node) : Wr d (pruneEv Hs n) := by
  unfold pruneEv; split <;> simp [Wr, writesOf]

theorem Wr_readEv (d : Dict Bytes) (n : Node) : Wr d (readEv Hs n) := by
  unfold readEv; split <;> simp [Wr, writesOf]

theorem Wr_persistEv {d : Dict Bytes} {n : Node} :
    Wr d (persistEv Hs n) ↔ (Hs.hashed n = true → Dict.get? d (Hs.hashOf n) = some (Hs.encOf n)) := by
  unfold persistEv; split <;> simp [Wr, writesOf, *]

def ReadsIn (d : Dict Bytes) (evs : List Ev) : Prop := ∀ h, Ev.read h ∈ evs → Dict.contains d h = true

theorem contains_of_get? {d : Dict Bytes} {h : Hash} {b : Bytes} (hg : Dict.get? d h = some b) :
    Dict.contains d h = true := by
  rw [Dict.contains_eq_isSome, hg]; rfl

theorem ReadsIn_nil (d : Dict Bytes) : ReadsIn d [] := by intro h hm; cases hm

theorem ReadsIn_append {d : Dict Bytes} {a b : List Ev} : ReadsIn d (a ++ b) ↔ ReadsIn d a ∧ ReadsIn d b := by
  simp only [ReadsIn, List.mem_append, or_imp, forall_and]

theorem ReadsIn_pruneEv (d : Dict Bytes) (n : Node) : ReadsIn d (pruneEv Hs n) := by
  unfold pruneEv; split <;> simp [ReadsIn]

theorem ReadsIn_persistEv (d : Dict Bytes) (n : Node) : ReadsIn d (persistEv Hs n) := by
  unfold persistEv; split <;> simp [ReadsIn]

theorem ReadsIn_ite (d : Dict Bytes) (c : Prop) [Decidable c] (x : List Ev) (hx : ReadsIn d x) :
    ReadsIn d (if c then [] else x) := by
  split
  · exact ReadsIn_nil d
  · exact hx

theorem ReadsIn_readEv {d : Dict Bytes} {n : Node} (hn : Ref Hs d n) : ReadsIn d (readEv Hs n) := by
  unfold readEv
  split
  · next hh =>
    intro h hm
    cases List.mem_singleton.1 hm
    exact contains_of_get? (hn.1 hh)
  · exact ReadsIn_nil d

/-! ### tree level

The only fetches of `setE` / `deleteE` are of children of nodes on the path, and below a node whose subtrees are stored
every child is a stored reference. -/

section
attribute [local simp] ReadsIn_nil ReadsIn_append ReadsIn_pruneEv ReadsIn_persistEv ReadsIn_ite ReadsIn_readEv Ref.below

theorem setE_reads (d : Dict Bytes) (t : Node) (k : Path) (v : Bytes) (h : StoredBelow Hs d t) :
    ReadsIn d (setE Hs t k v).2 := by
  fun_induction setE Hs t k v <;> simp -failIfUnchanged only [storedBelow_ext, storedBelow_branch] at h <;>
    simp +zetaDelta [*]

theorem normalizeE_reads (d : Dict Bytes) (ch : Nib → Node) (v : Bytes) (h : ∀ i, Ref Hs d (ch i)) :
    ReadsIn d (normalizeE Hs ch v).2 := by
  fun_cases normalizeE Hs ch v <;> simp [h]

theorem deleteE_reads (d : Dict Bytes) (t : Node) (k : Path) (h : StoredBelow Hs d t) :
    ReadsIn d (deleteE Hs t k).2 := by
  fun_induction deleteE Hs t k <;> simp -failIfUnchanged only [storedBelow_ext, storedBelow_branch] at h <;>
    simp +zetaDelta [*, normalizeE_reads]
  -- the case left: a branch whose child became blank is normalised
  exact normalizeE_reads Hs d _ _ (ref_upd Hs _ h (ref_of_isBlank Hs d ‹isBlank _ = true›))
end

/-! ### the new tree, for an arbitrary predicate on nodes

`AllBelow Hs P t`: every hashed proper subtree of `t` satisfies `P` (`StoredBelow`, `PartialD` are instances). Every hashed
proper subtree of the new tree of `set` / `delete` is a hashed proper subtree of the old tree or a node persisted by the
operation. -/

section
variable {P : Node → Prop}

/-- every hashed proper subtree satisfies `P` -/
def AllBelow (P : Node → Prop) : Node → Prop
  | blank => True
  | leaf _ _ => True
  | ext _ c => (Hs.hashed c = true → P c) ∧ AllBelow P c
  | branch ch _ => ∀ i, (Hs.hashed (ch i) = true → P (ch i)) ∧ AllBelow P (ch i)

/-- a child reference is fine: `P` when hashed, and everything below it -/
def RefP (P : Node → Prop) (n : Node) : Prop := (Hs.hashed n = true → P n) ∧ AllBelow Hs P n

/-- every hashed node whose (hash, encoding) is one of the writes of the event list satisfies `P` -/
def WrP (P : Node → Prop) (evs : List Ev) : Prop :=
  ∀ h b, (h, b) ∈ writesOf evs → ∀ n, Hs.hashed n = true → Hs.hashOf n = h → Hs.encOf n = b → P n

theorem allBelow_mono2 {P R Q : Node → Prop} (hq : ∀ n, Hs.hashed n = true → P n → R n → Q n) (t : Node)
    (hp : AllBelow Hs P t) (hr : AllBelow Hs R t) : AllBelow Hs Q t := by
  induction t with
  | blank => trivial
  | leaf p v => trivial
  | ext p c ih => exact ⟨fun hh => hq c hh (hp.1 hh) (hr.1 hh), ih hp.2 hr.2⟩
  | branch ch v ih => intro i; exact ⟨fun hh => hq _ hh ((hp i).1 hh) ((hr i).1 hh), ih i (hp i).2 (hr i).2⟩

theorem allBelow_mono {P Q : Node → Prop} (hq : ∀ n, Hs.hashed n = true → P n → Q n) (t : Node)
    (hp : AllBelow Hs P t) : AllBelow Hs Q t :=
  allBelow_mono2 Hs (fun n hh h _ => hq n hh h) t hp hp

theorem refP_blank : RefP Hs P blank :=
  ⟨fun h => by simp [Hs.hashed_blank] at h, trivial⟩

theorem refP_emptyCh (i : Nib) : RefP Hs P (emptyCh i) := refP_blank Hs

theorem refP_upd {ch : Nib → Node} {x : Node} (n : Nib)
    (hch : ∀ i, RefP Hs P (ch i)) (hx : RefP Hs P x) : ∀ i, RefP Hs P (upd ch n x i) := by
  intro i; unfold upd; split
  · exact hx
  · exact hch i

theorem WrP_append {a b : List Ev} : WrP Hs P (a ++ b) ↔ WrP Hs P a ∧ WrP Hs P b := by
  simp only [WrP, writesOf_append, List.mem_append, or_imp, forall_and]

theorem WrP_persistEv {n : Node} (hw : WrP Hs P (persistEv Hs n)) (hh : Hs.hashed n = true) : P n := by
  unfold persistEv at hw
  simp only [hh, if_true] at hw
  exact hw _ _ (by simp [writesOf]) n hh rfl rfl

theorem refP_of {n : Node} (hs : AllBelow Hs P n) (hw : WrP Hs P (persistEv Hs n)) : RefP Hs P n :=
  ⟨WrP_persistEv Hs hw, hs⟩

theorem allBelow_wrap (cm : Path) (br : Node) (hs : AllBelow Hs P br)
    (hw : WrP Hs P (if cm = [] then [] else persistEv Hs br)) : AllBelow Hs P (wrap cm br) := by
  unfold wrap
  split
  · exact hs
  · next hc => rw [if_neg hc] at hw; exact refP_of Hs hs hw

theorem refP_wrap (pt : Path) (c : Node) (hc : RefP Hs P c)
    (hw : WrP Hs P (if pt = [] then [] else persistEv Hs (wrap pt c))) : RefP Hs P (wrap pt c) := by
  by_cases hp : pt = []
  · rw [hp]; exact hc
  · rw [if_neg hp] at hw
    refine refP_of Hs ?_ hw
    rw [wrap, if_neg hp]
    exact hc

theorem setE_allBelow (t : Node) (k : Path) (v : Bytes) (h : AllBelow Hs P t)
    (hw : WrP Hs P (setE Hs t k v).2) : AllBelow Hs P (setE Hs t k v).1 := by
  fun_induction setE Hs t k v <;> simp -failIfUnchanged only [WrP_append] at hw
  case case1 | case2 => trivial  -- blank; leaf with this key
  case case3 | case4 =>  -- leaf, one remainder empty: a branch with one child
    exact allBelow_wrap Hs _ _ (refP_upd Hs _ (refP_emptyCh Hs) (refP_of Hs trivial hw.1.2)) hw.2
  case case5 =>  -- leaf, both remainders non-empty: a branch with two children
    exact allBelow_wrap Hs _ _ (refP_upd Hs _ (refP_upd Hs _ (refP_emptyCh Hs) (refP_of Hs trivial hw.1.1.2))
      (refP_of Hs trivial hw.1.2)) hw.2
  case case6 ih => exact refP_of Hs (ih h.2 hw.1.2) hw.2  -- extension matched: descend
  case case7 =>  -- extension split, key exhausted
    exact allBelow_wrap Hs _ _ (refP_upd Hs _ (refP_emptyCh Hs) (refP_wrap Hs _ _ h hw.1.2)) hw.2
  case case8 =>  -- extension split, both remainders non-empty
    exact allBelow_wrap Hs _ _ (refP_upd Hs _ (refP_upd Hs _ (refP_emptyCh Hs) (refP_wrap Hs _ _ h hw.1.1.2))
      (refP_of Hs trivial hw.1.2)) hw.2
  case case9 => exact h  -- branch, key exhausted
  case case10 ih => exact refP_upd Hs _ h (refP_of Hs (ih (h _).2 hw.1.2) hw.2)  -- branch: descend

theorem normalizeE_allBelow (ch : Nib → Node) (v : Bytes) (h : ∀ i, RefP Hs P (ch i)) :
    AllBelow Hs P (normalizeE Hs ch v).1 := by
  fun_cases normalizeE Hs ch v
  case case1 | case2 | case3 => trivial  -- nothing left; only the value; the one child is a leaf
  case case4 i _ _ _ e => exact (e ▸ h i).2  -- the one child is an extension: merged
  case case5 i _ _ _ => exact h i  -- the one child is a branch: an extension above it
  case case6 => exact h  -- still a branch

theorem deleteE_allBelow (t : Node) (k : Path) (h : AllBelow Hs P t)
    (hw : WrP Hs P (deleteE Hs t k).2) : AllBelow Hs P (deleteE Hs t k).1 := by
  fun_induction deleteE Hs t k <;> simp -failIfUnchanged +zetaDelta only [WrP_append] at hw
  case case1 | case4 | case5 => trivial  -- blank; extension whose child became blank / a leaf
  case case2 => split <;> trivial  -- leaf
  case case3 | case8 | case10 => exact h  -- the node is returned as it was
  case case6 e ih => exact e ▸ ih h.2 hw.1.1.2  -- extension whose child became an extension: merged
  case case7 e ih => exact refP_of Hs (e ▸ ih h.2 hw.1.2) (e ▸ hw.2)  -- … became a branch
  case case9 => exact normalizeE_allBelow Hs _ [] h  -- branch, key exhausted
  case case11 =>  -- branch whose child became blank
    exact normalizeE_allBelow Hs _ _ (refP_upd Hs _ h ((isBlank_iff _).1 ‹isBlank _ = true› ▸ refP_blank Hs))
  case case12 ih => exact refP_upd Hs _ h (refP_of Hs (ih (h _).2 hw.1.2) hw.2)  -- branch whose child changed

theorem opTree_allBelow (T : TrieSt) (key : Bytes) (val : Option Bytes)
    (h : AllBelow Hs P T.tree) (hw : WrP Hs P (opTree Hs T key val).2) :
    AllBelow Hs P (opTree Hs T key val).1 :=
  opTree_cases (P := fun r => WrP Hs P r.2 → AllBelow Hs P r.1) Hs T key val
    (deleteE_allBelow Hs _ _ h) (fun v => setE_allBelow Hs _ _ v h) hw

end

theorem storedBelow_iff_allBelow (d : Dict Bytes) (t : Node) :
    StoredBelow Hs d t ↔ AllBelow Hs (fun n => Dict.get? d (Hs.hashOf n) = some (Hs.encOf n)) t := by
  induction t with
  | blank => exact Iff.rfl
  | leaf p v => exact Iff.rfl
  | ext p c ih => exact and_congr Iff.rfl ih
  | branch ch v ih => exact forall_congr' fun i => and_congr Iff.rfl (ih i)

def applyWrites (d : Dict Bytes) (ws : List (Hash × Bytes)) : Dict Bytes :=
  ws.foldl (fun d e => Dict.insert d e.1 e.2) d

theorem applyWrites_nil (d : Dict Bytes) : applyWrites d [] = d := rfl
theorem applyWrites_cons (d : Dict Bytes) (e : Hash × Bytes) (ws : List (Hash × Bytes)) :
    applyWrites d (e :: ws) = applyWrites (Dict.insert d e.1 e.2) ws := rfl
theorem applyWrites_append (d : Dict Bytes) (a b : List (Hash × Bytes)) :
    applyWrites d (a ++ b) = applyWrites (applyWrites d a) b := by
  simp [applyWrites, List.foldl_append]

theorem Preserved.refl (d : Dict Bytes) : Preserved d d := fun _ _ h => h
theorem Preserved.trans {a b c : Dict Bytes} (h1 : Preserved a b) (h2 : Preserved b c) : Preserved a c :=
  fun h x hx => h2 h x (h1 h x hx)

theorem applyWrites_stable (ws : List (Hash × Bytes)) (d : Dict Bytes) {h : Hash} {b : Bytes}
    (hg : Dict.get? d h = some b) (hws : ∀ b', (h, b') ∈ ws → b' = b) :
    Dict.get? (applyWrites d ws) h = some b := by
  induction ws generalizing d with
  | nil => exact hg
  | cons e ws ih =>
    refine ih _ ?_ fun b' hm => hws b' (List.mem_cons_of_mem _ hm)
    by_cases he : h = e.1
    · rw [he, get?_insert_self, hws e.2 (he ▸ List.mem_cons_self)]
    · rw [get?_insert_other _ _ _ _ he]; exact hg

theorem applyWrites_noClobber (ws : List (Hash × Bytes)) (d : Dict Bytes) (hnc : NoClobber d ws) :
    Preserved d (applyWrites d ws) ∧ ∀ h b, (h, b) ∈ ws → Dict.get? (applyWrites d ws) h = some b := by
  refine ⟨fun h b hg => applyWrites_stable ws d hg fun b' hm => (hnc.1 h b' b hm hg).symm, fun h b hm => ?_⟩
  obtain ⟨pre, post, rfl⟩ := List.append_of_mem hm
  rw [applyWrites_append, applyWrites_cons]
  exact applyWrites_stable post _ (get?_insert_self _ h b) fun b' hm' =>
    hnc.2 h b' b (List.mem_append_right _ (List.mem_cons_of_mem _ hm')) hm

theorem Store.write_plain_ok (s : Store) (hc : s.cache = none) (hf : s.failAfter = none) (h : Hash) (b : Bytes) :
    s.write h b = some { base := Dict.insert s.base h b, cache := none, failAfter := none } := by
  unfold Store.write; rw [hc, hf]

theorem runEvs_ok (root key : Bytes) (es : List Ev) (s : OpSt) (hc : s.store.cache = none)
    (hf : s.store.failAfter = none) (hr : ReadsIn s.store.base es) :
    ∃ s', runEvs false root key s es = (s', none) ∧ s'.store.cache = none ∧ s'.store.failAfter = none ∧
      s'.store.base = applyWrites s.store.base (writesOf es) := by
  induction es generalizing s with
  | nil => exact ⟨s, rfl, hc, hf, rfl⟩
  | cons e es ih =>
    have hr' : ReadsIn s.store.base es := fun h hm => hr h (List.mem_cons_of_mem _ hm)
    cases e with
    | read x =>
      have hx : s.store.contains x = true := by
        unfold Store.contains; rw [hc]; exact hr x List.mem_cons_self
      simp only [runEvs, runEv, hx, if_true, writesOf]
      exact ih s hc hf hr'
    | prune x => exact ih s hc hf hr'
    | persist x b =>
      simp only [runEvs, runEv, setDbValue, Store.write_plain_ok s.store hc hf, writesOf, applyWrites_cons]
      exact ih _ rfl rfl fun h hm => (Dict.contains_insert _ _ _ _).2 (.inl (hr' h hm))

theorem writeRoot_ok (T : TrieSt) (hp : T.prune = false) (new : Node) (s : OpSt) (hc : s.store.cache = none)
    (hf : s.store.failAfter = none) :
    ∃ s', writeRoot Hs blankRootHash T new s =
        .ok (s', if isBlank new then blankRootHash else Hs.hashOf new) ∧
      s'.store.base = applyWrites s.store.base (if isBlank new then [] else [(Hs.hashOf new, Hs.encOf new)]) := by
  unfold writeRoot
  split
  · exact ⟨s, rfl, rfl⟩
  · simp only [setDbValue, Store.write_plain_ok s.store hc hf, hp]
    exact ⟨_, rfl, rfl⟩

theorem opCore_ok (T : TrieSt) (hp : T.prune = false) (key : Bytes) (val : Option Bytes) (s : OpSt)
    (hc : s.store.cache = none) (hf : s.store.failAfter = none)
    (hroot : (T.root != blankRootHash && !(s.store.contains T.root)) = false)
    (hr : ReadsIn s.store.base (opTree Hs T key val).2) :
    ∃ s4, opCore Hs blankRootHash T key val s =
        (s4, .ok { T with tree := (opTree Hs T key val).1,
                          root := if isBlank (opTree Hs T key val).1 then blankRootHash
                                  else Hs.hashOf (opTree Hs T key val).1 }) ∧
      s4.store.base = applyWrites s.store.base (opWrites Hs T key val) := by
  obtain ⟨s1, h1, hc1, hf1, hb1⟩ := runEvs_ok T.root key (opTree Hs T key val).2 s hc hf hr
  obtain ⟨s3, h3, hb3⟩ := writeRoot_ok Hs blankRootHash T hp (opTree Hs T key val).1 s1 hc1 hf1
  refine ⟨s3, ?_, by rw [hb3, hb1, opWrites, applyWrites_append]⟩
  simp only [opCore, hroot, hp, h1, schedOldRoot_noprune Hs blankRootHash T hp, h3, finishPrune_noprune T hp,
    Bool.false_eq_true, if_false]

theorem opTree_reads (d : Dict Bytes) (T : TrieSt) (key : Bytes) (val : Option Bytes)
    (h : StoredBelow Hs d T.tree) : ReadsIn d (opTree Hs T key val).2 :=
  opTree_cases (P := fun r => ReadsIn d r.2) Hs T key val (deleteE_reads Hs d _ _ h) fun v => setE_reads Hs d _ _ v h

theorem opTree_stored (d : Dict Bytes) (T : TrieSt) (key : Bytes) (val : Option Bytes)
    (h : StoredBelow Hs d T.tree) (hw : Wr d (opTree Hs T key val).2) :
    StoredBelow Hs d (opTree Hs T key val).1 :=
  (storedBelow_iff_allBelow Hs d _).2 <| opTree_allBelow Hs T key val ((storedBelow_iff_allBelow Hs d _).1 h)
    fun _ _ hm _ _ hh hb => hh ▸ hb ▸ hw _ _ hm

theorem storedBelow_mono (d d' : Dict Bytes) (hp : Preserved d d') (t : Node) (h : StoredBelow Hs d t) :
    StoredBelow Hs d' t :=
  (storedBelow_iff_allBelow Hs d' t).2 <|
    allBelow_mono Hs (fun _ _ hn => hp _ _ hn) t ((storedBelow_iff_allBelow Hs d t).1 h)

theorem complete_mono (d d' : Dict Bytes) (hp : Preserved d d') (T : TrieSt) (h : Complete Hs blankRootHash d T) :
    Complete Hs blankRootHash d' T := by
  refine ⟨?_, storedBelow_mono Hs d d' hp _ h.2⟩
  have h1 := h.1
  split at h1
  · rwa [if_pos ‹_›]
  · rw [if_neg ‹_›]; exact ⟨h1.1, h1.2.1, hp _ _ h1.2.2⟩

theorem complete_root_present (T : TrieSt) (s : Store) (hc : s.cache = none)
    (h : Complete Hs blankRootHash s.base T) : (T.root != blankRootHash && !(s.contains T.root)) = false := by
  have h1 := h.1
  split at h1
  · simp [h1]
  · have : s.contains T.root = true := by
      unfold Store.contains; rw [hc]; exact contains_of_get? h1.2.2
    simp [this]

/-- **a non-pruning `set` / `delete` on a complete database succeeds, its new tree is that of `opTree`, it keeps every old
    binding and leaves a complete database for the new root** (`hblank` is only needed when the new tree is not blank) -/
theorem opSetDel_keeps_complete (T : TrieSt) (hp : T.prune = false) (key : Bytes) (val : Option Bytes)
    (s : OpSt) (hcache : s.store.cache = none) (hfa : s.store.failAfter = none)
    (hcomp : Complete Hs blankRootHash s.store.base T)
    (hnc : NoClobber s.store.base (opWrites Hs T key val))
    (hblank : isBlank (opTree Hs T key val).1 = false → Hs.hashOf (opTree Hs T key val).1 ≠ blankRootHash) :
    ∃ T', (opSetDel Hs blankRootHash T key val s).2 = .ok T' ∧
      T'.tree = (opTree Hs T key val).1 ∧ T'.prune = false ∧
      Preserved s.store.base (opSetDel Hs blankRootHash T key val s).1.store.base ∧
      Complete Hs blankRootHash (opSetDel Hs blankRootHash T key val s).1.store.base T' := by
  obtain ⟨s4, h4, hb4⟩ := opCore_ok Hs blankRootHash T hp key val { s with pending := [] } hcache hfa
    (complete_root_present Hs blankRootHash T s.store hcache hcomp) (opTree_reads Hs _ T key val hcomp.2)
  obtain ⟨hpres, hwr⟩ := applyWrites_noClobber _ _ hnc
  replace hb4 : s4.store.base = applyWrites s.store.base (opWrites Hs T key val) := hb4
  unfold opSetDel
  rw [h4]
  refine ⟨_, rfl, rfl, hp, hb4 ▸ hpres, ?_, ?_⟩
  · show if isBlank (opTree Hs T key val).1 then _ else _
    split
    · rfl
    · next hb =>
      refine ⟨rfl, hblank (by simpa using hb), ?_⟩
      show Dict.get? s4.store.base _ = _
      rw [hb4]
      exact hwr _ _ (List.mem_append_right _ (by simp [hb]))
  · show StoredBelow Hs s4.store.base _
    rw [hb4]
    exact opTree_stored Hs _ T key val (storedBelow_mono Hs _ _ hpres _ hcomp.2)
      fun h b hm => hwr h b (List.mem_append_left _ hm)

/-- for a canonical tree and sound reference comparison the new tree is the tree-level `set` / `delete` -/
theorem opSetDel_complete (T : TrieSt) (hp : T.prune = false) (hc : Canon T.tree) (key : Bytes) (val : Option Bytes)
    (s : OpSt) (hcache : s.store.cache = none) (hfa : s.store.failAfter = none)
    (hcomp : Complete Hs blankRootHash s.store.base T)
    (hrs : RefSound Hs T.tree (nibs key))
    (hnc : NoClobber s.store.base (opWrites Hs T key val))
    (hblank : isBlank (opTree Hs T key val).1 = false → Hs.hashOf (opTree Hs T key val).1 ≠ blankRootHash) :
    ∃ T', (opSetDel Hs blankRootHash T key val s).2 = .ok T' ∧
      T'.tree = (match val with
        | some v => if v = [] then Hex.delete T.tree (nibs key) else Hex.set T.tree (nibs key) v
        | none => Hex.delete T.tree (nibs key)) ∧
      T'.prune = false ∧
      Preserved s.store.base (opSetDel Hs blankRootHash T key val s).1.store.base ∧
      Complete Hs blankRootHash (opSetDel Hs blankRootHash T key val s).1.store.base T' := by
  obtain ⟨T', h1, h2, h⟩ := opSetDel_keeps_complete Hs blankRootHash T hp key val s hcache hfa hcomp hnc hblank
  refine ⟨T', h1, ?_, h⟩
  have ht := h2.trans (opTree_fst_p Hs T hc key val hrs)
  cases val <;> exact ht

/-- the same with the non-collision hypothesis on the new root stated unconditionally -/
theorem opSetDel_complete_orig (T : TrieSt) (hp : T.prune = false) (hc : Canon T.tree) (key : Bytes) (val : Option Bytes)
    (s : OpSt) (hcache : s.store.cache = none) (hfa : s.store.failAfter = none)
    (hcomp : Complete Hs blankRootHash s.store.base T)
    (hrs : RefSound Hs T.tree (nibs key))
    (hnc : NoClobber s.store.base (opWrites Hs T key val))
    (hblank : Hs.hashOf (opTree Hs T key val).1 ≠ blankRootHash) :
    ∃ T', (opSetDel Hs blankRootHash T key val s).2 = .ok T' ∧
      T'.tree = (match val with
        | some v => if v = [] then Hex.delete T.tree (nibs key) else Hex.set T.tree (nibs key) v
        | none => Hex.delete T.tree (nibs key)) ∧
      T'.prune = false ∧
      Preserved s.store.base (opSetDel Hs blankRootHash T key val s).1.store.base ∧
      Complete Hs blankRootHash (opSetDel Hs blankRootHash T key val s).1.store.base T' := by
  obtain ⟨T', h1, h2, h3, h4, h5⟩ :=
    opSetDel_complete Hs blankRootHash T hp hc key val s hcache hfa hcomp hrs hnc (fun _ => hblank)
  refine ⟨T', h1, ?_, h3, h4, h5⟩
  cases val <;> exact h2

end PyTrie.HexW
