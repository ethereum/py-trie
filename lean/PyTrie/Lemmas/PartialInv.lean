import PyTrie.Lemmas.PruneBodies
import PyTrie.Lemmas.RawPartial
import PyTrie.Lemmas.ReadPartial
/-! **Partial consistency is an invariant** (C07 over whole histories with withheld node bodies). `RootPartial` / `PartialD`
    say: whatever the database holds under the hash of the root / of a hashed subtree of the trie's tree is that node's
    encoding (it may hold nothing). They hold of every complete database, survive the removal of any entries, and are
    preserved by every `set` / `delete` — successful or failing, pruning on or off — under the run-level no-collision
    predicates. Since the tree-free executor equals the tree-carrying one on every partially consistent state
    (`Free.op_partial`), the two stay equal along every history of operations interleaved with removals and re-insertions of
    node bodies.

    The no-collision predicates: `NoClobber` (no write is bound, in the database or by another write, to a different
    body) does not speak about nodes of the tree whose bodies are *withheld*; a write under the hash of such a node with a
    different body would break partial consistency, so the operation theorem also assumes `hold` (a write under the hash
    of a node of the old tree carries that node's encoding), the exact analogue of `partial_insert_node`'s `hnc`. -/
namespace PyTrie.HexFree
open PyTrie PyTrie.Hex PyTrie.HexD PyTrie.HexW PyTrie.HexRaw

variable (H : Bytes → Bytes)

/-- the conclusion of `PartialC` (partial storage of one child reference, `Lemmas/RawPrims.lean`), without its
    `isHashed` premise -/
def PartialBody (db : Db) (c : Node) : Prop :=
  hashOf H c ≠ blankRoot H ∧ (∀ b, lookup db (hashOf H c) = some b → b = enc H c) ∧
    rlpDecode (enc H c) = some (toItem H c)

theorem partialD_iff_allBelow (db : Db) (t : Node) :
    PartialD H db t ↔ AllBelow (stdHashing H) (PartialBody H db) t := by
  induction t with
  | blank => exact Iff.rfl
  | leaf p v => exact Iff.rfl
  | ext p c ih => exact and_congr Iff.rfl ih
  | branch ch v ih => exact forall_congr' fun i => and_congr Iff.rfl (ih i)

theorem rootPartial_blank {db : Db} {root : Hash} {t : Node} (hb : isBlank t = true) :
    RootPartial H db root t ↔ root = blankRoot H := by
  simp only [RootPartial, hb, if_true]

theorem rootPartial_nonblank {db : Db} {root : Hash} {t : Node} (hb : isBlank t = false) :
    RootPartial H db root t ↔ root = hashOf H t ∧ root ≠ blankRoot H ∧ (∀ b, lookup db root = some b → b = enc H t) ∧
      rlpDecode (enc H t) = some (toItem H t) := by
  simp only [RootPartial, hb, Bool.false_eq_true, if_false]

theorem rootPartial_of (db db' : Db) (root : Hash) (t : Node)
    (hsub : ∀ b, lookup db' (hashOf H t) = some b → lookup db (hashOf H t) = some b ∨ b = enc H t)
    (h : RootPartial H db root t) : RootPartial H db' root t := by
  cases hb : isBlank t with
  | true => exact (rootPartial_blank H hb).2 ((rootPartial_blank H hb).1 h)
  | false =>
    obtain ⟨hr, hne, hl, hd⟩ := (rootPartial_nonblank H hb).1 h
    exact (rootPartial_nonblank H hb).2
      ⟨hr, hne, fun b hl' => (hsub b (hr ▸ hl')).elim (fun h0 => hl b (hr ▸ h0)) id, hd⟩

theorem partialD_of {R : Node → Prop} (db db' : Db) (t : Node) (hR : AllBelow (stdHashing H) R t)
    (hsub : ∀ m, R m → ∀ b, lookup db' (hashOf H m) = some b → lookup db (hashOf H m) = some b ∨ b = enc H m)
    (h : PartialD H db t) : PartialD H db' t := by
  rw [partialD_iff_allBelow] at h ⊢
  refine allBelow_mono2 (stdHashing H) ?_ t h hR
  intro m _ hm hr
  exact ⟨hm.1, fun b hl => (hsub m hr b hl).elim (hm.2.1 b) id, hm.2.2⟩

/-- going from `d` to `d'` only adds bindings of `ws`, and a binding of `ws` under the hash of a canonical tree `t0` or
    of a hashed node of `t0` carries that node's encoding: `t0` stays partially stored. (`Canon`: `nodeAt` does not
    reach the child of an extension with an empty path.) -/
theorem partial_onlyAdds (t0 : Node) (hc0 : Canon t0) (root0 : Hash) (d d' : Dict Bytes) (ws : List (Hash × Bytes))
    (hadds : OnlyAdds d d' ws)
    (hag : ∀ (m : Node) (b : Bytes), (hashOf H m, b) ∈ ws →
      (m = t0 ∨ (isHashed H m = true ∧ ∃ q, nodeAt t0 q = some m)) → b = enc H m)
    (hp : RootPartial H d root0 t0 ∧ PartialD H d t0) :
    RootPartial H d' root0 t0 ∧ PartialD H d' t0 := by
  have hS : ∀ m, (m = t0 ∨ (isHashed H m = true ∧ ∃ q, nodeAt t0 q = some m)) → ∀ b,
      lookup d' (hashOf H m) = some b → lookup d (hashOf H m) = some b ∨ b = enc H m :=
    fun m hm b hl => (hadds _ b hl).imp id (fun hw => hag m b hw hm)
  exact ⟨rootPartial_of H d d' root0 t0 (hS t0 (.inl rfl)) hp.1,
    partialD_of H d d' t0 (allBelow_of_nodeAt (stdHashing H) t0 hc0 (fun q m hq hh => And.intro hh ⟨q, hq⟩))
      (fun m hr => hS m (.inr hr)) hp.2⟩

/-- the root pointer of a trie whose database is complete for it is the root hash of its tree -/
theorem complete_root_eq (d : Dict Bytes) (T : TrieSt) (hcomp : Complete (stdHashing H) (blankRoot H) d T) :
    T.root = rootHash H T.tree := by
  have h := complete_root _ _ d T hcomp
  split at h
  · next hb => rw [h, (isBlank_iff T.tree).1 hb]; simp [rootHash, enc_blank, blankRoot]
  · exact h.1

theorem partial_of_complete (T : TrieSt) (d : Dict Bytes)
    (hcomp : Complete (stdHashing H) (blankRoot H) d T)
    (hbk : Dict.get? d (blankRoot H) = none) (hsm : ∀ h b, Dict.get? d h = some b → b.length < 2 ^ 64) :
    RootPartial H d T.root T.tree ∧ PartialD H d T.tree := by
  have hag : DbAgrees d d := fun _ => rfl
  have hC : ∀ c : Node, Dict.get? d (hashOf H c) = some (enc H c) → PartialBody H d c := by
    intro c hg
    obtain ⟨hne, hl, hd⟩ := storedC_of H hag hbk hsm c hg
    exact ⟨hne, fun b hb => by rw [hl] at hb; exact (Option.some.inj hb).symm, hd⟩
  obtain ⟨h1, h2⟩ := hcomp
  refine ⟨?_, ?_⟩
  · cases hb : isBlank T.tree with
    | true => rw [hb] at h1; exact (rootPartial_blank H hb).2 h1
    | false =>
      rw [hb] at h1
      obtain ⟨hr, _, hg⟩ := h1
      have hr' : T.root = hashOf H T.tree := hr
      rw [hr'] at hg ⊢
      exact (rootPartial_nonblank H hb).2 ⟨rfl, hC T.tree hg⟩
  · rw [partialD_iff_allBelow]
    exact allBelow_mono (stdHashing H) (fun n _ hn => hC n hn) _ ((storedBelow_iff_allBelow _ d _).1 h2)

/-- withholding node bodies keeps partial consistency -/
theorem partial_erase (T : TrieSt) (d : Dict Bytes) (h : Hash)
    (hp : RootPartial H d T.root T.tree ∧ PartialD H d T.tree) :
    RootPartial H (Dict.erase d h) T.root T.tree ∧ PartialD H (Dict.erase d h) T.tree :=
  ⟨rootPartial_of H d _ _ _ (fun b hl => .inl (get?_erase_sub d h _ b hl)) hp.1,
    partialD_of H d _ _ ((partialD_iff_allBelow H d _).1 hp.2) (fun _ _ b hl => .inl (get?_erase_sub d h _ b hl)) hp.2⟩

/-- supplying the body of a node of the tree keeps it. `Canon T.tree` is needed: `hnc` speaks about the nodes `nodeAt`
    reaches, and for `T.tree = ext [] c` with `c` a hashed leaf whose body is withheld and a node `n` with
    `hashOf H n = hashOf H c`, `enc H n ≠ enc H c`, `hashOf H n ≠ hashOf H T.tree` the statement fails
    (`Cex.partial_insert_node_needs_canon`). -/
theorem partial_insert_node (T : TrieSt) (hc : Canon T.tree) (d : Dict Bytes) (n : Node)
    (hp : RootPartial H d T.root T.tree ∧ PartialD H d T.tree)
    (hnc : ∀ m : Node, hashOf H m = hashOf H n → (m = T.tree ∨ ∃ q, nodeAt T.tree q = some m) → enc H m = enc H n) :
    RootPartial H (Dict.insert d (hashOf H n) (enc H n)) T.root T.tree ∧
    PartialD H (Dict.insert d (hashOf H n) (enc H n)) T.tree := by
  refine partial_onlyAdds H T.tree hc T.root d _ [(hashOf H n, enc H n)]
    ((OnlyAdds.refl d _).insert _ _ (List.mem_singleton.2 rfl)) ?_ hp
  intro m b hm hr
  simp only [List.mem_singleton, Prod.mk.injEq] at hm
  rw [hm.2]
  exact (hnc m hm.1 (hr.imp id And.right)).symm

/-- **every `set` / `delete` keeps partial consistency** — for the new trie when it returns, for the old one when it raises
    (whatever it raises: a missing node, a failing write at any position, a failing prune), pruning on or off.
    Side conditions on the writes: the blank-root hash is not a key, no body has 2^64 bytes.

    `hold` is needed (`Cex.opSetDel_partial_preserved_needs_hold`): a write under the hash of a hashed node of the old
    tree (or of its root) carries that node's encoding. `NoClobber` compares the writes with what the database *holds*;
    the body of a node of the tree that is withheld from the database is invisible to it, and a write with a different
    body under that node's hash makes the database answer wrongly for a node that is still part of the new tree (an
    untouched sibling) or of the old one (when the operation raises after the write). -/
theorem opSetDel_partial_preserved (T : TrieSt) (hc : Canon T.tree) (key : Bytes) (val : Option Bytes) (s : OpSt)
    (hroot : RootPartial H s.store.base T.root T.tree) (hst : PartialD H s.store.base T.tree)
    (hnc : NoClobber s.store.base (opWrites (stdHashing H) T key val))
    (hold : ∀ (m : Node) (b : Bytes), (hashOf H m, b) ∈ opWrites (stdHashing H) T key val →
      (m = T.tree ∨ (isHashed H m = true ∧ ∃ q, nodeAt T.tree q = some m)) → b = enc H m)
    (hblank : isBlank (opTree (stdHashing H) T key val).1 = false → hashOf H (opTree (stdHashing H) T key val).1 ≠ blankRoot H)
    (hbk : ∀ h b, (h, b) ∈ opWrites (stdHashing H) T key val → h ≠ blankRoot H)
    (hsm : ∀ h b, (h, b) ∈ opWrites (stdHashing H) T key val → b.length < 2 ^ 64) :
    (match (opSetDel (stdHashing H) (blankRoot H) T key val s).2 with
     | .ok T' => RootPartial H (opSetDel (stdHashing H) (blankRoot H) T key val s).1.store.base T'.root T'.tree ∧
                 PartialD H (opSetDel (stdHashing H) (blankRoot H) T key val s).1.store.base T'.tree
     | .error _ => RootPartial H (opSetDel (stdHashing H) (blankRoot H) T key val s).1.store.base T.root T.tree ∧
                   PartialD H (opSetDel (stdHashing H) (blankRoot H) T key val s).1.store.base T.tree) := by
  have hadds := opSetDel_adds (stdHashing H) (blankRoot H) T key val s
  generalize (opSetDel (stdHashing H) (blankRoot H) T key val s).1.store.base = base' at hadds ⊢
  -- what the exit base holds under the key of a write is that write's body
  have hwritten : ∀ h b b', (h, b) ∈ opWrites (stdHashing H) T key val → lookup base' h = some b' → b' = b := by
    intro h b b' hm hl
    rcases hadds h b' hl with h0 | hw
    · exact hnc.1 h b b' hm h0
    · exact hnc.2 h b' b hw hm
  -- the old tree is partially stored in the exit base
  obtain ⟨hroot', hst'⟩ := partial_onlyAdds H T.tree hc T.root _ base' _ hadds hold ⟨hroot, hst⟩
  rw [partialD_iff_allBelow] at hst'
  split
  · next T' hok =>
    have hT' := opSetDel_ok_shape (stdHashing H) (blankRoot H) T key val s T' hok
    subst hT'
    -- a node written by the operation is partially stored in the exit base
    have hnew : ∀ n : Node, (hashOf H n, enc H n) ∈ opWrites (stdHashing H) T key val → PartialBody H base' n := by
      intro n hm
      refine ⟨hbk _ _ hm, fun b hl => hwritten _ _ b hm hl, ?_⟩
      exact rlpDecode_rlp_of_length_lt _ (hsm _ _ hm)
    refine ⟨?_, ?_⟩
    · show RootPartial H base'
        (if isBlank (opTree (stdHashing H) T key val).1 then blankRoot H
         else (stdHashing H).hashOf (opTree (stdHashing H) T key val).1) (opTree (stdHashing H) T key val).1
      cases hb : isBlank (opTree (stdHashing H) T key val).1 with
      | true => exact (rootPartial_blank H hb).2 (if_pos rfl)
      | false =>
        rw [if_neg Bool.false_ne_true]
        obtain ⟨_, h2, h3⟩ := hnew _ (root_mem_opWrites (stdHashing H) T key val hb)
        exact (rootPartial_nonblank H hb).2 ⟨rfl, hblank hb, h2, h3⟩
    · show PartialD H base' (opTree (stdHashing H) T key val).1
      rw [partialD_iff_allBelow]
      refine opTree_allBelow (stdHashing H) T key val hst' ?_
      intro h b hm n _ hh hb
      subst hh hb
      exact hnew n (List.mem_append_left _ hm)
  · next e herr =>
    exact ⟨hroot', (partialD_iff_allBelow H _ _).2 hst'⟩

end PyTrie.HexFree
