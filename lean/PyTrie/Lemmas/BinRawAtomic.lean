import PyTrie.Model.BinRawT
/-! `Model/BinRawT.lean` (raw-level `BinaryTrie._set` returning the state also when an exception leaves it) agrees with
    `Model/BinRaw.lean` on every input, and **a call refused with `NodeOverrideError` has saved nothing**: the state at
    exit is the state at entry (every input, every database, no hypotheses) — C12 "a refused call leaves the trie and
    the database as they were" at the level of the transcription.

    Both proofs follow the body of `rawSetT` construct by construct. Its `match` expressions are `rawSetT.match_1` (on a
    result), `match_3` (on the node loaded after the recursive call), `match_6` (on the key) and `match_8` (on the node
    loaded at entry); `rawSet` has the same four. -/
namespace PyTrie.BinRawT
open PyTrie PyTrie.Bin
open PyTrie.BinRaw (St load saveKv saveBranch saveLeaf)

variable (H : Bytes → Bytes)

def forget (r : BinRaw.St × Except BinRaw.Err Hash) : Except BinRaw.Err (Hash × BinRaw.St) :=
  match r with
  | (st, .ok h) => .ok (h, st)
  | (_, .error e) => .error e

@[simp] theorem forget_ok (st : St) (h : Hash) : forget (st, .ok h) = .ok (h, st) := rfl
@[simp] theorem forget_error (st : St) (e : BinRaw.Err) : forget (st, .error e) = .error e := rfl

theorem forget_eq_ok {r : St × Except BinRaw.Err Hash} {h : Hash} {st : St} (hr : forget r = .ok (h, st)) :
    r = (st, .ok h) := by
  obtain ⟨st', e | h'⟩ := r
  · cases hr
  · cases hr; rfl

theorem forget_eq_error {r : St × Except BinRaw.Err Hash} {e : BinRaw.Err} (hr : forget r = .error e) :
    r.2 = .error e := by
  obtain ⟨st', e' | h'⟩ := r
  · cases hr; rfl
  · cases hr

theorem forget_saveKvT (st p c) : forget (saveKvT H st p c) = saveKv H st p c := by
  unfold saveKvT; cases saveKv H st p c <;> rfl
theorem forget_saveLeafT (st v) : forget (saveLeafT H st v) = saveLeaf H st v := by
  unfold saveLeafT; cases saveLeaf H st v <;> rfl
theorem forget_saveBranchT (st l r) : forget (saveBranchT H st l r) = saveBranch H st l r := by
  unfold saveBranchT; cases saveBranch H st l r <;> rfl

theorem forget_matchRes (x : St × Except BinRaw.Err Hash) (f) :
    forget (rawSetT.match_1 (fun _ => St × Except BinRaw.Err Hash) x (fun st1 e => (st1, .error e)) f) =
      BinRaw.rawSet.match_1 (fun _ => _) (forget x) (fun e => .error e) (fun h st1 => forget (f st1 h)) := by
  rcases x with ⟨st1, e | h⟩ <;> rfl

theorem forget_matchTail (x : Except BinRaw.Err Parsed) (a b c) :
    forget (rawSetT.match_3 (fun _ => St × Except BinRaw.Err Hash) x a b c) =
      BinRaw.rawSet.match_3 (fun _ => _) x (fun e => forget (a e)) (fun p2 c2 => forget (b p2 c2))
        (fun n => forget (c n)) := by
  rcases x with e | (_ | _ | _) <;> rfl

theorem forget_matchKey (k : Bits) (a b) :
    forget (rawSetT.match_6 (fun _ => St × Except BinRaw.Err Hash) k a b) =
      BinRaw.rawSet.match_6 (fun _ => _) k (fun u => forget (a u)) (fun b' k' => forget (b b' k')) := by
  cases k <;> rfl

theorem forget_matchNode (x : Except BinRaw.Err Parsed) (a b c d) :
    forget (rawSetT.match_8 (fun _ => St × Except BinRaw.Err Hash) x a b c d) =
      BinRaw.rawSet.match_8 (fun _ => _) x (fun e => forget (a e)) (fun v => forget (b v))
        (fun p c' => forget (c p c')) (fun l r => forget (d l r)) := by
  rcases x with e | (_ | _ | _) <;> rfl

theorem rawSetT_agrees (blank : Hash) (fuel : Nat) (st : BinRaw.St) (h : Hash) (k : Bits) (v : Bytes) (sub : Bool) :
    BinRaw.rawSet H blank fuel st h k v sub = forget (rawSetT H blank fuel st h k v sub) := by
  induction fuel generalizing st h k v sub with
  | zero => rfl
  | succ n ih =>
    rw [BinRaw.rawSet, rawSetT]
    simp only [apply_ite forget, forget_matchRes, forget_matchTail, forget_matchKey, forget_matchNode, forget_saveKvT,
      forget_saveLeafT, forget_saveBranchT, forget_ok, forget_error, ← ih]

/-- `r` is reached from `st` by saves only, and with `NodeOverrideError` only if none was made and `ov` holds
    (`ov`: the error may still be raised — nothing has been saved yet) -/
def Grown (ov : Prop) (st : St) (r : St × Except BinRaw.Err Hash) : Prop :=
  st.db <:+ r.1.db ∧ (r.2 = .error .override → ov ∧ r.1 = st)

variable {H} {ov : Prop} {st : St}

theorem Grown.refl {r} : Grown True st (st, r) := ⟨List.suffix_refl _, fun _ => ⟨trivial, rfl⟩⟩
theorem Grown.ok {h : Hash} : Grown ov st (st, .ok h) := ⟨List.suffix_refl _, nofun⟩

theorem Grown.saveKvT {p c} : Grown ov st (saveKvT H st p c) := by
  unfold BinRawT.saveKvT saveKv; cases encodeKv p c <;> simp [Grown, BinRaw.save]
theorem Grown.saveLeafT {v} : Grown ov st (saveLeafT H st v) := by
  unfold BinRawT.saveLeafT saveLeaf; cases encodeLeaf v <;> simp [Grown, BinRaw.save]
theorem Grown.saveBranchT {l r} : Grown ov st (saveBranchT H st l r) := by
  unfold BinRawT.saveBranchT saveBranch; cases encodeBranch l r <;> simp [Grown, BinRaw.save]

theorem Grown.ite {c : Prop} [Decidable c] {a b} (ha : Grown ov st a) (hb : Grown ov st b) :
    Grown ov st (if c then a else b) := by
  split <;> assumption

/-- after a first step only saves and loads follow -/
theorem Grown.bind {a f} (ha : Grown ov st a) (hf : ∀ st1 h, Grown False st1 (f st1 h)) :
    Grown ov st (rawSetT.match_1 (fun _ => St × Except BinRaw.Err Hash) a (fun st1 e => (st1, .error e)) f) := by
  rcases a with ⟨st1, e | h⟩
  · exact ha
  · exact ⟨ha.1.trans (hf st1 h).1, fun he => ((hf st1 h).2 he).1.elim⟩

theorem load_ne_override (st : St) (x : Hash) : load st x ≠ .error .override := by
  unfold load
  split
  · nofun
  · split <;> nofun

/-- the step after a recursive call: load the new child, save one kv node -/
theorem Grown.tail {x y : Hash} {f : Bits → Bits} {p : Bits} :
    Grown ov st (rawSetT.match_3 (fun _ => St × Except BinRaw.Err Hash) (load st x) (fun e => (st, .error e))
      (fun p2 c2 => BinRawT.saveKvT H st (f p2) c2) (fun _ => BinRawT.saveKvT H st p y)) := by
  rcases hl : load st x with e | (_ | _ | _)
  · exact ⟨List.suffix_refl _, fun he => absurd (Except.error.inj he ▸ hl) (load_ne_override st x)⟩
  all_goals exact .saveKvT

theorem rawSetT_grown (blank : Hash) (fuel : Nat) (st : BinRaw.St) (h : Hash) (k : Bits) (v : Bytes) (sub : Bool) :
    Grown True st (rawSetT H blank fuel st h k v sub) := by
  induction fuel generalizing st h k v sub with
  | zero => exact .refl
  | succ n ih =>
    rw [rawSetT]
    -- the term follows the body: the blank hash; then, by what `load` returns: an error, a branch, a kv node, a leaf
    refine .ite (.ite (.bind .saveLeafT fun _ _ => .saveKvT) .refl) ?_
    generalize load st h = x
    rcases x with e | (⟨l, r⟩ | ⟨p, c⟩ | w)
    · exact .refl
    · rcases k with _ | ⟨b, k'⟩
      · exact .ite .refl .refl
      · exact .bind (.ite (ih ..) (ih ..)) fun _ _ => .ite .tail .saveBranchT
    · refine .ite (.ite .refl .refl) (.ite .refl (.ite ?_ (.ite .refl ?_)))
      · exact .bind (ih ..) fun _ _ => .ite .ok .tail
      · exact .bind (.ite .saveLeafT (.ite .refl (.bind .saveLeafT fun _ _ => .saveKvT))) fun _ _ =>
          .bind (.ite .ok .saveKvT) fun _ _ => .bind (.ite .saveBranchT .saveBranchT) fun _ _ => .ite .saveKvT .ok
    · exact .ite .refl (.ite .refl (.ite .saveLeafT .refl))

variable (H)

/-- a refused call has saved nothing -/
theorem rawSetT_override_atomic (blank : Hash) (fuel : Nat) (st : BinRaw.St) (h : Hash) (k : Bits) (v : Bytes) (sub : Bool)
    (he : (rawSetT H blank fuel st h k v sub).2 = .error .override) :
    (rawSetT H blank fuel st h k v sub).1 = st :=
  ((rawSetT_grown blank fuel st h k v sub).2 he).2

/-- the database only grows: the old write log is a suffix of the new one -/
theorem rawSetT_db_suffix (blank : Hash) (fuel : Nat) (st : BinRaw.St) (h : Hash) (k : Bits) (v : Bytes) (sub : Bool) :
    ∃ added, (rawSetT H blank fuel st h k v sub).1.db = added ++ st.db :=
  let ⟨added, e⟩ := (rawSetT_grown (H := H) blank fuel st h k v sub).1
  ⟨added, e.symm⟩

end PyTrie.BinRawT
