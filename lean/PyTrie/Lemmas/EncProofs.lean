import PyTrie.Model.Nibbles
import PyTrie.Model.BinEnc
import PyTrie.Model.HexEnc
import PyTrie.Lemmas.EncBits
/-! The specifications C16 is stated against (`Valid`, the Yellow Paper's HP written out, `withTerm`) and the
    lemmas on nibble packing behind it. No bound on lengths. -/
namespace PyTrie.EncSpec
open PyTrie PyTrie.Nibbles PyTrie.Bin

/-- all nibbles are in range -/
def Valid (ns : List Nat) : Prop := ∀ n ∈ ns, n < 16

/-- the Yellow Paper's hex-prefix function HP(x, t) (appendix C), written out literally -/
def ypPairs : List Nat → Bytes
  | a :: b :: r => UInt8.ofNat (16 * a + b) :: ypPairs r
  | _ => []
def HPyp (x : List Nat) (t : Bool) : Bytes :=
  let f : Nat := if t then 2 else 0
  if x.length % 2 = 0 then UInt8.ofNat (16 * f) :: ypPairs x
  else match x with
    | x0 :: r => UInt8.ofNat (16 * (f + 1) + x0) :: ypPairs r
    | [] => []

def withTerm (x : List Nat) (t : Bool) : List Nat := if t then x ++ [TERM] else x

/-- the nibbles HP packs two by two: the flag nibble in front, followed by a zero nibble when the length is even -/
def hpNibs (x : List Nat) (t : Bool) : List Nat :=
  let f : Nat := if t then 2 else 0
  if x.length % 2 = 1 then (f + 1) :: x else f :: 0 :: x

theorem pack_eq_ypPairs : ∀ x, pack x = ypPairs x
  | [] => rfl
  | [_] => rfl
  | a :: b :: r => by rw [pack, ypPairs, pack_eq_ypPairs r, Nat.mul_comm]

theorem packNibs_eq_ypPairs : ∀ x, Hex.packNibs x = ypPairs x
  | [] => rfl
  | [_] => rfl
  | a :: b :: r => by rw [Hex.packNibs, ypPairs, packNibs_eq_ypPairs r, Nat.mul_comm]

theorem HPyp_eq (x : List Nat) (t : Bool) : HPyp x t = ypPairs (hpNibs x t) := by
  unfold HPyp hpNibs
  by_cases he : x.length % 2 = 0
  · simp only [he, ↓reduceIte, Nat.zero_ne_one, ypPairs, Nat.add_zero]
  · have ho : x.length % 2 = 1 := by omega
    simp only [ho, ↓reduceIte, Nat.one_ne_zero]
    match x, he with
    | a :: r, _ => rfl

theorem valid_cons {a : Nat} {x : List Nat} (ha : a < 16) (hx : Valid x) : Valid (a :: x) := by
  intro n hn
  rcases List.mem_cons.1 hn with rfl | h
  · exact ha
  · exact hx n h

theorem valid_tail {a : Nat} {x : List Nat} (h : Valid (a :: x)) : a < 16 ∧ Valid x :=
  ⟨h a (by simp), fun n hn => h n (by simp [hn])⟩

theorem hpNibs_valid (x : List Nat) (hx : Valid x) (t : Bool) : Valid (hpNibs x t) := by
  unfold hpNibs
  cases t <;> dsimp only <;> split <;>
    first | exact valid_cons (by decide) hx | exact valid_cons (by decide) (valid_cons (by decide) hx)

theorem hpNibs_even (x : List Nat) (t : Bool) : (hpNibs x t).length % 2 = 0 := by
  unfold hpNibs
  dsimp only
  split <;> simp only [List.length_cons] <;> omega

theorem isTerminated_valid (x : List Nat) (hx : Valid x) : isTerminated x = false := by
  unfold isTerminated
  split
  · rename_i y hy
    have := hx y (List.mem_of_getLast? hy)
    simp [TERM]; omega
  · rfl

theorem isTerminated_concat (x : List Nat) : isTerminated (x ++ [TERM]) = true := by
  simp [isTerminated]

theorem removeTerminator_concat (x : List Nat) : removeTerminator (x ++ [TERM]) = x := by
  simp [removeTerminator, isTerminated_concat]

theorem removeTerminator_valid (x : List Nat) (hx : Valid x) : removeTerminator x = x := by
  simp [removeTerminator, isTerminated_valid x hx]

theorem addTerminator_valid (x : List Nat) (hx : Valid x) : addTerminator x = x ++ [TERM] := by
  simp [addTerminator, isTerminated_valid x hx]

theorem nibblesToBytes_ok (ns : List Nat) (hv : Valid ns) (he : ns.length % 2 = 0) :
    nibblesToBytes ns = .ok (pack ns) := by
  have : ns.any (fun n => !(decide (n < 16))) = false := by
    rw [List.any_eq_false]
    intro n hn
    simp [hv n hn]
  unfold nibblesToBytes
  rw [this]
  simp [he]

theorem b2n_cons (a b : Nat) (ha : a < 16) (hb : b < 16) (rest : Bytes) :
    bytesToNibbles (UInt8.ofNat (16 * a + b) :: rest) = a :: b :: bytesToNibbles rest := by
  have h0 : (UInt8.ofNat (16 * a + b)).toNat = 16 * a + b :=
    UInt8.toNat_ofNat_of_lt' (show 16 * a + b < 256 by omega)
  rw [bytesToNibbles, h0, Nat.mul_add_div (by decide), Nat.mul_add_mod, Nat.div_eq_of_lt hb, Nat.mod_eq_of_lt hb]
  rfl

theorem b2n_ypPairs : ∀ (x : List Nat), Valid x → x.length % 2 = 0 → bytesToNibbles (ypPairs x) = x
  | [], _, _ => rfl
  | [a], _, h => by simp at h
  | a :: b :: r, hv, h => by
    obtain ⟨ha, hv1⟩ := valid_tail hv
    obtain ⟨hb, hv2⟩ := valid_tail hv1
    have ih := b2n_ypPairs r hv2 (by simp at h; omega)
    simp only [ypPairs, b2n_cons a b ha hb, ih]

theorem pack_b2n (b : Bytes) : pack (bytesToNibbles b) = b := by
  induction b with
  | nil => rfl
  | cons a r ih =>
    simp only [bytesToNibbles, pack, ih]
    congr 1
    have : a.toNat / 16 * 16 + a.toNat % 16 = a.toNat := by omega
    rw [this]; simp

theorem parseNode_kv (p : Bits) (c : Bytes) (hc : c.length = 32) :
    parseNode (0 :: (encodeKeypath p ++ c)) = .ok (.kv p c) := by
  have hpos := EncBits.encodeKeypath_length_pos p
  have hlen : (encodeKeypath p ++ c).length - 32 = (encodeKeypath p).length := by simp [hc]
  rw [EncBits.parseNode_zero _ (by simp only [List.length_cons, List.length_append, hc]; omega) p
    (by rw [hlen, List.take_left' rfl, EncBits.decodeKeypath_encodeKeypath]), hlen, List.drop_left' rfl]

theorem parseNode_branch (l r : Bytes) (hl : l.length = 32) (hr : r.length = 32) :
    parseNode (1 :: (l ++ r)) = .ok (.branch l r) := by
  rw [EncBits.parseNode_one, if_neg (by simp [hl, hr]), List.take_left' hl, List.drop_left' hl]

theorem parseNode_encodeKv (p : Bits) (hp : p ≠ []) (c : Bytes) (hc : c.length = 32) :
    ∃ b, encodeKv p c = .ok b ∧ parseNode b = .ok (.kv p c) :=
  ⟨_, by simp [encodeKv, hp, hc], parseNode_kv p c hc⟩

theorem parseNode_encodeBranch (l r : Bytes) (hl : l.length = 32) (hr : r.length = 32) :
    ∃ b, encodeBranch l r = .ok b ∧ parseNode b = .ok (.branch l r) :=
  ⟨_, by simp [encodeBranch, hl, hr], parseNode_branch l r hl hr⟩

end PyTrie.EncSpec
