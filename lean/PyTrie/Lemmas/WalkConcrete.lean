import PyTrie.Model.Walk
import PyTrie.Lemmas.WalkProofs
import PyTrie.Lemmas.NodesLoop
/-! The concrete walk step with a `TrieFrontierCache` (`Model/Walk.lean`) is an abstract walk step
    (`Walk.wstep`) on *some version* of the trie: a cache hit consults the version in which the cached parent
    was obtained (`traverse_from (node at q) seg = traverse (q ++ seg)`), a miss the current one. Hence
    everything proved about abstract schedules (`finds_stable`, `sound`, `exact`, termination measure) holds for
    walks that use the cache across modifications. -/
namespace PyTrie.Walk
open PyTrie PyTrie.Hex PyTrie.Fog

/-- every cache entry `p ↦ (parent, seg)` holds a node — real, or the simulated node of a position inside
    a leaf / extension — of one of the versions seen so far, located at a prefix `q` with `q ++ seg = p`:
    traversing from it along `seg` describes version `v` at `p` -/
def CacheOkV (versions : List Node) (c : Frontier Node) : Prop :=
  ∀ p parent seg, Frontier.get c p = some (parent, seg) →
    ∃ v ∈ versions, Canon v ∧ (traverseOut parent seg).desc = (traverseOut v p).desc

def toW (s : CState) : WState := ⟨s.fog, s.met⟩

theorem descOf?_eq_desc : descOf? = TravOut.desc := by
  funext o; cases o <;> rfl

/-- the description of `v` at `p`, used as a parent, describes `v` below `p` along each of its sub-segments -/
theorem desc_child (v : Node) (hcan : Canon v) (p : Path) (d : Ann)
    (hd : (traverseOut v p).desc = some d) (sub : Path) (hsub : sub ∈ d.subs) :
    (traverseOut d.raw sub).desc = (traverseOut v (p ++ sub)).desc := by
  cases hout : traverseOut v p with
  | partialPath tr a tail sim =>
    rw [hout] at hd
    cases hd
    exact traverse_from_sim v hcan p tr tail a d hout sub
  | node a =>
    rw [hout] at hd
    cases hd
    obtain ⟨hrem, rfl⟩ := traverseOut_node hout
    obtain ⟨tr, n0, rem, h1, _, rfl, h4, h5⟩ := trav_local v hcan p
    rw [h4] at hrem hsub ⊢
    rcases local_cases n0 rem h5 with ⟨rfl, e⟩ | ⟨_, e, _⟩ | ⟨hr, _, _, _, _, e⟩ | ⟨hr, _, _, _, _, _, e⟩
    · rw [e, annotate_raw, desc_eq, desc_eq, List.append_nil, traverseT_nodeAt v tr n0 h1 sub]
    · rw [e] at hsub; cases hsub
    · rw [e] at hrem; exact absurd hrem hr
    · rw [e] at hrem; exact absurd hrem hr

def cfinish (s : CState) (p : Path) (od : Option Ann) : Option CState :=
  match od with
  | none => none
  | some d =>
    match Fog.explore s.fog p d.subs with
    | .error _ => none
    | .ok fog' =>
      let cache' := if d.subs ≠ [] then Frontier.add s.cache p d.raw d.subs else Frontier.delete s.cache p
      some ⟨fog', cache', if d.value ≠ [] then (p ++ d.suffix, d.value) :: s.met else s.met⟩

theorem cstep_eq (t : Node) (s : CState) (p : Path) :
    cstep t s p = cfinish s p (iterOut t s.cache p).desc := by
  rw [← descOf?_eq_desc]; rfl

theorem cfinish_some {s s' : CState} {p : Path} {od : Option Ann} (h : cfinish s p od = some s') :
    ∃ d fog', od = some d ∧ Fog.explore s.fog p d.subs = .ok fog' ∧
      s' = ⟨fog', if d.subs ≠ [] then Frontier.add s.cache p d.raw d.subs else Frontier.delete s.cache p,
        if d.value ≠ [] then (p ++ d.suffix, d.value) :: s.met else s.met⟩ := by
  unfold cfinish at h
  split at h
  · cases h
  · next d =>
    split at h
    · cases h
    · next fog' he => cases h; exact ⟨d, fog', rfl, he, rfl⟩

theorem cfinish_toW (s : CState) (v : Node) (p : Path) :
    (cfinish s p (traverseOut v p).desc).map toW = wstep (toW s) v p := by
  unfold cfinish wstep
  cases (traverseOut v p).desc with
  | none => rfl
  | some d => simp only [toW]; cases Fog.explore s.fog p d.subs <;> rfl

theorem cstep_cacheAll {P : Path → Node → Path → Prop} {t : Node} {s s' : CState} {p : Path}
    (hc : CacheAll P s.cache) (h : cstep t s p = some s')
    (hnew : ∀ d, (iterOut t s.cache p).desc = some d → ∀ sub ∈ d.subs, P (p ++ sub) d.raw sub) :
    CacheAll P s'.cache := by
  rw [cstep_eq] at h
  obtain ⟨d, _, hd, _, rfl⟩ := cfinish_some h
  exact cacheAll_update hc (hnew d hd)

/-- a cache hit consults the description of a canonical version seen, a miss that of the current version -/
theorem iterOut_version {versions : List Node} {t : Node} (ht : t ∈ versions) (hct : Canon t) {c : Frontier Node}
    (hc : CacheOkV versions c) (p : Path) :
    ∃ v ∈ versions, Canon v ∧ (iterOut t c p).desc = (traverseOut v p).desc := by
  unfold iterOut
  cases hg : Frontier.get c p with
  | none => exact ⟨t, ht, hct, rfl⟩
  | some e => exact hc p e.1 e.2 hg

theorem cstep_is_wstep (versions : List Node) (t : Node) (ht : t ∈ versions) (hct : Canon t)
    (s : CState) (hc : CacheOkV versions s.cache) (p : Path) (s' : CState) (h : cstep t s p = some s') :
    (∃ v ∈ versions, wstep (toW s) v p = some (toW s')) ∧ CacheOkV versions s'.cache := by
  obtain ⟨v, hv, hcan, hdesc⟩ := iterOut_version ht hct hc p
  refine ⟨⟨v, hv, ?_⟩, cstep_cacheAll hc h fun d hd sub hsub =>
    ⟨v, hv, hcan, desc_child v hcan p d (hdesc ▸ hd) sub hsub⟩⟩
  rw [← cfinish_toW, ← hdesc, ← cstep_eq, h]
  rfl

theorem cstep_defined (V : List Node) (t : Node) (ht : t ∈ V) (hct : Canon t)
    (s : CState) (hc : CacheOkV V s.cache) (hw : Wf s.fog) (p : Path) (hp : p ∈ s.fog) :
    ∃ s', cstep t s p = some s' ∧ Wf s'.fog := by
  obtain ⟨v, _, hcan, hdesc⟩ := iterOut_version ht hct hc p
  obtain ⟨w', hw1, hw2⟩ := wstep_defined (toW s) hw v hcan p hp
  rw [← cfinish_toW, ← hdesc, ← cstep_eq, Option.map_eq_some_iff] at hw1
  obtain ⟨s', hs', rfl⟩ := hw1
  exact ⟨s', hs', hw2⟩

theorem cacheOkV_sub {V V' : List Node} (hsub : ∀ v ∈ V, v ∈ V') {c : Frontier Node} (h : CacheOkV V c) :
    CacheOkV V' c :=
  cacheAll_imp (fun _ _ _ ⟨v, hv, hcan, hd⟩ => ⟨v, hsub v hv, hcan, hd⟩) h

/-- the invariant survives the arrival of new versions (modifications between steps) -/
theorem cacheOkV_mono (versions more : List Node) (c : Frontier Node) (h : CacheOkV versions c) :
    CacheOkV (versions ++ more) c :=
  cacheOkV_sub (fun _ hv => List.mem_append_left _ hv) h

/-- a concrete walk: at each step the trie's *current* version and the prefix chosen; the cache carries
    node objects of older versions along -/
def crun (s : CState) : List (Node × Path) → Option CState
  | [] => some s
  | (t, p) :: rest => match cstep t s p with
    | some s' => crun s' rest
    | none => none

def cstart : CState := ⟨Fog.init, [], []⟩

/-- a concrete run (with the cache) is an abstract run over the same prefixes, each step consulting some version
    that occurred -/
theorem crun_is_wrun (V : List Node) (hcv : ∀ v ∈ V, Canon v) (sched : List (Node × Path)) :
    ∀ (s s' : CState), (∀ e ∈ sched, e.1 ∈ V) → CacheOkV V s.cache → crun s sched = some s' →
      ∃ sched' : List (Node × Path), sched'.map Prod.snd = sched.map Prod.snd ∧ (∀ e ∈ sched', e.1 ∈ V) ∧
        wrun (toW s) sched' = some (toW s') := by
  induction sched with
  | nil =>
    intro s s' _ _ h
    cases h
    exact ⟨[], rfl, by simp, rfl⟩
  | cons e rest ih =>
    obtain ⟨t, p⟩ := e
    intro s s' hV hc h
    simp only [crun] at h
    cases hs : cstep t s p with
    | none => rw [hs] at h; cases h
    | some s1 =>
      rw [hs] at h
      have ht : t ∈ V := hV (t, p) List.mem_cons_self
      obtain ⟨⟨v, hv, hw⟩, hc1⟩ := cstep_is_wstep V t ht (hcv t ht) s hc p s1 hs
      obtain ⟨sched', hm, hV', hr⟩ := ih s1 s' (fun e he => hV e (List.mem_cons_of_mem _ he)) hc1 h
      refine ⟨(v, p) :: sched', by simp [hm], ?_, by simpa only [wrun, hw] using hr⟩
      intro e he
      rcases List.mem_cons.mp he with rfl | he
      · exact hv
      · exact hV' e he

theorem crun_start_is_wrun (sched : List (Node × Path)) (s' : CState) (hcanon : ∀ e ∈ sched, Canon e.1)
    (hrun : crun cstart sched = some s') :
    ∃ sched' : List (Node × Path), sched'.length = sched.length ∧ (∀ x ∈ sched', ∃ e ∈ sched, e.1 = x.1) ∧
      wrun start sched' = some (toW s') := by
  obtain ⟨sched', hm, hV, hr⟩ := crun_is_wrun (sched.map Prod.fst)
    (fun v hv => by obtain ⟨e, he, rfl⟩ := List.mem_map.1 hv; exact hcanon e he) sched cstart s'
    (fun e he => List.mem_map_of_mem he) cacheAll_nil hrun
  exact ⟨sched', by simpa using congrArg List.length hm, fun x hx => List.mem_map.1 (hV x hx), hr⟩

/-- a property of all versions of a schedule holds of the versions an abstract schedule over them consults -/
theorem forall_versions {α : Type} {f : α → Node} {sched : List α} {sched' : List (Node × Path)}
    (hmem : ∀ x ∈ sched', ∃ e ∈ sched, f e = x.1) {Q : Node → Prop} (h : ∀ e ∈ sched, Q (f e)) :
    ∀ x ∈ sched', Q x.1 := by
  intro x hx
  obtain ⟨e, he, h0⟩ := hmem x hx
  exact h0 ▸ h e he

end PyTrie.Walk
