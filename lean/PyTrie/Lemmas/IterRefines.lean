import PyTrie.Model.IterRaw
import PyTrie.Lemmas.ReadRefines
import PyTrie.Lemmas.HexIterProofs
import PyTrie.Lemmas.YellowPaper
/-! The raw-level `_get_next_key` / `_get_key_after` (`Model/IterRaw.lean`, over annotated raw nodes, navigating
    with `traverse_from` through the database) compute what the tree-level `nextKey` / `keyAfter` compute, on
    the raw encoding of a canonical stored tree. -/
namespace PyTrie.HexD
open PyTrie.Hex PyTrie.Hex.Node PyTrie.HexRaw

variable (H : Bytes → Bytes)

/-! ### `traverse_from(node, segment)` for a sub-segment of the node itself -/

theorem cpl_self (p : Path) : cpl p p = p.length := by
  have := cpl_append_left p []
  simpa using this

theorem travFrom_ext (hlen : ∀ b, (H b).length = 32) (db : Db) (p : Path) (c : Node) (hp : p ≠ [])
    (hs : StoredC H db c) (tfuel : Nat) (htf : 1 ≤ tfuel) :
    travFrom H db tfuel (Ann.toD H (annotate (ext p c))) p = .ok (Ann.toD H (annotate c)) := by
  obtain ⟨f, rfl⟩ := Nat.exists_eq_add_one_of_ne_zero (Nat.ne_zero_of_lt htf)
  obtain ⟨a, rest, rfl⟩ : ∃ a rest, p = a :: rest := by
    cases p with
    | nil => exact absurd rfl hp
    | cons a rest => exact ⟨a, rest, rfl⟩
  have h1 : traverseD H db (f + 1) (toItem H (ext (a :: rest) c)) (a :: rest) [] = .ok (toItem H c, []) := by
    simp only [traverseD, classify_ext, cpl_self, List.drop_length, ↓reduceIte, List.take_length,
      fetch_storedC H hlen db c _ hs, traverseD_nil]
  simp only [travFrom, traverseOutD, annotate, Ann.toD, h1, annotateD_toItem H hlen, ↓reduceIte]

theorem travFrom_branch (hlen : ∀ b, (H b).length = 32) (db : Db) (ch : Nib → Node) (v : Bytes) (i : Nib)
    (hs : StoredC H db (ch i)) (tfuel : Nat) (htf : 1 ≤ tfuel) :
    travFrom H db tfuel (Ann.toD H (annotate (branch ch v))) [i] = .ok (Ann.toD H (annotate (ch i))) := by
  obtain ⟨f, rfl⟩ := Nat.exists_eq_add_one_of_ne_zero (Nat.ne_zero_of_lt htf)
  have h1 : traverseD H db (f + 1) (toItem H (branch ch v)) [i] [] = .ok (toItem H (ch i), []) := by
    simp only [traverseD, classify_branch, brItems_getD, fetch_storedC H hlen db (ch i) _ hs, traverseD_nil]
  simp only [travFrom, traverseOutD, annotate, Ann.toD, h1, annotateD_toItem H hlen, ↓reduceIte]

theorem nextKeyD_ok (hlen : ∀ b, (H b).length = 32) (db : Db) (tfuel : Nat) (htf : 1 ≤ tfuel) (t : Node) :
    Canon t → StoredD H db t → ∀ (tr : Path) (fuel : Nat), YP.height t + 1 ≤ fuel →
    nextKeyD H db tfuel fuel (Ann.toD H (annotate t)) tr = .ok (nextKey t tr) := by
  induction t with
  | blank =>
    intro _ _ tr fuel hf
    obtain ⟨f, rfl⟩ := Nat.exists_eq_add_one_of_ne_zero (Nat.ne_zero_of_lt hf)
    simp [nextKeyD, annotate, Ann.toD, nextKey]
  | leaf p v =>
    intro _ _ tr fuel hf
    obtain ⟨f, rfl⟩ := Nat.exists_eq_add_one_of_ne_zero (Nat.ne_zero_of_lt hf)
    by_cases hv : v = [] <;> simp [nextKeyD, annotate, Ann.toD, nextKey, hv]
  | ext p c ih =>
    intro hc hst tr fuel hf
    obtain ⟨hpne, hbr, hcc⟩ := hc
    obtain ⟨hsc, hsd⟩ := hst
    simp only [YP.height] at hf
    obtain ⟨f, rfl⟩ := Nat.exists_eq_add_one_of_ne_zero (Nat.ne_zero_of_lt hf)
    have htv := travFrom_ext H hlen db p c hpne hsc tfuel htf
    have hsub : (Ann.toD H (annotate (ext p c))).subs = [p] := rfl
    have hval : (Ann.toD H (annotate (ext p c))).value = [] := rfl
    rw [nextKeyD]
    simp only [hsub, hval, htv, ne_eq, not_true_eq_false, ↓reduceIte, nextKey]
    exact ih hcc hsd (tr ++ p) f (by omega)
  | branch ch v ih =>
    intro hc hst tr fuel hf
    obtain ⟨f, rfl⟩ := Nat.exists_eq_add_one_of_ne_zero (Nat.ne_zero_of_lt hf)
    have hsub : (Ann.toD H (annotate (branch ch v))).subs = (liveIdx ch).map (fun i => [i]) := rfl
    have hval : (Ann.toD H (annotate (branch ch v))).value = v := rfl
    have hsuf : (Ann.toD H (annotate (branch ch v))).suffix = [] := rfl
    rw [nextKeyD]
    by_cases hv : v = []
    · subst hv
      simp only [hsub, hval, ne_eq, not_true_eq_false, ↓reduceIte, nextKey]
      have hfind : (List.finRange 16).find? (fun i => !(isBlank (ch i))) = (liveIdx ch).head? := by
        rw [liveIdx, List.head?_filter]
      rw [hfind]
      cases hl : liveIdx ch with
      | nil => simp
      | cons i rest =>
        have htv := travFrom_branch H hlen db ch [] i (hst i).1 tfuel htf
        simp only [List.map_cons, htv, List.head?_cons]
        have := YP.height_child_lt ch [] i
        exact ih i (hc.1 i) (hst i).2 (tr ++ [i]) f (by omega)
    · simp [hval, hsuf, hv, nextKey]

theorem nextKeyD_refines (hlen : ∀ b, (H b).length = 32) (t : Node) (hc : Canon t) (db : Db) (hst : StoredD H db t)
    (tr : Path) (tfuel fuel : Nat) (htf : 64 ≤ tfuel) (hf : YP.height t + 1 ≤ fuel) :
    nextKeyD H db tfuel fuel (Ann.toD H (annotate t)) tr = .ok (nextKey t tr) :=
  nextKeyD_ok H hlen db tfuel (by omega) t hc hst tr fuel hf

theorem cpl_nil_right (k : Path) : cpl k [] = 0 := by cases k <;> rfl

theorem findSome?_filter_of_none {α β : Type} (f : α → Option β) (p : α → Bool) (l : List α)
    (h : ∀ x, p x = false → f x = none) : (l.filter p).findSome? f = l.findSome? f := by
  induction l with
  | nil => rfl
  | cons a l ih =>
    cases hp : p a with
    | true => simp only [List.filter_cons, hp, ↓reduceIte, List.findSome?_cons, ih]
    | false => simp [hp, ih, h a hp]

/-- the `for next_segment in node.sub_segments` loop on a branch, over a list of live indices -/
theorem keyAfterSegs_branch (db : Db) (tfuel : Nat) (ch : Nib → Node) (v : Bytes) (key tr : Path) (B : Nat)
    (ihK : ∀ i key tr fuel, B ≤ fuel →
      keyAfterD H db tfuel fuel (Ann.toD H (annotate (ch i))) key tr = .ok (keyAfter (ch i) key tr))
    (ihN : ∀ i tr fuel, B ≤ fuel →
      nextKeyD H db tfuel fuel (Ann.toD H (annotate (ch i))) tr = .ok (nextKey (ch i) tr))
    (htrav : ∀ i, travFrom H db tfuel (Ann.toD H (annotate (branch ch v))) [i] = .ok (Ann.toD H (annotate (ch i))))
    (l : List Nib) (hl : ∀ i ∈ l, isBlank (ch i) = false) :
    ∀ F, l.length + B + 1 ≤ F →
    keyAfterSegs H db tfuel F (Ann.toD H (annotate (branch ch v))) (l.map (fun i => [i])) key tr =
      .ok (match l.findSome? (kaStep ch key tr) with
        | some x => x
        | none => none) := by
  induction l with
  | nil =>
    intro F hF
    obtain ⟨f, rfl⟩ := Nat.exists_eq_add_one_of_ne_zero (Nat.ne_zero_of_lt hF)
    simp [keyAfterSegs]
  | cons i l ih =>
    intro F hF
    obtain ⟨f, rfl⟩ := Nat.exists_eq_add_one_of_ne_zero (Nat.ne_zero_of_lt hF)
    have hbi : isBlank (ch i) = false := hl i (by simp)
    have ih' := ih (fun j hj => hl j (by simp [hj])) f (by simp at hF; omega)
    have hfB : B ≤ f := by simp at hF; omega
    rw [List.map_cons, keyAfterSegs]
    simp only [List.length_cons, List.length_nil, Nat.zero_add, List.findSome?_cons]
    by_cases hlt : plt [i] (key.take 1) = true
    · simp only [hlt, ↓reduceIte, ih']
      simp [kaStep, hbi, hlt]
    · simp only [hlt, Bool.false_eq_true, ↓reduceIte, htrav i]
      cases key with
      | nil =>
        simp only [cpl, List.drop_zero, List.cons_ne_nil, ↓reduceIte, ihN i _ f hfB]
        simp [kaStep, hbi]
      | cons a rest =>
        by_cases hai : a = i
        · subst hai
          have hc1 : cpl (a :: rest) [a] = 1 := by simp [cpl, cpl_nil_right]
          simp only [hc1, List.drop_succ_cons, List.drop_zero, List.drop_nil, ↓reduceIte, ihK a _ _ f hfB]
          have hks : kaStep ch (a :: rest) tr a =
              match keyAfter (ch a) rest (tr ++ [a]) with
              | none => none
              | some k => some (some k) := by
            simp only [kaStep, hbi, Bool.false_eq_true, ↓reduceIte]
            simp only [List.take_succ_cons, List.take_zero] at hlt
            simp only [List.take_succ_cons, List.take_zero, hlt]
            cases keyAfter (ch a) rest (tr ++ [a]) <;> rfl
          rw [hks]
          cases keyAfter (ch a) rest (tr ++ [a]) with
          | none => simp only [ih']
          | some k => rfl
        · have hc0 : cpl (a :: rest) [i] = 0 := by simp [cpl, hai]
          simp only [hc0, List.drop_zero, List.cons_ne_nil, ↓reduceIte, ihN i _ f hfB]
          have hks : kaStep ch (a :: rest) tr i = some (nextKey (ch i) (tr ++ [i])) := by
            simp only [kaStep, hbi, Bool.false_eq_true, ↓reduceIte]
            simp only [List.take_succ_cons, List.take_zero] at hlt
            simp [hlt, hai]
          rw [hks]

theorem fuel_of_height_le {n fuel : Nat} (hf : 20 * (n + 1) ≤ fuel) : ∃ f, fuel = f + 3 := ⟨fuel - 3, by omega⟩

theorem keyAfterD_ok (hlen : ∀ b, (H b).length = 32) (db : Db) (tfuel : Nat) (htf : 1 ≤ tfuel) (t : Node) :
    Canon t → StoredD H db t → ∀ (key tr : Path) (fuel : Nat), 20 * (YP.height t + 1) ≤ fuel →
    keyAfterD H db tfuel fuel (Ann.toD H (annotate t)) key tr = .ok (keyAfter t key tr) := by
  induction t with
  | blank =>
    intro _ _ key tr fuel hf
    obtain ⟨f, rfl⟩ := fuel_of_height_le hf
    simp [keyAfterD, keyAfterSegs, annotate, Ann.toD, keyAfter]
  | leaf p v =>
    intro _ _ key tr fuel hf
    obtain ⟨f, rfl⟩ := fuel_of_height_le hf
    by_cases h : plt key p = true <;> simp [keyAfterD, keyAfterSegs, annotate, Ann.toD, keyAfter, h]
  | ext p c ih =>
    intro hc hst key tr fuel hf
    obtain ⟨hpne, hbr, hcc⟩ := hc
    obtain ⟨hsc, hsd⟩ := hst
    obtain ⟨f, rfl⟩ := fuel_of_height_le hf
    simp only [YP.height] at hf
    have htv := travFrom_ext H hlen db p c hpne hsc tfuel htf
    have hsub : (Ann.toD H (annotate (ext p c))).subs = [p] := rfl
    have hsuf : (Ann.toD H (annotate (ext p c))).suffix = [] := rfl
    rw [keyAfterD, hsub, keyAfterSegs]
    simp only [keyAfter]
    by_cases hlt : plt p (key.take p.length) = true
    · simp [hlt, keyAfterSegs, hsuf]
    · simp only [hlt, Bool.false_eq_true, ↓reduceIte, htv]
      by_cases hd : p.drop (cpl key p) = []
      · simp only [hd, ↓reduceIte, ih hcc hsd _ _ (f + 1) (by omega)]
        cases keyAfter c (key.drop (cpl key p)) (tr ++ p) with
        | none => simp [keyAfterSegs, hsuf]
        | some k => rfl
      · simp only [hd, ↓reduceIte, nextKeyD_ok H hlen db tfuel htf c hcc hsd _ (f + 1) (by omega)]
        cases nextKey c (tr ++ p) with
        | none => simp [hsuf]
        | some k => rfl
  | branch ch v ih =>
    intro hc hst key tr fuel hf
    obtain ⟨f, rfl⟩ := fuel_of_height_le hf
    have hsub : (Ann.toD H (annotate (branch ch v))).subs = (liveIdx ch).map (fun i => [i]) := rfl
    have hsuf : (Ann.toD H (annotate (branch ch v))).suffix = [] := rfl
    have hh : ∀ i, YP.height (ch i) + 1 ≤ YP.height (branch ch v) := YP.height_child_lt ch v
    have hlen16 : (liveIdx ch).length ≤ 16 := by
      have := List.length_filter_le (fun i => !(isBlank (ch i))) (List.finRange 16)
      simpa [liveIdx] using this
    have hsegs := keyAfterSegs_branch H db tfuel ch v key tr (20 * YP.height (branch ch v))
      (fun i key tr fuel hB => ih i (hc.1 i) (hst i).2 key tr fuel (Nat.le_trans (Nat.mul_le_mul_left 20 (hh i)) hB))
      (fun i tr fuel hB => nextKeyD_ok H hlen db tfuel htf (ch i) (hc.1 i) (hst i).2 tr fuel (by have := hh i; omega))
      (fun i => travFrom_branch H hlen db ch v i (hst i).1 tfuel htf)
      (liveIdx ch) (fun i hi => by simpa [liveIdx] using hi) (f + 2) (by omega)
    rw [keyAfterD, hsub, hsegs, hsuf, keyAfter_branch]
    have hfs : (liveIdx ch).findSome? (kaStep ch key tr) = (List.finRange 16).findSome? (kaStep ch key tr) := by
      rw [liveIdx]
      apply findSome?_filter_of_none
      intro x hx
      have hx' : isBlank (ch x) = true := by simpa using hx
      simp [kaStep, hx']
    rw [hfs]
    cases (List.finRange 16).findSome? (kaStep ch key tr) with
    | none => simp
    | some x => cases x <;> simp

theorem keyAfterD_refines (hlen : ∀ b, (H b).length = 32) (t : Node) (hc : Canon t) (db : Db) (hst : StoredD H db t)
    (key tr : Path) (tfuel fuel : Nat) (htf : 64 ≤ tfuel) (hf : 20 * (YP.height t + 1) ≤ fuel) :
    keyAfterD H db tfuel fuel (Ann.toD H (annotate t)) key tr = .ok (keyAfter t key tr) :=
  keyAfterD_ok H hlen db tfuel (by omega) t hc hst key tr fuel hf

end PyTrie.HexD
