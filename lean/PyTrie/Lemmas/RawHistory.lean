import PyTrie.Lemmas.RawRefines
import PyTrie.Lemmas.WorldGet
import PyTrie.Lemmas.RlpRoundTrip
/-! **Whole histories at raw level.** `HexRaw.rawOp` is `HexaryTrie.set` / `delete` end to end as the code does it on a
    non-pruning trie over a plain dict: fetch the root node from the database, run the raw-level `_set` / `_delete`,
    store the new root. Here: along every history accepted by the world executor (`ReachOps … false`, which carries the
    run-level no-collision facts), the raw-level run returns the same root hashes and a database that agrees with the
    executor's. Hence every world-level theorem (C01 `get` through the database, C02 canonical root, C04 completeness)
    is a theorem about the raw-level transcription. -/
namespace PyTrie.HexRaw
open PyTrie PyTrie.Hex PyTrie.HexD PyTrie.HexW
open PyTrie.Props.C01 (Op run spec applyOp)

variable (H : Bytes → Bytes)

/-- the raw database (write log, newest first) and the executor's dict answer every lookup alike -/
def DbAgrees (db : Db) (d : Dict Bytes) : Prop := ∀ h, lookup db h = Dict.get? d h

/-- a history of `set` / `delete` at raw level, threading root hash and database -/
def rawRun : List Op → Hash × Db → Except Err (Hash × Db)
  | [], s => .ok s
  | o :: rest, (root, db) =>
    match rawOp H db root (opKey o) (opVal o) with
    | .error e => .error e
    | .ok (root', st') => rawRun rest (root', st'.db)

theorem dbAgrees_cons {db : Db} {d : Dict Bytes} (hag : DbAgrees db d) (h : Hash) (b : Bytes) :
    DbAgrees ((h, b) :: db) (Dict.insert d h b) := by
  intro k
  rw [lookup_cons]
  by_cases he : k = h
  · subst he; rw [get?_insert_self]; simp
  · rw [get?_insert_other _ _ _ _ he]
    have hh : (h == k) = false := by simpa using (Ne.symm he)
    simp only [hh, Bool.false_eq_true, if_false]
    exact hag k

theorem dbAgrees_applyPersists (evs : List Ev) : ∀ (db : Db) (d : Dict Bytes), DbAgrees db d →
    DbAgrees (applyPersists db evs) (applyWrites d (writesOf evs)) := by
  induction evs with
  | nil => intro db d h; exact h
  | cons e es ih =>
    intro db d h
    cases e with
    | read x => exact ih db d h
    | prune x => exact ih db d h
    | persist x b => exact ih _ _ (dbAgrees_cons h x b)

theorem storedC_of {db : Db} {d : Dict Bytes} (hag : DbAgrees db d)
    (hbk : Dict.get? d (blankRoot H) = none) (hsm : ∀ h b, Dict.get? d h = some b → b.length < 2 ^ 64)
    (c : Node) (hg : Dict.get? d (hashOf H c) = some (enc H c)) :
    hashOf H c ≠ blankRoot H ∧ lookup db (hashOf H c) = some (enc H c) ∧
      rlpDecode (enc H c) = some (toItem H c) := by
  refine ⟨?_, ?_, ?_⟩
  · intro e; rw [e, hbk] at hg; cases hg
  · rw [hag]; exact hg
  · exact rlpDecode_rlp_of_length_lt _ (hsm _ _ hg)

theorem storedD_of_storedBelow {db : Db} {d : Dict Bytes} (hag : DbAgrees db d)
    (hbk : Dict.get? d (blankRoot H) = none) (hsm : ∀ h b, Dict.get? d h = some b → b.length < 2 ^ 64)
    (t : Node) (h : StoredBelow (stdHashing H) d t) : StoredD H db t := by
  induction t with
  | blank => trivial
  | leaf p v => trivial
  | ext p c ih => exact ⟨fun hh => storedC_of H hag hbk hsm c (h.1 hh), ih h.2⟩
  | branch ch v ih => intro i; exact ⟨fun hh => storedC_of H hag hbk hsm (ch i) ((h i).1 hh), ih i (h i).2⟩

theorem complete_root_node (T : TrieSt) (d : Dict Bytes) (hcomp : Complete (stdHashing H) (blankRoot H) d T)
    (hb : isBlank T.tree = false) :
    T.root = hashOf H T.tree ∧ Dict.get? d (hashOf H T.tree) = some (enc H T.tree) := by
  have h1 := hcomp.1
  rw [hb] at h1
  obtain ⟨hr, _, hg⟩ := h1
  have hr' : T.root = hashOf H T.tree := hr
  exact ⟨hr', hr' ▸ hg⟩

theorem getNodeR_root (hlen : ∀ b, (H b).length = 32) (T : TrieSt) {db : Db} {d : Dict Bytes}
    (hag : DbAgrees db d) (hbk : Dict.get? d (blankRoot H) = none)
    (hsm : ∀ h b, Dict.get? d h = some b → b.length < 2 ^ 64)
    (hcomp : Complete (stdHashing H) (blankRoot H) d T) :
    ∃ evs0, getNodeR H { db := db, evs := [] } (.str T.root) = .ok (toItem H T.tree, { db := db, evs := evs0 }) := by
  have h1 := hcomp.1
  cases hb : isBlank T.tree with
  | true =>
    rw [hb] at h1
    simp only [if_true] at h1
    rw [h1, (isBlank_iff T.tree).1 hb]
    exact ⟨[], by simp only [getNodeR, toItem, ↓reduceIte, ite_self]⟩
  | false =>
    obtain ⟨hr, hg⟩ := complete_root_node H T d hcomp hb
    obtain ⟨hne, hl, hd⟩ := storedC_of H hag hbk hsm T.tree hg
    rw [hr, getNodeR_hash H _ (hashOf H T.tree) (hlen _) hne]
    exact ⟨[Ev.read (hashOf H T.tree)], by simp only [hl, hd, List.nil_append]⟩

theorem setRawRoot_toItem (st : St) (n : Node) :
    setRawRoot H st (toItem H n) =
      if isBlank n then (blankRoot H, st)
      else (hashOf H n, { db := (hashOf H n, enc H n) :: st.db,
                          evs := st.evs ++ [Ev.persist (hashOf H n) (enc H n)] }) := by
  cases hb : isBlank n with
  | true => rw [(isBlank_iff n).1 hb]; simp [toItem, setRawRoot]
  | false =>
    obtain ⟨l, hl⟩ := toItem_list H n hb
    simp [setRawRoot, hl, hashOf, enc]

/-- the raw-level `_set` / `_delete` dispatch of `rawOp` computes `opTree` -/
theorem rawOp_inner (hlen : ∀ b, (H b).length = 32) (T : TrieSt) (hc : Canon T.tree) (key : Bytes)
    (val : Option Bytes) (st : St) (hst : StoredD H st.db T.tree) :
    (match val with
      | some v => if v = [] then rawDelete H (2 * (nibs key).length + 4) st (toItem H T.tree) (nibs key)
                  else rawSet H (2 * (nibs key).length + 4) st (toItem H T.tree) (nibs key) v
      | none => rawDelete H (2 * (nibs key).length + 4) st (toItem H T.tree) (nibs key)) =
    .ok (toItem H (opTree (stdHashing H) T key val).1,
         { db := applyPersists st.db (opTree (stdHashing H) T key val).2,
           evs := st.evs ++ (opTree (stdHashing H) T key val).2 }) := by
  unfold opTree
  cases val with
  | none => exact rawDelete_refines H hlen T.tree hc (nibs key) st hst _ (by omega)
  | some v =>
    simp only []
    split
    · exact rawDelete_refines H hlen T.tree hc (nibs key) st hst _ (by omega)
    · exact rawSet_refines H hlen T.tree hc (nibs key) v st hst _ (by omega)

theorem rawOp_of (db : Db) (root : Hash) (key : Bytes) (val : Option Bytes) (rn : Item) (st1 : St) (nr : Item) (st2 : St)
    (h1 : getNodeR H { db := db, evs := [] } (.str root) = .ok (rn, st1))
    (h2 : (match val with
      | some v => if v = [] then rawDelete H (2 * (nibs key).length + 4) st1 rn (nibs key)
                  else rawSet H (2 * (nibs key).length + 4) st1 rn (nibs key) v
      | none => rawDelete H (2 * (nibs key).length + 4) st1 rn (nibs key)) = .ok (nr, st2)) :
    rawOp H db root key val = .ok (setRawRoot H st2 nr) := by
  unfold rawOp
  dsimp only
  rw [h1]
  cases val with
  | none => dsimp only at h2 ⊢; rw [h2]
  | some v => dsimp only at h2 ⊢; rw [h2]

theorem opSetDel_explicit (Hs : Hashing) (blankRootHash : Hash) (T : TrieSt) (hp : T.prune = false)
    (key : Bytes) (val : Option Bytes) (s : OpSt) (hcache : s.store.cache = none)
    (hfa : s.store.failAfter = none) (hcomp : Complete Hs blankRootHash s.store.base T) :
    (opSetDel Hs blankRootHash T key val s).2 =
        .ok { T with tree := (opTree Hs T key val).1,
                     root := if isBlank (opTree Hs T key val).1 then blankRootHash
                             else Hs.hashOf (opTree Hs T key val).1 } ∧
      (opSetDel Hs blankRootHash T key val s).1.store.base =
        applyWrites s.store.base (opWrites Hs T key val) := by
  obtain ⟨s4, h4, hb4⟩ := opCore_ok Hs blankRootHash T hp key val { s with pending := [] } hcache hfa
    (complete_root_present Hs blankRootHash T s.store hcache hcomp) (opTree_reads Hs _ T key val hcomp.2)
  unfold opSetDel
  rw [h4]
  exact ⟨rfl, hb4⟩

/-- one operation: on a complete database the raw-level operation is the executor's operation -/
theorem rawOp_is_world_op (hlen : ∀ b, (H b).length = 32) (T : TrieSt) (hp : T.prune = false) (hc : Canon T.tree)
    (key : Bytes) (val : Option Bytes) (s : OpSt) (hcache : s.store.cache = none) (hfa : s.store.failAfter = none)
    (hcomp : Complete (stdHashing H) (blankRoot H) s.store.base T)
    (T' : TrieSt) (hok : (opSetDel (stdHashing H) (blankRoot H) T key val s).2 = .ok T')
    (hbk : Dict.get? s.store.base (blankRoot H) = none)
    (hsm : ∀ h b, Dict.get? s.store.base h = some b → b.length < 2 ^ 64)
    (db : Db) (hag : DbAgrees db s.store.base) :
    ∃ st', rawOp H db T.root key val = .ok (T'.root, st') ∧
      DbAgrees st'.db (opSetDel (stdHashing H) (blankRoot H) T key val s).1.store.base := by
  obtain ⟨he2, hbase⟩ := opSetDel_explicit (stdHashing H) (blankRoot H) T hp key val s hcache hfa hcomp
  rw [he2] at hok
  cases hok
  obtain ⟨evs0, hroot⟩ := getNodeR_root H hlen T hag hbk hsm hcomp
  have hin := rawOp_inner H hlen T hc key val { db := db, evs := evs0 }
    (storedD_of_storedBelow H hag hbk hsm T.tree hcomp.2)
  have hagp := dbAgrees_applyPersists (opTree (stdHashing H) T key val).2 db s.store.base hag
  rw [rawOp_of H db T.root key val _ _ _ _ hroot hin, setRawRoot_toItem, hbase, opWrites, applyWrites_append]
  cases hb : isBlank (opTree (stdHashing H) T key val).1 with
  | true => exact ⟨_, rfl, hagp⟩
  | false => exact ⟨_, rfl, dbAgrees_cons hagp _ _⟩

theorem rawRun_snoc (ops : List Op) (o : Op) : ∀ (s0 : Hash × Db) (root : Hash) (db : Db),
    rawRun H ops s0 = .ok (root, db) →
    rawRun H (ops ++ [o]) s0 =
      match rawOp H db root (opKey o) (opVal o) with
      | .error e => .error e
      | .ok (root', st') => .ok (root', st'.db) := by
  induction ops with
  | nil =>
    intro s0 root db h
    simp only [rawRun] at h
    injection h with h
    subst h
    simp only [List.nil_append, rawRun]
  | cons a rest ih =>
    intro s0 root db h
    obtain ⟨r0, db0⟩ := s0
    simp only [List.cons_append, rawRun] at h ⊢
    split
    · next e he => rw [he] at h; cases h
    · next r1 st1 he =>
      rw [he] at h
      exact ih _ root db h

theorem complete_root (T : TrieSt) (d : Dict Bytes) (hcomp : Complete (stdHashing H) (blankRoot H) d T) :
    T.root = rootHash H T.tree := by
  have h1 := hcomp.1
  cases hb : isBlank T.tree with
  | true =>
    rw [hb, if_pos rfl] at h1
    rw [h1, (isBlank_iff T.tree).1 hb]
    simp [rootHash, enc_blank, blankRoot]
  | false => exact (complete_root_node H T d hcomp hb).1

theorem rawRun_is_world_run (hlen : ∀ b, (H b).length = 32) (ops : List Op) (T : TrieSt) (s : OpSt)
    (h : ReachOps (stdHashing H) (blankRoot H) false ops T s)
    (hbk : Dict.get? s.store.base (blankRoot H) = none)
    (hsm : ∀ h b, Dict.get? s.store.base h = some b → b.length < 2 ^ 64) :
    ∃ db, rawRun H ops (blankRoot H, []) = .ok (T.root, db) ∧ DbAgrees db s.store.base := by
  induction h with
  | init => exact ⟨[], rfl, fun _ => rfl⟩
  | step ops T s o T' hreach hrs hbl hnc hok ih =>
    obtain ⟨htree, hprune, hcache, hfa, hdb⟩ := reachOps_inv _ _ false ops T s hreach
    simp only [Bool.false_eq_true, if_false] at hdb
    -- the side conditions hold of the database before the step, since the step overwrites nothing
    obtain ⟨_, hbase⟩ := opSetDel_explicit (stdHashing H) (blankRoot H) T hprune (opKey o) (opVal o) s hcache hfa hdb
    obtain ⟨hpres, _⟩ := applyWrites_noClobber _ _ (hnc rfl)
    rw [← hbase] at hpres
    have hbk0 : Dict.get? s.store.base (blankRoot H) = none := by
      cases hg : Dict.get? s.store.base (blankRoot H) with
      | none => rfl
      | some b => rw [hpres _ _ hg] at hbk; cases hbk
    have hsm0 : ∀ h b, Dict.get? s.store.base h = some b → b.length < 2 ^ 64 :=
      fun h b hg => hsm h b (hpres h b hg)
    obtain ⟨db, hrun, hag⟩ := ih hbk0 hsm0
    obtain ⟨st', hop, hag'⟩ := rawOp_is_world_op H hlen T hprune (htree ▸ PyTrie.Props.C01.canon_run ops) (opKey o)
      (opVal o) s hcache hfa hdb T' hok hbk0 hsm0 db hag
    exact ⟨st'.db, by rw [rawRun_snoc H ops o _ _ _ hrun, hop], hag'⟩

theorem reachOps_root (ops : List Op) (T : TrieSt) (s : OpSt)
    (h : ReachOps (stdHashing H) (blankRoot H) false ops T s) : T.root = rootHash H (run ops) := by
  obtain ⟨htree, _, _, _, hdb⟩ := reachOps_inv _ _ false ops T s h
  exact htree ▸ complete_root H T _ hdb

/-! ### Reads after a raw-level history
    The database-level `get` (`HexD.getD`: `HexaryTrie.get` over rlp-decoded nodes fetched from the database) on the root
    hash and database produced by the raw-level run returns the map model's value. -/

theorem storedC_getProof (db : Db) (t : Node) (hs : StoredD H db t) (h0 : StoredC H db t) (k : Path) :
    ∀ n ∈ getProof t k, StoredC H db n := by
  intro n hn
  cases hb : isBlank t with
  | true => rw [(isBlank_iff t).1 hb] at hn; cases hn
  | false =>
    rw [getProof_eq_cons t k hb] at hn
    exact (List.mem_cons.1 hn).elim (· ▸ h0)
      (mem_getProof_tail_of_below (StoredC H db) (StoredD H db) (fun _ _ h => h) (fun _ _ i h => h i) t k hs n)

/-- a node that is not hashed has a short encoding, which decodes back -/
theorem decode_of_not_hashed (n : Node) (h : isHashed H n = false) :
    rlpDecode (enc H n) = some (toItem H n) := by
  apply rlpDecode_rlp_of_length_lt
  cases hb : isBlank n with
  | true =>
    rw [(isBlank_iff n).1 hb]
    have := enc_blank H
    simp only [enc] at this
    rw [this]; decide
  | false =>
    simp only [isHashed, hb, Bool.not_false, Bool.true_and, decide_eq_false_iff_not, Nat.not_le] at h
    simp only [enc] at h
    omega

theorem getD_of_complete (hlen : ∀ b, (H b).length = 32) (T : TrieSt) (hc : Canon T.tree) (d : Dict Bytes)
    (hcomp : Complete (stdHashing H) (blankRoot H) d T)
    (hbk : Dict.get? d (blankRoot H) = none) (hsm : ∀ h b, Dict.get? d h = some b → b.length < 2 ^ 64)
    (db : Db) (hag : DbAgrees db d) (k : Path) :
    getD H db T.root k = .ok (Hex.get T.tree k) := by
  -- the root node, when not blank, is stored under the root hash
  have hroot : isBlank T.tree = false → hashOf H T.tree ≠ blankRoot H ∧
      lookup db (hashOf H T.tree) = some (enc H T.tree) ∧ rlpDecode (enc H T.tree) = some (toItem H T.tree) :=
    fun hb => storedC_of H hag hbk hsm T.tree (complete_root_node H T d hcomp hb).2
  have hall := storedC_getProof H db T.tree (storedD_of_storedBelow H hag hbk hsm T.tree hcomp.2)
    (fun hh => hroot (isBlank_of_isHashed H _ hh)) k
  rw [complete_root H T d hcomp]
  apply getD_of_path H hlen T.tree hc db k
  · intro n hn
    cases hh : isHashed H n with
    | true => exact (hall n hn hh).2.2
    | false => exact decode_of_not_hashed H n hh
  · intro n hn hs
    rcases hs with he | hh
    · have hb : isBlank T.tree = false := by
        cases hb : isBlank T.tree with
        | false => rfl
        | true => rw [he, (isBlank_iff T.tree).1 hb] at hn; simp [getProof] at hn
      exact he ▸ ⟨(hroot hb).1, (hroot hb).2.1⟩
    · exact ⟨(hall n hn hh).1, (hall n hn hh).2.1⟩

/-- **end to end at raw level**: run any history through the raw-level `set`/`delete`, then look any key up through the
    database: the value is the last one stored under that key (`b""` if none / deleted) -/
theorem rawRun_get (hlen : ∀ b, (H b).length = 32) (ops : List Op) (T : TrieSt) (s : OpSt)
    (h : ReachOps (stdHashing H) (blankRoot H) false ops T s)
    (hbk : Dict.get? s.store.base (blankRoot H) = none)
    (hsm : ∀ h b, Dict.get? s.store.base h = some b → b.length < 2 ^ 64) (key : Bytes) :
    ∃ db, rawRun H ops (blankRoot H, []) = .ok (rootHash H (run ops), db) ∧
      getD H db (rootHash H (run ops)) (nibs key) = .ok (spec ops key) := by
  obtain ⟨db, hrun, hag⟩ := rawRun_is_world_run H hlen ops T s h hbk hsm
  obtain ⟨htree, _, _, _, hdb⟩ := reachOps_inv _ _ false ops T s h
  have hroot := reachOps_root H ops T s h
  refine ⟨db, hroot ▸ hrun, ?_⟩
  rw [← hroot, getD_of_complete H hlen T (htree ▸ PyTrie.Props.C01.canon_run ops) s.store.base hdb hbk hsm db hag,
    htree, PyTrie.Props.C01.run_get]

end PyTrie.HexRaw
