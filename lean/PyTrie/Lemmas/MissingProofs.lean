import PyTrie.Model.HexWorld
import PyTrie.Lemmas.HexTrav
import PyTrie.Lemmas.HexEff
/-! C07: behaviour of `get` / `traverse` / `set` / `delete` when node bodies are absent from the store.

`traverseReads Hs t k pre` lists the hashed nodes `_traverse_from` fetches while following `k`, each with the
nibbles consumed to reach it; `opGet` / `opTraverse` report the first absent one. `setE` / `deleteE` list
the database traffic of `_set` / `_delete` in the code's order; `runEvs` stops at the first event that raises. -/
namespace PyTrie.HexW
open PyTrie.Hex hiding get set
open PyTrie.Hex.Node

variable (Hs : Hashing) (blankRootHash : Hash)

theorem traverseReads_on_path (t : Node) (hc : Canon t) (k pre : Path) (h : Hash) (used : Path)
    (hm : (h, used) ∈ traverseReads Hs t k pre) :
    ∃ q n, used = pre ++ q ∧ q <+: k ∧ q ≠ [] ∧ nodeAt t q = some n ∧ Hs.hashed n = true ∧ Hs.hashOf n = h := by
  fun_induction traverseReads Hs t k pre with
  | case1 | case2 | case3 | case5 => cases hm
  | case4 p c a k pre n hd ih =>
    obtain ⟨hpne, _, hcc⟩ := hc
    obtain ⟨r, hr⟩ := (cpl_drop_left_nil_iff p (a :: k)).1 hd
    simp only [n, ← hr, cpl_append_left, List.take_left, List.drop_left, List.mem_append] at hm ih ⊢
    rcases hm with h1 | h2
    · split at h1
      · next hh =>
        cases List.mem_singleton.1 h1
        exact ⟨p, c, rfl, List.prefix_append _ _, hpne, by simpa using nodeAt_ext_append p c [] c (by simp [nodeAt]) hpne,
          hh, rfl⟩
      · cases h1
    · obtain ⟨q, n, hu, hq, _, hn, hh⟩ := ih hcc h2
      exact ⟨p ++ q, n, by simp [hu], (List.prefix_append_right_inj p).2 hq, by simp [hpne],
        nodeAt_ext_append p c q n hn hpne, hh⟩
  | case6 ch v a k pre ih =>
    rcases List.mem_append.1 hm with h1 | h2
    · split at h1
      · next hh =>
        cases List.mem_singleton.1 h1
        exact ⟨[a], ch a, rfl, by simp, by simp, by simp [nodeAt], hh, rfl⟩
      · cases h1
    · obtain ⟨q, n, hu, hq, _, hn, hh⟩ := ih (hc.1 a) h2
      exact ⟨a :: q, n, by simp [hu], by simpa using hq, by simp, by simpa [nodeAt] using hn, hh⟩

theorem find?_absent {l : List (Hash × Path)} {st : Store} {h : Hash} {pre : Path}
    (hf : l.find? (fun e => !(st.contains e.1)) = some (h, pre)) : (h, pre) ∈ l ∧ st.contains h = false :=
  ⟨List.mem_of_find?_eq_some hf, by simpa using List.find?_some hf⟩

/-- why a lookup raises: the root fetch, or the first fetch on the key's path that the store cannot answer -/
theorem opGet_error (T : TrieSt) (key : Bytes) (s : OpSt) (e : Exn)
    (he : opGet Hs blankRootHash T key s = .error e) :
    (T.root ≠ blankRootHash ∧ s.store.contains T.root = false ∧
      e = .missingTrieNode T.root T.root key (some [])) ∨
    ∃ h pre, (h, pre) ∈ traverseReads Hs T.tree (nibs key) [] ∧ s.store.contains h = false ∧
      e = .missingTrieNode h T.root key (some pre) := by
  unfold opGet at he
  split at he
  · next hroot =>
    simp only [Bool.and_eq_true, bne_iff_ne, ne_eq, Bool.not_eq_true'] at hroot
    exact .inl ⟨hroot.1, hroot.2, (Except.error.inj he).symm⟩
  · split at he
    · next h pre hf => exact .inr ⟨h, pre, (find?_absent hf).1, (find?_absent hf).2, (Except.error.inj he).symm⟩
    · obtain ⟨v, hv⟩ := getT_ne_error T.tree (nibs key)
      rw [hv] at he
      cases he

theorem Dict.contains_insert_self {α} (d : Dict α) (h : Hash) (v : α) :
    (Dict.insert d h v).contains h = true := by
  unfold Dict.insert
  split
  · next hc =>
    simp only [Dict.contains, List.any_eq_true, List.mem_map] at hc ⊢
    obtain ⟨e, he, heh⟩ := hc
    exact ⟨_, ⟨e, he, rfl⟩, by simp [heh]⟩
  · simp [Dict.contains]

theorem Dict.contains_insert_mono {α} (d : Dict α) (h x : Hash) (v : α) (hx : d.contains x = true) :
    (Dict.insert d h v).contains x = true := by
  unfold Dict.insert
  split
  · simp only [Dict.contains, List.any_eq_true, List.mem_map] at hx ⊢
    obtain ⟨e, he, hex⟩ := hx
    refine ⟨_, ⟨e, he, rfl⟩, ?_⟩
    by_cases heh : (e.1 == h) = true
    · simp only [heh, ↓reduceIte]
      simp at heh hex; simp [← heh, hex]
    · simp only [heh]; exact hex
  · simp only [Dict.contains, List.any_append] at hx ⊢; simp [hx]

theorem Store.contains_insert_self (s : Store) (h : Hash) (body : Bytes) :
    ({ s with base := Dict.insert s.base h body } : Store).contains h = true := by
  unfold Store.contains
  split
  · exact Dict.contains_insert_self _ _ _
  · split
    · rfl
    · exact Dict.contains_insert_self _ _ _

theorem Store.contains_insert_mono (s : Store) (h x : Hash) (body : Bytes) (hx : s.contains x = true) :
    ({ s with base := Dict.insert s.base h body } : Store).contains x = true := by
  unfold Store.contains at hx ⊢
  simp only [] at hx ⊢
  split
  · next hc => rw [hc] at hx; exact Dict.contains_insert_mono _ _ _ _ hx
  · next c hc =>
    rw [hc] at hx
    simp only [] at hx
    split
    · rfl
    · next hn =>
      split at hx
      · next v hv => exact absurd hv (hn v)
      · exact Dict.contains_insert_mono _ _ _ _ hx

/-- the fetches still outstanding for a lookup: hashed path nodes absent from the store -/
def outstanding (T : TrieSt) (key : Bytes) (st : Store) : List Hash :=
  ((traverseReads Hs T.tree (nibs key) []).map (·.1)).filter (fun h => !(st.contains h))

/-- what is absent from a larger store was absent from the smaller one -/
theorem absent_filter_eq (L : List Hash) (st st' : Store)
    (hmono : ∀ x, st.contains x = true → st'.contains x = true) :
    L.filter (fun h => !(st'.contains h)) =
      (L.filter (fun h => !(st.contains h))).filter (fun h => !(st'.contains h)) := by
  rw [List.filter_filter]
  congr 1
  funext x
  cases hs : st.contains x
  · simp
  · simp [hmono x hs]

theorem absent_filter_le (L : List Hash) (st st' : Store)
    (hmono : ∀ x, st.contains x = true → st'.contains x = true) :
    (L.filter (fun h => !(st'.contains h))).length ≤ (L.filter (fun h => !(st.contains h))).length := by
  rw [absent_filter_eq L st st' hmono]
  exact List.length_filter_le ..

theorem absent_filter_lt (L : List Hash) (st st' : Store)
    (hmono : ∀ x, st.contains x = true → st'.contains x = true)
    (h : Hash) (hm : h ∈ L) (habs : st.contains h = false) (hself : st'.contains h = true) :
    (L.filter (fun h => !(st'.contains h))).length < (L.filter (fun h => !(st.contains h))).length := by
  rw [absent_filter_eq L st st' hmono]
  exact List.length_filter_lt_length_iff_exists.2 ⟨h, List.mem_filter.2 ⟨hm, by simp [habs]⟩, by simp [hself]⟩

/-- **retry converges**: after supplying exactly the reported node (any body) the same lookup never
    reports that hash again and strictly fewer fetches are outstanding; so at most
    `1 + (traverseReads …).length` attempts are needed and no hash is asked for twice -/
theorem opGet_retry_progress_gen (T : TrieSt) (key : Bytes) (s : OpSt)
    (h root rk : Bytes) (pre : Option Path) (body : Bytes)
    (he : opGet Hs blankRootHash T key s = .error (.missingTrieNode h root rk pre)) :
    let s' : OpSt := { s with store := { s.store with base := Dict.insert s.store.base h body } }
    (∀ root' rk' pre', opGet Hs blankRootHash T key s' ≠ .error (.missingTrieNode h root' rk' pre')) ∧
    (h = T.root ∨ (outstanding Hs T key s'.store).length < (outstanding Hs T key s.store).length) ∧
    (∀ x, s.store.contains x = true → s'.store.contains x = true) := by
  intro s'
  have hself : s'.store.contains h = true := Store.contains_insert_self s.store h body
  have hmono : ∀ x, s.store.contains x = true → s'.store.contains x = true :=
    fun x hx => Store.contains_insert_mono s.store h x body hx
  refine ⟨fun root' rk' pre' he' => ?_, ?_, hmono⟩
  · have habs : s'.store.contains h = false := by
      rcases opGet_error Hs blankRootHash T key s' _ he' with ⟨_, habs, e⟩ | ⟨_, _, _, habs, e⟩ <;>
        cases e <;> exact habs
    rw [hself] at habs
    cases habs
  · rcases opGet_error Hs blankRootHash T key s _ he with ⟨_, _, e⟩ | ⟨_, pre', hm, habs, e⟩ <;> cases e
    · exact .inl rfl
    · exact .inr (absent_filter_lt _ _ _ hmono h (List.mem_map.2 ⟨_, hm, rfl⟩) habs hself)

/-- `opGet_retry_progress_gen` for a store with no scratch cache in front of the database -/
theorem opGet_retry_progress (T : TrieSt) (key : Bytes) (s : OpSt) (hcache : s.store.cache = none)
    (h root rk : Bytes) (pre : Option Path) (body : Bytes)
    (he : opGet Hs blankRootHash T key s = .error (.missingTrieNode h root rk pre)) :
    let s' : OpSt := { s with store := { s.store with base := Dict.insert s.store.base h body } }
    (∀ root' rk' pre', opGet Hs blankRootHash T key s' ≠ .error (.missingTrieNode h root' rk' pre')) ∧
    (h = T.root ∨ (outstanding Hs T key s'.store).length < (outstanding Hs T key s.store).length) ∧
    (∀ x, s.store.contains x = true → s'.store.contains x = true) := by
  have _ := hcache
  exact opGet_retry_progress_gen Hs blankRootHash T key s h root rk pre body he

/-- in the event list of `_set` no fetch follows a database write -/
def ReadsFirst : List Ev → Prop
  | [] => True
  | .persist _ _ :: rest => (∀ e ∈ rest, ∀ h, e ≠ Ev.read h) ∧ ReadsFirst rest
  | _ :: rest => ReadsFirst rest

def NoRead (l : List Ev) : Prop := ∀ e ∈ l, ∀ h, e ≠ Ev.read h
def NoPersist (l : List Ev) : Prop := ∀ e ∈ l, ∀ h b, e ≠ Ev.persist h b

@[simp] theorem noRead_nil : NoRead [] := by simp [NoRead]
@[simp] theorem noPersist_nil : NoPersist [] := by simp [NoPersist]
@[simp] theorem noRead_append (a b : List Ev) : NoRead (a ++ b) ↔ NoRead a ∧ NoRead b := by
  simp only [NoRead, List.mem_append, or_imp, forall_and]
@[simp] theorem noPersist_append (a b : List Ev) : NoPersist (a ++ b) ↔ NoPersist a ∧ NoPersist b := by
  simp only [NoPersist, List.mem_append, or_imp, forall_and]
@[simp] theorem noRead_pruneEv (n : Node) : NoRead (pruneEv Hs n) := by
  unfold pruneEv; split <;> simp [NoRead]
@[simp] theorem noRead_persistEv (n : Node) : NoRead (persistEv Hs n) := by
  unfold persistEv; split <;> simp [NoRead]
@[simp] theorem noPersist_pruneEv (n : Node) : NoPersist (pruneEv Hs n) := by
  unfold pruneEv; split <;> simp [NoPersist]
@[simp] theorem noPersist_readEv (n : Node) : NoPersist (readEv Hs n) := by
  unfold readEv; split <;> simp [NoPersist]
@[simp] theorem noRead_ite (c : Prop) [Decidable c] (a b : List Ev) (ha : NoRead a) (hb : NoRead b) :
    NoRead (if c then a else b) := by split <;> assumption
@[simp] theorem persistEv_blank : persistEv Hs blank = [] := by simp [persistEv, Hs.hashed_blank]

@[simp] theorem mem_readEv (n : Node) (h : Hash) :
    Ev.read h ∈ readEv Hs n ↔ Hs.hashed n = true ∧ Hs.hashOf n = h := by
  unfold readEv
  split
  · next hh => simp only [List.mem_singleton, Ev.read.injEq, hh, true_and]; exact eq_comm
  · next hh => simp [hh]

theorem not_mem_of_noRead {l : List Ev} (hn : NoRead l) (h : Hash) : Ev.read h ∉ l :=
  fun hm => hn _ hm h rfl

@[simp] theorem read_mem_pruneEv (n : Node) (h : Hash) : Ev.read h ∈ pruneEv Hs n ↔ False :=
  iff_false_intro (not_mem_of_noRead (noRead_pruneEv Hs n) h)

@[simp] theorem read_mem_persistEv (n : Node) (h : Hash) : Ev.read h ∈ persistEv Hs n ↔ False :=
  iff_false_intro (not_mem_of_noRead (noRead_persistEv Hs n) h)

theorem readsFirst_of_noRead (l : List Ev) (h : NoRead l) : ReadsFirst l := by
  induction l with
  | nil => trivial
  | cons e l ih =>
    have hl : NoRead l := fun x hx => h x (List.mem_cons_of_mem _ hx)
    cases e with
    | read x => exact absurd rfl (h _ (List.mem_cons_self ..) x)
    | prune x => exact ih hl
    | persist x b => exact ⟨hl, ih hl⟩

theorem readsFirst_of_noPersist (l : List Ev) (h : NoPersist l) : ReadsFirst l := by
  induction l with
  | nil => trivial
  | cons e l ih =>
    have hl : NoPersist l := fun x hx => h x (List.mem_cons_of_mem _ hx)
    cases e with
    | read x => exact ih hl
    | prune x => exact ih hl
    | persist x b => exact absurd rfl (h _ (List.mem_cons_self ..) x b)

theorem readsFirst_append (a b : List Ev) (ha : ReadsFirst a) (hb : ReadsFirst b)
    (h : NoPersist a ∨ NoRead b) : ReadsFirst (a ++ b) := by
  induction a with
  | nil => exact hb
  | cons e a ih =>
    have h' : NoPersist a ∨ NoRead b := h.imp (fun h x hx => h x (List.mem_cons_of_mem _ hx)) id
    cases e with
    | read x => exact ih ha h'
    | prune x => exact ih ha h'
    | persist x bd =>
      have hnr : NoRead b := h.elim (fun h => absurd rfl (h _ (List.mem_cons_self ..) x bd)) id
      refine ⟨?_, ih ha.2 h'⟩
      intro e he
      rcases List.mem_append.1 he with h1 | h2
      · exact ha.1 e h1
      · exact hnr e h2

/-- visiting a node: prune mark, fetch of the child, the child's traffic, write-back of the new child -/
theorem readsFirst_visit (a b c : Node) (es : List Ev) (h : ReadsFirst es) :
    ReadsFirst (pruneEv Hs a ++ readEv Hs b ++ es ++ persistEv Hs c) :=
  readsFirst_append _ _ (readsFirst_append _ _ (readsFirst_of_noPersist _ (by simp)) h (.inl (by simp)))
    (readsFirst_of_noRead _ (by simp)) (.inr (by simp))

theorem setE_leaf_noRead (p : Path) (pv : Bytes) (k : Path) (v : Bytes) : NoRead (setE Hs (leaf p pv) k v).2 := by
  simp only [setE]
  split <;> simp

theorem setE_readsFirst (t : Node) (k : Path) (v : Bytes) : ReadsFirst (setE Hs t k v).2 := by
  induction t generalizing k with
  | blank => simp [setE, ReadsFirst]
  | leaf p pv => exact readsFirst_of_noRead _ (setE_leaf_noRead Hs p pv k v)
  | ext p c ih =>
    simp only [setE]
    split
    · exact readsFirst_visit Hs _ _ _ _ (ih _)
    · apply readsFirst_of_noRead; simp
    · apply readsFirst_of_noRead; simp
  | branch ch bv ih =>
    cases k with
    | nil => apply readsFirst_of_noRead; simp [setE]
    | cons n k => exact readsFirst_visit Hs _ _ _ _ (ih n k)

theorem normalizeE_noPersist (ch : Nib → Node) (v : Bytes) : NoPersist (normalizeE Hs ch v).2 := by
  unfold normalizeE
  split
  · simp
  · simp
  · split <;> simp
  · simp

theorem normalizeE_reads_child (ch : Nib → Node) (v : Bytes) (h : Hash)
    (hm : Ev.read h ∈ (normalizeE Hs ch v).2) : ∃ i, Hs.hashed (ch i) = true ∧ Hs.hashOf (ch i) = h := by
  unfold normalizeE at hm
  split at hm
  · cases hm
  · cases hm
  · next i _ => split at hm <;> exact ⟨i, by simpa using hm⟩
  · cases hm

/-- the traffic of `_delete` at an extension on the key's path: the visit of the child, then at most a prune
    mark; the result is blank only if the child's is -/
theorem deleteE_ext_evs (p : Path) (c : Node) (k : Path) (hpk : p <+: k) :
    ∃ tl, (deleteE Hs (ext p c) k).2 =
        pruneEv Hs (ext p c) ++ readEv Hs c ++ (deleteE Hs c (k.drop p.length)).2 ++
          persistEv Hs (deleteE Hs c (k.drop p.length)).1 ++ tl ∧
      NoRead tl ∧ NoPersist tl ∧
      ((deleteE Hs (ext p c) k).1 = blank → (deleteE Hs c (k.drop p.length)).1 = blank) := by
  simp only [deleteE, hpk, ↓reduceIte]
  generalize deleteE Hs c (k.drop p.length) = r
  split
  · exact ⟨[], (List.append_nil _).symm, noRead_nil, noPersist_nil, nofun⟩
  · split
    · next e => exact ⟨[], (List.append_nil _).symm, noRead_nil, noPersist_nil, fun _ => e⟩
    · exact ⟨_, rfl, noRead_pruneEv Hs _, noPersist_pruneEv Hs _, nofun⟩
    · exact ⟨_, rfl, noRead_pruneEv Hs _, noPersist_pruneEv Hs _, nofun⟩
    · exact ⟨[], (List.append_nil _).symm, noRead_nil, noPersist_nil, nofun⟩

/-- … and at a branch: the visit of the child, then, only if the child became blank, the traffic of
    `_normalize_branch_node`; the result is blank only if the child's is -/
theorem deleteE_branch_evs (ch : Nib → Node) (v : Bytes) (n : Nib) (k : Path) :
    ∃ tl, (deleteE Hs (branch ch v) (n :: k)).2 =
        pruneEv Hs (branch ch v) ++ readEv Hs (ch n) ++ (deleteE Hs (ch n) k).2 ++
          persistEv Hs (deleteE Hs (ch n) k).1 ++ tl ∧
      (tl = [] ∨ (deleteE Hs (ch n) k).1 = blank ∧ tl = (normalizeE Hs (upd ch n blank) v).2) ∧
      ((deleteE Hs (branch ch v) (n :: k)).1 = blank → (deleteE Hs (ch n) k).1 = blank) := by
  simp only [deleteE]
  generalize deleteE Hs (ch n) k = r
  split
  · exact ⟨[], (List.append_nil _).symm, .inl rfl, nofun⟩
  · split
    · next hb =>
      have e := (isBlank_iff _).1 hb
      exact ⟨_, rfl, .inr ⟨e, by rw [e]⟩, fun _ => e⟩
    · exact ⟨[], (List.append_nil _).symm, .inl rfl, nofun⟩

theorem deleteE_blank_noPersist (t : Node) (k : Path) (hb : (deleteE Hs t k).1 = blank) :
    NoPersist (deleteE Hs t k).2 := by
  induction t generalizing k with
  | blank => simp [deleteE]
  | leaf p v => simp [deleteE]
  | ext p c ih =>
    by_cases hpk : p <+: k
    · obtain ⟨tl, he, _, htl, hbl⟩ := deleteE_ext_evs Hs p c k hpk
      rw [he]
      simp [ih _ (hbl hb), hbl hb, htl]
    · simp [deleteE, hpk]
  | branch ch v ih =>
    cases k with
    | nil => simp [deleteE, normalizeE_noPersist]
    | cons n k =>
      obtain ⟨tl, he, htl, hbl⟩ := deleteE_branch_evs Hs ch v n k
      rw [he]
      rcases htl with rfl | ⟨_, rfl⟩ <;> simp [ih n k (hbl hb), hbl hb, normalizeE_noPersist]

/-- in the traffic of `_delete` no fetch follows a write: a subtree that becomes blank persisted nothing, so
    the sibling fetch of `_normalize_branch_node` still precedes every write -/
theorem deleteE_readsFirst_gen (t : Node) (k : Path) : ReadsFirst (deleteE Hs t k).2 := by
  induction t generalizing k with
  | blank => simp [deleteE, ReadsFirst]
  | leaf p v => apply readsFirst_of_noRead; simp [deleteE]
  | ext p c ih =>
    by_cases hpk : p <+: k
    · obtain ⟨tl, he, htl, _⟩ := deleteE_ext_evs Hs p c k hpk
      rw [he]
      exact readsFirst_append _ _ (readsFirst_visit Hs _ _ _ _ (ih _)) (readsFirst_of_noRead _ htl) (.inr htl)
    · apply readsFirst_of_noRead; simp [deleteE, hpk]
  | branch ch v ih =>
    cases k with
    | nil => apply readsFirst_of_noPersist; simp [deleteE, normalizeE_noPersist]
    | cons n k =>
      obtain ⟨tl, he, htl, _⟩ := deleteE_branch_evs Hs ch v n k
      rw [he]
      rcases htl with rfl | ⟨e, rfl⟩
      · simpa using readsFirst_visit Hs _ _ _ _ (ih n k)
      · apply readsFirst_of_noPersist
        simp [e, deleteE_blank_noPersist Hs _ _ e, normalizeE_noPersist]

/-- the statement for a canonical trie with sound reference equality -/
theorem deleteE_readsFirst (t : Node) (hc : Canon t) (k : Path) (hrs : RefSound Hs t k) :
    ReadsFirst (deleteE Hs t k).2 := by
  have _ := hc
  have _ := hrs
  exact deleteE_readsFirst_gen Hs t k

/-- only a fetch raises `MissingTrieNode`: for a hash the store lacks, with the trie's root and the key -/
theorem runEv_missing (prune : Bool) (root key : Bytes) (s : OpSt) (e : Ev) (h root' rk : Bytes) (pre : Option Path)
    (he : runEv prune root key s e = .error (.missingTrieNode h root' rk pre)) :
    e = .read h ∧ s.store.contains h = false ∧ root' = root ∧ rk = key := by
  cases e with
  | read y =>
    simp only [runEv] at he
    split at he
    · cases he
    · next hy => cases he; exact ⟨rfl, by simpa using hy, rfl, rfl⟩
  | prune y => cases he
  | persist y b => simp only [runEv, setDbValue] at he; split at he <;> cases he

theorem runEv_quiet (prune : Bool) (root key : Bytes) (s s' : OpSt) (e : Ev) (hp : ∀ y b, e ≠ .persist y b)
    (he : runEv prune root key s e = .ok s') : s'.store = s.store ∧ s'.counts = s.counts := by
  cases e with
  | read y => simp only [runEv] at he; split at he <;> cases he; exact ⟨rfl, rfl⟩
  | prune y => cases he; cases prune <;> exact ⟨rfl, rfl⟩
  | persist y b => exact absurd rfl (hp y b)

/-- a `MissingTrieNode` out of an event list whose fetches precede its writes: it is one of the fetches, only
    fetches and prune notes ran, so store and counts are untouched, and the reported hash is absent -/
theorem runEvs_missing (prune : Bool) (root key : Bytes) (s : OpSt) (es : List Ev) (hrf : ReadsFirst es)
    (h root' rk : Bytes) (pre : Option Path)
    (he : (runEvs prune root key s es).2 = some (.missingTrieNode h root' rk pre)) :
    (runEvs prune root key s es).1.store = s.store ∧ (runEvs prune root key s es).1.counts = s.counts ∧
    s.store.contains h = false ∧ root' = root ∧ rk = key ∧ Ev.read h ∈ es := by
  have noRead : ∀ (es : List Ev) (s : OpSt), NoRead es →
      (runEvs prune root key s es).2 ≠ some (.missingTrieNode h root' rk pre) := by
    intro es
    induction es with
    | nil => nofun
    | cons e es ih =>
      intro s hnr he
      simp only [runEvs] at he
      split at he
      · next s' _ => exact ih s' (fun x hx => hnr x (List.mem_cons_of_mem _ hx)) he
      · next x hx =>
        cases he
        exact hnr _ (List.mem_cons_self ..) h (runEv_missing prune root key s e h root' rk pre hx).1
  induction es generalizing s with
  | nil => cases he
  | cons e es ih =>
    simp only [runEvs] at he ⊢
    split at he
    · next s' hs' =>
      cases e with
      | persist y b => exact absurd he (noRead es s' hrf.1)
      | read y | prune y =>
        obtain ⟨a, b, c, d, e, f⟩ := ih s' hrf he
        obtain ⟨hst, hct⟩ := runEv_quiet prune root key s s' _ (by simp) hs'
        exact ⟨a.trans hst, b.trans hct, hst ▸ c, d, e, List.mem_cons_of_mem _ f⟩
    · next x hx =>
      cases he
      obtain ⟨rfl, a, b, c⟩ := runEv_missing prune root key s e h root' rk pre hx
      exact ⟨rfl, rfl, a, b, c, List.mem_cons_self ..⟩

theorem writeRoot_error_kind (T : TrieSt) (new : Node) (s : OpSt) (x : Exn)
    (h : writeRoot Hs blankRootHash T new s = .error x) : x = .writeFailed := by
  unfold writeRoot at h
  split at h
  · simp at h
  · split at h
    · simp at h
    · next y hy =>
      simp only [setDbValue] at hy
      split at hy
      · simp at hy h; rw [← h, ← hy]
      · simp at hy

theorem completePruning_error_kind (s : OpSt) (l : List (Hash × Nat)) (x : Exn)
    (h : (completePruning s l).2 = some x) : ∃ w, x = .validation w := by
  induction l generalizing s with
  | nil => simp [completePruning] at h
  | cons kn rest ih =>
    simp only [completePruning] at h
    split at h
    · next s' _ => exact ih s' h
    · next y hy =>
      simp only [pruneStep] at hy
      split at hy
      · split at hy
        · simp at hy h; exact ⟨_, by rw [← h, ← hy]⟩
        · simp at hy
      · simp at hy

theorem finishPrune_error_kind (T : TrieSt) (s : OpSt) (x : Exn)
    (h : (finishPrune T s).2 = some x) : ∃ w, x = .validation w := by
  unfold finishPrune at h
  split at h
  · exact completePruning_error_kind s _ x h
  · simp at h

theorem opTree_readsFirst (T : TrieSt) (key : Bytes) (val : Option Bytes) :
    ReadsFirst (opTree Hs T key val).2 := by
  unfold opTree
  split
  · split
    · exact deleteE_readsFirst_gen Hs _ _
    · exact setE_readsFirst Hs _ _ _
  · exact deleteE_readsFirst_gen Hs _ _

/-- a `MissingTrieNode` out of the body of `set` / `delete` comes from the root fetch or from one of the fetches
    of the tree-level work; store and counts are as at entry and the reported hash is absent -/
theorem opCore_missing (T : TrieSt) (key : Bytes) (val : Option Bytes) (s : OpSt)
    (h root rk : Bytes) (pre : Option Path) (r : OpSt × Except Exn TrieSt)
    (hr : opCore Hs blankRootHash T key val s = r)
    (he : r.2 = .error (.missingTrieNode h root rk pre)) :
    r.1.store = s.store ∧ r.1.counts = s.counts ∧ s.store.contains h = false ∧ root = T.root ∧ rk = key ∧
    ((T.root ≠ blankRootHash ∧ h = T.root) ∨ Ev.read h ∈ (opTree Hs T key val).2) := by
  unfold opCore at hr
  split at hr
  · next hroot =>
    subst hr
    simp at he hroot
    obtain ⟨rfl, rfl, rfl, rfl⟩ := he
    exact ⟨rfl, rfl, hroot.2, rfl, rfl, .inl ⟨hroot.1, rfl⟩⟩
  · have hm := runEvs_missing T.prune T.root key s _ (opTree_readsFirst Hs T key val) h root rk pre
    split at hr
    · next s1 x hx =>
      subst hr
      simp only [Except.error.injEq] at he
      rw [hx] at hm
      obtain ⟨a, b, c, d, e, f⟩ := hm (by rw [he])
      exact ⟨a, b, c, d, e, .inr f⟩
    · next s1 hx =>
      split at hr
      · next x hw =>
        subst hr
        have := writeRoot_error_kind Hs blankRootHash T _ _ x hw
        subst this
        simp at he
      · next s3 newRoot hw =>
        split at hr
        · next s4 x hf =>
          subst hr
          obtain ⟨w, rfl⟩ := finishPrune_error_kind T s3 x (by rw [hf])
          simp at he
        · subst hr; simp at he

end PyTrie.HexW
