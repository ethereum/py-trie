import PyTrie.Model.BranchRaw
import PyTrie.Lemmas.BinRawRefines
/-! The raw-level transcription of `trie/branches.py` (over hashes and the database) computes, on a database that
    stores a canonical tree, the encodings of what the tree-level functions return. Here: one step of each function at a
    stored node, and the inductions for `trieNodesD` and `witnessD`; those for `existsD` and `getBranchD` stand under
    `C13.raw_exists`, `C13.raw_get_branch`. -/
namespace PyTrie.BranchRaw
open PyTrie PyTrie.Bin PyTrie.BinRaw

variable (H : Bytes → Bytes)

def bheight : BNode → Nat
  | .leaf _ => 0
  | .kv _ c => bheight c + 1
  | .branch l r => max (bheight l) (bheight r) + 1

def keyErr : KeyErr → Err
  | .tooLong => .tooLong
  | .tooShort => .tooShort

def liftR (r : Except KeyErr (List BNode)) : Except Err (List Bytes) :=
  match r with
  | .ok l => .ok (l.map (encNode H))
  | .error e => .error (keyErr e)

theorem parse_enc (hlen : ∀ b, (H b).length = 32) (n : BNode) (hc : BCanon n) :
    parse (encNode H n) = .ok (parsedOf H n) := by
  simp only [parse, parseNode_encNode H hlen n hc]

theorem allStored_kv {db : Db} {p : Bits} {c : BNode} (h : AllStored H db (.kv p c)) : AllStored H db c :=
  fun n hn => h n (Sub.kv p hn)

theorem allStored_left {db : Db} {l r : BNode} (h : AllStored H db (.branch l r)) : AllStored H db l :=
  fun n hn => h n (Sub.left r hn)

theorem allStored_right {db : Db} {l r : BNode} (h : AllStored H db (.branch l r)) : AllStored H db r :=
  fun n hn => h n (Sub.right l hn)

theorem bheight_left (l r : BNode) : bheight l < bheight (.branch l r) := Nat.lt_succ_of_le (Nat.le_max_left _ _)
theorem bheight_right (l r : BNode) : bheight r < bheight (.branch l r) := Nat.lt_succ_of_le (Nat.le_max_right _ _)

theorem take_eq_iff_prefix (p k : Bits) : k.take p.length = p ↔ p <+: k := by
  rw [List.prefix_iff_eq_take]; exact eq_comm

theorem eq_take_iff_prefix (p k : Bits) : k = p.take k.length ↔ k <+: p :=
  List.prefix_iff_eq_take.symm

/-- at a branch node the raw functions look at `k[:1]` and go on with `k[1:]` -/
theorem ite_take_one {α : Type} (b : Bool) (k : Bits) (x y : α) :
    (if (b :: k).take 1 = [false] then x else y) = if b = false then x else y := by
  cases b <;> rfl

theorem liftR_map_cons (r : Except KeyErr (List BNode)) (x : BNode) :
    liftR H (r.map (x :: ·)) = (liftR H r).map (encNode H x :: ·) := by
  cases r <;> rfl

theorem liftR_map_app (r : Except KeyErr (List BNode)) (hd : List BNode) (x : BNode) :
    liftR H (r.map (fun w => hd ++ x :: w)) = (liftR H r).map (fun w => hd.map (encNode H) ++ encNode H x :: w) := by
  cases r <;> simp [liftR, Except.map]

/-! ### one step of each function once the node is found and parsed -/

theorem existsD_step (blank : Hash) (db : Db) (fuel : Nat) (h : Hash) (k : Bits) (body : Bytes) (pn : Parsed)
    (hne : h ≠ blank) (hl : lookup db h = some body) (hp : parse body = .ok pn) :
    existsD blank db (fuel + 1) h k = (match pn with
      | .leaf _ => if k ≠ [] then .ok false else .ok true
      | .kv p c =>
        if k = [] then .ok true
        else if k.length < p.length then (if k = p.take k.length then .ok true else .ok false)
        else if k.take p.length = p then existsD blank db fuel c (k.drop p.length) else .ok false
      | .branch l r =>
        if k = [] then .ok true
        else if k.take 1 = [false] then existsD blank db fuel l (k.drop 1)
        else existsD blank db fuel r (k.drop 1)) := by
  rw [existsD, if_neg hne]
  simp only [hl, hp]
  cases pn <;> rfl

theorem getBranchD_step (blank : Hash) (db : Db) (fuel : Nat) (h : Hash) (k : Bits) (node : Bytes) (pn : Parsed)
    (hne : h ≠ blank) (hl : lookup db h = some node) (hp : parse node = .ok pn) :
    getBranchD blank db (fuel + 1) h k = (match pn with
      | .leaf _ => if k = [] then .ok [node] else .error .tooLong
      | .kv p c =>
        if k = [] then .error .tooShort
        else if k.take p.length = p then (getBranchD blank db fuel c (k.drop p.length)).map (node :: ·)
        else .ok [node]
      | .branch l r =>
        if k = [] then .error .tooShort
        else if k.take 1 = [false] then (getBranchD blank db fuel l (k.drop 1)).map (node :: ·)
        else (getBranchD blank db fuel r (k.drop 1)).map (node :: ·)) := by
  rw [getBranchD, if_neg hne]
  simp only [hl, hp]
  cases pn <;> rfl

theorem trieNodesD_step (db : Db) (fuel : Nat) (h : Hash) (node : Bytes) (pn : Parsed)
    (hl : lookup db h = some node) (hp : parse node = .ok pn) :
    trieNodesD db (fuel + 1) h = (match pn with
      | .kv _ c => (trieNodesD db fuel c).map (node :: ·)
      | .branch l r =>
        match trieNodesD db fuel l with
        | .error e => .error e
        | .ok ls => (trieNodesD db fuel r).map (fun rs => node :: (ls ++ rs))
      | .leaf _ => .ok [node]) := by
  rw [trieNodesD]
  simp only [hl, hp]
  cases pn <;> rfl

theorem trieNodesD_refines (hlen : ∀ b, (H b).length = 32) (t : BNode) (hc : BCanon t) (db : Db) (hst : AllStored H db t)
    (fuel : Nat) (hf : bheight t < fuel) :
    trieNodesD db fuel (hashNode H t) = .ok ((trieNodes t).map (encNode H)) := by
  induction fuel generalizing t with
  | zero => omega
  | succ f ih =>
    rw [trieNodesD_step _ _ _ _ _ (hst t (Sub.refl t)).2 (parse_enc H hlen t hc)]
    cases t with
    | leaf v => rfl
    | kv p c =>
      simp only [parsedOf]
      rw [ih c hc.2.2 (allStored_kv H hst) (Nat.lt_of_succ_lt_succ hf)]
      rfl
    | branch l r =>
      have hf' := Nat.le_of_lt_succ hf
      simp only [parsedOf]
      rw [ih l hc.1 (allStored_left H hst) (Nat.lt_of_lt_of_le (bheight_left l r) hf'),
        ih r hc.2 (allStored_right H hst) (Nat.lt_of_lt_of_le (bheight_right l r) hf')]
      simp [trieNodes, Except.map]

theorem witnessD_step (db : Db) (tfuel fuel : Nat) (h : Hash) (k : Bits) (node : Bytes) (pn : Parsed) (head : List Bytes)
    (hh : (if k = [] then trieNodesD db tfuel h else .ok []) = .ok head)
    (hl : lookup db h = some node) (hp : parse node = .ok pn) :
    witnessD db tfuel (fuel + 1) h k = (match pn with
      | .leaf _ => if k ≠ [] then .error .tooLong else .ok head
      | .kv p c =>
        if k.length < p.length ∧ p.take k.length = k then
          (trieNodesD db tfuel c).map (fun w => head ++ node :: w)
        else if k.take p.length = p then
          (witnessD db tfuel fuel c (k.drop p.length)).map (fun w => head ++ node :: w)
        else .ok (head ++ [node])
      | .branch l r =>
        if k.take 1 = [false] then (witnessD db tfuel fuel l (k.drop 1)).map (fun w => head ++ node :: w)
        else (witnessD db tfuel fuel r (k.drop 1)).map (fun w => head ++ node :: w)) := by
  rw [witnessD]
  simp only [hh, hl, hp]
  cases pn <;> rfl

theorem witnessD_refines_of_height (hlen : ∀ b, (H b).length = 32) (t : BNode) (hc : BCanon t) (db : Db)
    (hst : AllStored H db t) (k : Bits) (tfuel fuel : Nat) (htf : bheight t < tfuel) (hf : bheight t < fuel) :
    witnessD db tfuel fuel (hashNode H t) k = liftR H (getWitness t k) := by
  induction fuel generalizing t k with
  | zero => omega
  | succ f ih =>
    have hh : (if k = [] then trieNodesD db tfuel (hashNode H t) else .ok []) =
        .ok ((if k = [] then trieNodes t else []).map (encNode H)) := by
      split
      · exact trieNodesD_refines H hlen t hc db hst tfuel htf
      · rfl
    rw [witnessD_step _ _ _ _ _ _ _ _ hh (hst t (Sub.refl t)).2 (parse_enc H hlen t hc)]
    -- a child's height is below both fuels
    have lower {a : Nat} (h : a < bheight t) : a < tfuel ∧ a < f :=
      ⟨Nat.lt_trans h htf, Nat.lt_of_lt_of_le h (Nat.le_of_lt_succ hf)⟩
    cases t with
    | leaf v =>
      simp only [parsedOf, getWitness]
      by_cases hk : k = [] <;> simp [hk, liftR, keyErr]
    | kv p c =>
      have ⟨hct, hcf⟩ := lower (Nat.lt_succ_self (bheight c))
      simp only [parsedOf, getWitness, take_eq_iff_prefix]
      by_cases h1 : k.length < p.length ∧ k <+: p
      · rw [if_pos h1, if_pos h1, trieNodesD_refines H hlen c hc.2.2 db (allStored_kv H hst) tfuel hct]
        simp [liftR, Except.map]
      · rw [if_neg h1, if_neg h1]
        by_cases hpre : p <+: k
        · rw [if_pos hpre, if_pos hpre, liftR_map_app, ih c hc.2.2 (allStored_kv H hst) _ hct hcf]
        · rw [if_neg hpre, if_neg hpre]
          simp [liftR]
    | branch l r =>
      have ⟨hlt, hlf⟩ := lower (bheight_left l r)
      have ⟨hrt, hrf⟩ := lower (bheight_right l r)
      cases k with
      | nil =>
        simp only [parsedOf, getWitness, List.take_nil, List.drop_nil, reduceCtorEq, ↓reduceIte]
        rw [liftR_map_app, ih r hc.2 (allStored_right H hst) _ hrt hrf]
      | cons b k' =>
        simp only [parsedOf, getWitness, reduceCtorEq, ↓reduceIte, ite_take_one, List.drop_succ_cons, List.drop_zero]
        split
        · rw [liftR_map_app, ih l hc.1 (allStored_left H hst) _ hlt hlf]
        · rw [liftR_map_app, ih r hc.2 (allStored_right H hst) _ hrt hrf]

/-- the bound on `fuel` covers the height of the tree, not only the key length: with the key exhausted at a branch node
    the code keeps descending into right children with the empty key (`t = branch (leaf [1]) (branch (leaf [2]) (leaf [3]))`,
    `k = []`, `fuel = 2` gives `.error .fuel`) -/
theorem witnessD_refines (hlen : ∀ b, (H b).length = 32) (t : BNode) (hc : BCanon t) (db : Db) (hst : AllStored H db t)
    (k : Bits) (tfuel fuel : Nat) (htf : bheight t < tfuel) (hf : k.length + bheight t + 1 < fuel) :
    witnessD db tfuel fuel (hashNode H t) k = liftR H (getWitness t k) :=
  witnessD_refines_of_height H hlen t hc db hst k tfuel fuel htf (by omega)

end PyTrie.BranchRaw
