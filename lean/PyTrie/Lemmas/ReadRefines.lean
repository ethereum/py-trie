import PyTrie.Model.HexRead
import PyTrie.Lemmas.RawRefines
import PyTrie.Lemmas.HexTravProofs
/-! The raw-level read path (`Model/HexRead.lean`: `annotate_node`, `_make_simulated_node`, `traverse` /
    `traverse_from`, `_get_proof` over raw nodes and a database of rlp bytes) agrees with the tree level on the
    raw encoding of a canonical tree whose hashed subtrees are stored (`HexRaw.StoredD`). -/
namespace PyTrie.HexD
open PyTrie.Hex PyTrie.Hex.Node PyTrie.HexRaw

variable (H : Bytes → Bytes)

theorem fetch_storedC (hlen : ∀ b, (H b).length = 32) (db : Db) (c : Node) (used : Path)
    (hs : StoredC H db c) : fetch H db (refOf H c) used = .ok (toItem H c) :=
  fetch_ref_ok H hlen db c used (fun hh => by
    obtain ⟨a, b, d⟩ := hs hh
    exact ⟨⟨a, b⟩, d⟩)

theorem trav_okD (hlen : ∀ b, (H b).length = 32) (db : Db) (t : Node) :
    Canon t → StoredD H db t → ∀ (k : Path) (fuel : Nat) (used : Path), k.length ≤ fuel →
    traverseD H db fuel (toItem H t) k used = .ok (toItem H (traverseT t k).1, (traverseT t k).2) := by
  intro hc hst k fuel used hf
  have hs := mem_getProof_tail_of_below (StoredC H db) (StoredD H db) (fun _ _ h => h) (fun _ _ i h => h i) t k hst
  rw [traverseD_path H hlen (stdHashing H) (fun _ => rfl) (fun _ => rfl) db t hc k fuel used hf
    (fun n hn hh => ⟨Resolves.compatible H ⟨(hs n hn hh).1, (hs n hn hh).2.1⟩, (hs n hn hh).2.2⟩)]
  exact (outR_reads_ok_iff _ db t hc ..).2 fun n hn hh h => nomatch (hs n hn hh).2.1.symm.trans h

/-- the sub-segments `annotate_node` computes from the 17 raw items are the live indices -/
theorem subs_brItems (hlen : ∀ b, (H b).length = 32) (ch : Nib → Node) (v : Bytes) :
    ((List.range 16).filter fun i => truthy ((brItems H ch v).getD i (.str []))).map (fun i => [toNib i]) =
      (liveIdx ch).map (fun i => [i]) := by
  rw [range16, List.filter_map, List.map_map]
  have e : ((fun i => truthy ((brItems H ch v).getD i (.str []))) ∘ fun (x : Nib) => x.val) =
      fun i => !isBlank (ch i) := by
    funext i; simp only [Function.comp, brItems_getD, truthy_refOf H hlen]
  have e2 : ((fun i => [toNib i]) ∘ fun (x : Nib) => x.val) = fun (i : Nib) => [i] := by
    funext i; simp only [Function.comp, toNib_val]
  rw [e, e2, liveIdx]

/-- a tree-level annotation seen at raw level -/
def Ann.toD (a : Ann) : AnnD := ⟨a.subs, a.value, a.suffix, toItem H a.raw, a.kind⟩

/-- Without an assumption on the hash function `annotate_node` on the raw encoding does NOT agree with the
    tree level: with the degenerate `H = fun _ => []` a hashed child is referenced by `b""`, which is falsy,
    so the raw branch shows no sub-segment for it. -/
theorem annotateD_toItem_needs_hlen :
    ∃ (H : Bytes → Bytes) (n : Node), annotateD (toItem H n) ≠ some (Ann.toD H (annotate n)) := by
  refine ⟨fun _ => [], branch (fun i => if i = 0 then leaf [] (List.replicate 40 0) else blank) [], ?_⟩
  intro h
  have h2 := congrArg (fun o => o.map (fun a => a.subs.length)) h
  revert h2
  decide

theorem annotateD_toItem (hlen : ∀ b, (H b).length = 32) (n : Node) :
    annotateD (toItem H n) = some (Ann.toD H (annotate n)) := by
  cases n with
  | blank => simp only [annotateD, classify_blank]; rfl
  | leaf p v => simp only [annotateD, classify_leaf]; rfl
  | ext p c => simp only [annotateD, classify_ext]; rfl
  | branch ch v =>
    simp only [annotateD, classify_branch, subs_brItems H hlen, brItems_getD_16]
    rfl

theorem no_pair_of_17 {α : Type} (l : List Item) (h : l.length = 17) (f : Item → α) :
    (match Item.list l with
      | .list [_, v] => some (f v)
      | _ => none) = none := by
  split
  · next heq => cases heq; simp at h
  · rfl

/-- `_make_simulated_node` commutes with the encoding, on the annotation of any node -/
theorem simulateD_annotate (n : Node) (tail : Path) :
    simulateD (Ann.toD H (annotate n)) tail = (simulate (annotate n) tail).map (Ann.toD H) := by
  cases n with
  | blank =>
    simp only [simulateD, simulate, annotate, Ann.toD, rewrapLeaf, toItem]
    by_cases h : tail <+: [] <;> simp [h]
  | leaf p v =>
    simp only [simulateD, simulate, annotate, Ann.toD, rewrapLeaf, toItem]
    by_cases h : tail <+: p <;> simp [h, toItem, Ann.toD]
  | ext p c =>
    simp only [simulateD, simulate, annotate, Ann.toD, rewrapExt, toItem]
    by_cases h : tail <+: p
    · by_cases h2 : tail.length = p.length <;> simp [h, h2, toItem, Ann.toD]
    · simp [h]
  | branch ch v =>
    have hl := brItems_length H ch v
    simp only [simulateD, simulate, annotate, Ann.toD, rewrapLeaf, rewrapExt, toItem_branch]
    generalize (liveIdx ch).map (fun i => [i]) = s
    generalize brItems H ch v = l at hl
    rcases l with _ | ⟨x, _ | ⟨y, _ | ⟨z, l⟩⟩⟩
    · simp at hl
    · simp at hl
    · simp at hl
    rcases s with _ | ⟨e, _ | ⟨e2, s⟩⟩
    · by_cases h : tail <+: [] <;> simp [h]
    · by_cases h : tail <+: e
      · by_cases h2 : tail.length = e.length <;> simp [h, h2]
      · simp [h]
    · simp

/-- `_make_simulated_node` commutes with the encoding -/
theorem simulateD_toD (a : Ann) (tail : Path) (hk : a.kind = .leaf ∨ a.kind = .ext)
    (hraw : ∃ n, a = annotate n) :
    simulateD (Ann.toD H a) tail = (simulate a tail).map (Ann.toD H) := by
  obtain ⟨n, rfl⟩ := hraw
  exact simulateD_annotate H n tail

def TravOut.toD : TravOut → TravOutD
  | .node a => .node (Ann.toD H a)
  | .partialPath tr a tail sim => .partialPath tr (Ann.toD H a) tail (sim.map (Ann.toD H))

/-- `traverse_from(node, path)` once `_traverse_from` has returned the tree-level result -/
theorem traverseOutD_of_traverseD (hlen : ∀ b, (H b).length = 32) (db : Db) (fuel : Nat) (t : Node) (p : Path)
    (h : traverseD H db fuel (toItem H t) p [] = .ok (toItem H (traverseT t p).1, (traverseT t p).2)) :
    traverseOutD H db fuel (toItem H t) p = .ok (TravOut.toD H (traverseOut t p)) := by
  unfold traverseOutD traverseOut
  rw [h]
  generalize traverseT t p = r
  obtain ⟨n, rem⟩ := r
  simp only [annotateD_toItem H hlen]
  by_cases hrem : rem = []
  · simp only [hrem, ↓reduceIte, TravOut.toD]
  · simp only [hrem, ↓reduceIte, TravOut.toD, simulateD_annotate]

/-- `traverse_from(node, path)` at raw level = `traverseOut` on the tree, for a stored canonical tree -/
theorem traverseOutD_refines (hlen : ∀ b, (H b).length = 32) (t : Node) (hc : Canon t) (db : Db) (hst : StoredD H db t)
    (p : Path) (fuel : Nat) (hf : p.length < fuel) :
    ∃ r, traverseOutD H db fuel (toItem H t) p = .ok r ∧
      match r, traverseOut t p with
      | .node a, .node b => a.subs = b.subs ∧ a.value = b.value ∧ a.suffix = b.suffix ∧ a.kind = b.kind ∧ a.raw = toItem H b.raw
      | .partialPath tr a tail sim, .partialPath tr' b tail' sim' =>
        tr = tr' ∧ tail = tail' ∧ a.subs = b.subs ∧ a.value = b.value ∧ a.suffix = b.suffix ∧ a.raw = toItem H b.raw ∧
        (match sim, sim' with
          | some x, some y => x.subs = y.subs ∧ x.value = y.value ∧ x.suffix = y.suffix ∧ x.raw = toItem H y.raw
          | none, none => True
          | _, _ => False)
      | _, _ => False := by
  refine ⟨_, traverseOutD_of_traverseD H hlen db fuel t p (trav_okD H hlen db t hc hst p fuel [] (by omega)), ?_⟩
  cases traverseOut t p with
  | node b => exact ⟨rfl, rfl, rfl, rfl, rfl⟩
  | partialPath tr b tail sim =>
    refine ⟨rfl, rfl, rfl, rfl, rfl, rfl, ?_⟩
    cases sim with
    | none => trivial
    | some y => exact ⟨rfl, rfl, rfl, rfl⟩

theorem getProofD_ok (hlen : ∀ b, (H b).length = 32) (db : Db) (t : Node) (hc : Canon t) (hst : StoredD H db t)
    (k : Path) (fuel : Nat) (hf : k.length < fuel) :
    getProofD H db fuel (toItem H t) k = .ok ((getProof t k).map (toItem H)) := by
  fun_induction getProof t k generalizing fuel <;>
    obtain ⟨fuel, rfl⟩ := Nat.exists_eq_add_one_of_ne_zero (Nat.ne_zero_of_lt hf)
  case case1 => simp only [getProofD, classify_blank, List.map_nil]
  case case2 => simp only [getProofD, classify_leaf, List.map_cons, List.map_nil]
  case case3 p c k hpk ih =>
    have hle := hpk.length_le
    have hlp : 0 < p.length := List.length_pos_iff.2 hc.1
    simp only [getProofD, classify_ext, hpk, ↓reduceIte, fetch_storedC H hlen db c _ hst.1,
      ih hc.2.2 hst.2 fuel (by simp; omega)]
    rfl
  case case4 p c k hpk => simp only [getProofD, classify_ext, hpk, ↓reduceIte, List.map_cons, List.map_nil]
  case case5 => simp only [getProofD, classify_branch, List.map_cons, List.map_nil]
  case case6 ch v a k ih =>
    simp only [getProofD, classify_branch, brItems_getD, fetch_storedC H hlen db (ch a) _ (hst a).1,
      ih (hc.1 a) (hst a).2 fuel (by simpa using hf)]
    rfl

/-- `_get_proof` at raw level = the tree-level proof, node for node -/
theorem getProofD_refines (hlen : ∀ b, (H b).length = 32) (t : Node) (hc : Canon t) (db : Db) (hst : StoredD H db t)
    (k : Path) (fuel : Nat) (hf : k.length + 1 < fuel) :
    getProofD H db fuel (toItem H t) k = .ok ((getProof t k).map (toItem H)) :=
  getProofD_ok H hlen db t hc hst k fuel (by omega)

end PyTrie.HexD
