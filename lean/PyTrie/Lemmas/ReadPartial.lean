import PyTrie.Lemmas.ReadRefines
/-! **The raw-level read path on incomplete databases (C07 at raw level, lookups and traversals).** `traverseD` / `getD` /
    `traverseOutD` (`_traverse_from`, `get`, `traverse` over rlp-decoded nodes fetched from the database) on a database
    from which any node bodies are absent: they either find every node they fetch — and return exactly the tree-level
    result — or stop with `missing h used` where `(h, used)` is the **first** entry of `traverseReads` (the hashed nodes
    on the key's path with the nibbles consumed to reach each) that the database cannot answer. -/
namespace PyTrie.HexD
open PyTrie PyTrie.Hex PyTrie.Hex.Node PyTrie.HexRaw

variable (H : Bytes → Bytes)

/-- the first hashed node on the path that the database cannot answer, with the nibbles consumed to reach it -/
def firstMissingRead (db : Db) (t : Node) (k : Path) (pre : Path) : Option (Hash × Path) :=
  (traverseReads (stdHashing H) t k pre).find? fun e => (lookup db e.1).isNone

theorem partialD_path (db : Db) (t : Node) (hst : PartialD H db t) (k : Path) :
    ∀ n ∈ (getProof t k).tail, isHashed H n = true →
      Compatible H db n ∧ rlpDecode (enc H n) = some (toItem H n) := fun n hn hh =>
  have ⟨a, b, c⟩ :=
    mem_getProof_tail_of_below (PartialC H db) (PartialD H db) (fun _ _ h => h) (fun _ _ i h => h i) t k hst n hn hh
  ⟨⟨a, b⟩, c⟩

theorem traverseD_partial (hlen : ∀ b, (H b).length = 32) (db : Db) (t : Node) (hc : Canon t) (hst : PartialD H db t)
    (k : Path) (fuel : Nat) (used : Path) (hf : k.length ≤ fuel) :
    traverseD H db fuel (toItem H t) k used =
      match firstMissingRead H db t k used with
      | some (h, pre) => .error (.missing h pre)
      | none => .ok (toItem H (traverseT t k).1, (traverseT t k).2) :=
  traverseD_path H hlen (stdHashing H) (fun _ => rfl) (fun _ => rfl) db t hc k fuel used hf (partialD_path H db t hst k)

theorem traverseOutD_partial (hlen : ∀ b, (H b).length = 32) (db : Db) (t : Node) (hc : Canon t) (hst : PartialD H db t)
    (p : Path) (fuel : Nat) (hf : p.length < fuel) :
    traverseOutD H db fuel (toItem H t) p =
      match firstMissingRead H db t p [] with
      | some (h, pre) => .error (.missing h pre)
      | none => .ok (TravOut.toD H (traverseOut t p)) := by
  have htr := traverseD_partial H hlen db t hc hst p fuel [] (by omega)
  cases hm : firstMissingRead H db t p [] with
  | some e => rw [hm] at htr; simp only [traverseOutD, htr]
  | none => rw [hm] at htr; exact traverseOutD_of_traverseD H hlen db fuel t p htr

/-- the root reference of a (possibly incomplete) database: the blank root for the blank tree; otherwise the hash of the
    tree, not mistaken for the blank root, and whatever is stored under it is the tree's encoding, which decodes back -/
def RootPartial (db : Db) (root : Hash) (t : Node) : Prop :=
  if isBlank t then root = blankRoot H
  else root = hashOf H t ∧ root ≠ blankRoot H ∧ (∀ b, lookup db root = some b → b = enc H t) ∧
    rlpDecode (enc H t) = some (toItem H t)

theorem getD_partial (hlen : ∀ b, (H b).length = 32) (db : Db) (root : Hash) (t : Node) (hc : Canon t)
    (hroot : RootPartial H db root t) (hst : PartialD H db t) (k : Path) :
    getD H db root k =
      if isBlank t = false ∧ lookup db root = none then .error (.missing root [])
      else match firstMissingRead H db t k [] with
        | some (h, pre) => .error (.missing h pre)
        | none => .ok (get t k) := by
  unfold RootPartial at hroot
  cases hb : isBlank t with
  | true =>
    simp only [hb, ↓reduceIte] at hroot
    obtain rfl := (isBlank_iff t).1 hb
    rw [hroot, show blankRoot H = rootHash H blank by rw [rootHash, enc_blank]; rfl]
    exact getD_path H hlen (stdHashing H) (fun _ => rfl) (fun _ => rfl) blank hc db k nofun
  | false =>
    simp only [hb, Bool.false_eq_true, ↓reduceIte] at hroot
    obtain ⟨rfl, hne, hl, hd⟩ := hroot
    refine hb ▸ getD_path H hlen (stdHashing H) (fun _ => rfl) (fun _ => rfl) t hc db k fun n hn hs => ?_
    rw [getProof_eq_cons t k hb] at hn
    rcases List.mem_cons.1 hn with rfl | hn
    · exact ⟨⟨hne, hl⟩, hd⟩
    · by_cases hnt : n = t
      · exact hnt ▸ ⟨⟨hne, hl⟩, hd⟩
      · exact partialD_path H db t hst k n hn (hs.resolve_left hnt)

end PyTrie.HexD
