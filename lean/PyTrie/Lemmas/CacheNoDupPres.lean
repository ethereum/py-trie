import PyTrie.Lemmas.StoreView
import PyTrie.Lemmas.WorldMono
/-! The `ScratchDB` cache keeps unique keys (`Store.CacheNoDup`): it is only ever changed by `Dict.insert`, so the
    predicate survives every successful `Store.write` / `Store.del` (`Store.Stable`) and holds at every exit of
    `set` / `delete`. Hence the hypothesis `NoDupKeys b.cache` of `Lemmas/FreeView.lean` (`sim_setDel_batch`) holds
    along any run that opens its blocks with `batchBegin`. -/
namespace PyTrie.HexW
open PyTrie.Hex hiding get set

variable (Hs : Hashing) (blankRootHash : Hash)

structure Store.Stable (P : Store → Prop) : Prop where
  write : ∀ {s s' : Store} {h : Hash} {b : Bytes}, P s → s.write h b = some s' → P s'
  del : ∀ {s s' : Store} {h : Hash}, P s → s.del h = some s' → P s'

theorem runEvs_stable {P : Store → Prop} (hP : Store.Stable P) (prune : Bool) (root key : Bytes) (evs : List Ev)
    (s : OpSt) (hs : P s.store) :
    P (runEvs prune root key s evs).1.store :=
  runEvs_store_inv prune root key evs (fun _ _ _ _ _ h hw => hP.write h hw) s hs

theorem opSetDel_stable {P : Store → Prop} (hP : Store.Stable P) (T : TrieSt) (key : Bytes) (val : Option Bytes)
    (s : OpSt) (hs : P s.store) :
    P (opSetDel Hs blankRootHash T key val s).1.store :=
  opSetDel_store_inv Hs blankRootHash T key val (fun _ _ _ _ _ h hw => hP.write h hw)
    (fun _ _ _ _ h hd => hP.del h hd) s hs

theorem Store.cacheNoDup_stable : Store.Stable Store.CacheNoDup := by
  constructor
  · intro s s' h b hnd hw
    obtain ⟨base, cache, fa⟩ := s
    cases cache with
    | some c =>
      cases hw
      intro c' hc'
      cases hc'
      exact NoDupKeys.insert (hnd c rfl) _ _
    | none =>
      apply Store.cacheNoDup_plain
      simp only [Store.write] at hw
      split at hw <;> cases hw <;> rfl
  · intro s s' h hnd hd
    obtain ⟨base, cache, fa⟩ := s
    cases cache with
    | some c =>
      cases hd
      intro c' hc'
      cases hc'
      exact NoDupKeys.insert (hnd c rfl) _ _
    | none =>
      apply Store.cacheNoDup_plain
      simp only [Store.del] at hd
      split at hd <;> cases hd
      rfl

def World.BatchNoDup (w : World) : Prop := ∀ b, w.batch = some b → NoDupKeys b.cache

theorem World.batchNoDup_noteRoot (w : World) (T : TrieSt) (h : w.BatchNoDup) : (w.noteRoot T).BatchNoDup := by
  unfold World.noteRoot
  split <;> exact h

theorem World.batchNoDup_batchBegin (w : World) (i : Nat) : (w.batchBegin i).BatchNoDup := by
  intro b hb
  simp only [World.batchBegin, Option.some.injEq] at hb
  subst hb
  exact NoDupKeys.nil

theorem World.batchNoDup_batchEnd (w : World) (raised : Bool) (h : w.BatchNoDup) : (w.batchEnd raised).2.BatchNoDup := by
  unfold World.batchEnd
  split
  · exact h
  · split
    · intro b hb; cases hb
    · simp only []
      split <;> (intro b hb; cases hb)

theorem World.batchNoDup_setDel (w : World) (tg : Target) (key : Bytes) (val : Option Bytes) (h : w.BatchNoDup) :
    (w.setDel Hs blankRootHash tg key val).2.BatchNoDup := by
  unfold World.setDel
  cases tg with
  | trie i =>
    simp only []
    rcases hr : opSetDel Hs blankRootHash w.tries[i]! key val (w.opSt i) with ⟨s', e | T'⟩
    · exact h
    · exact World.batchNoDup_noteRoot _ _ h
  | batch =>
    simp only []
    cases hwb : w.batch with
    | none => exact h
    | some b =>
      simp only []
      have h1 := opSetDel_stable Hs blankRootHash Store.cacheNoDup_stable b.trie key val (w.batchOpSt b)
        (fun c hc => by cases hc; exact h b hwb)
      have hnd : NoDupKeys ((opSetDel Hs blankRootHash b.trie key val (w.batchOpSt b)).1.store.cache.getD []) := by
        cases hc : (opSetDel Hs blankRootHash b.trie key val (w.batchOpSt b)).1.store.cache with
        | none => exact NoDupKeys.nil
        | some c => exact h1 c hc
      generalize opSetDel Hs blankRootHash b.trie key val (w.batchOpSt b) = q at hnd ⊢
      obtain ⟨s', e | T'⟩ := q
      · intro b' hb'
        cases hb'
        exact hnd
      · apply World.batchNoDup_noteRoot
        intro b' hb'
        cases hb'
        exact hnd

end PyTrie.HexW
