import PyTrie.Model.Iter
import PyTrie.Lemmas.HexIterProofs
import PyTrie.Lemmas.WalkProofs
/-! `NodeIterator.nodes()` — the fog + frontier-cache loop — yields exactly the depth-first pre-order
    of the trie (`preorder t []`), for every canonical tree. -/
namespace PyTrie.Hex
open PyTrie.Fog Node

theorem frontier_get_cons {α : Type} (e : Path × (α × Path)) (c : Frontier α) (q : Path) :
    Frontier.get (e :: c) q = if e.1 = q then some e.2 else Frontier.get c q := by
  by_cases h : e.1 = q <;> simp [Frontier.get, h]

theorem frontier_get_erase_eq {α : Type} (c : Frontier α) (p q : Path) :
    Frontier.get (Frontier.erase c p) q = if q = p then none else Frontier.get c q := by
  unfold Frontier.get Frontier.erase
  rw [List.find?_filter]
  split
  · next h =>
    subst h
    rw [List.find?_eq_none.2 (by simp)]
    rfl
  · next h =>
    congr 2
    funext a
    by_cases ha : a.1 = q <;> simp [ha, h]

theorem frontier_get_put_eq {α : Type} (c : Frontier α) (p q : Path) (v : α × Path) :
    Frontier.get (Frontier.put c p v) q = if q = p then some v else Frontier.get c q := by
  rw [Frontier.put, frontier_get_cons, frontier_get_erase_eq]
  by_cases h : q = p
  · simp [h]
  · simp [h, Ne.symm h]

/-- every cache entry `p ↦ (parent, seg)` satisfies `P p parent seg` -/
def CacheAll {α : Type} (P : Path → α → Path → Prop) (c : Frontier α) : Prop :=
  ∀ p parent seg, Frontier.get c p = some (parent, seg) → P p parent seg

section
variable {α : Type} {P : Path → α → Path → Prop} {c : Frontier α}

theorem cacheAll_nil : CacheAll P [] := by
  intro p parent seg h
  simp [Frontier.get] at h

theorem cacheAll_imp {Q : Path → α → Path → Prop} (h : ∀ p n seg, P p n seg → Q p n seg)
    (hc : CacheAll P c) : CacheAll Q c :=
  fun p n seg hg => h p n seg (hc p n seg hg)

theorem cacheAll_erase (hc : CacheAll P c) (p : Path) : CacheAll P (Frontier.erase c p) := by
  intro q parent seg h
  rw [frontier_get_erase_eq] at h
  split at h
  · cases h
  · exact hc q parent seg h

theorem cacheAll_put (hc : CacheAll P c) {p seg : Path} {n : α} (hn : P p n seg) :
    CacheAll P (Frontier.put c p (n, seg)) := by
  intro q parent seg' h
  rw [frontier_get_put_eq] at h
  split at h
  · next e => cases h; exact e ▸ hn
  · exact hc q parent seg' h

/-- `cache.add(prefix, node, sub_segments)`: the new entries are `prefix ++ sub ↦ (node, sub)` -/
theorem cacheAll_add (hc : CacheAll P c) {p : Path} {n : α} {subs : List Path}
    (hn : ∀ sub ∈ subs, P (p ++ sub) n sub) : CacheAll P (Frontier.add c p n subs) := by
  unfold Frontier.add
  suffices h : ∀ c1, CacheAll P c1 →
      CacheAll P (subs.foldl (fun acc seg => Frontier.put acc (p ++ seg) (n, seg)) c1) by
    apply h
    split
    · exact cacheAll_erase hc p
    · exact hc
  induction subs with
  | nil => exact fun _ h => h
  | cons s subs ih =>
    exact fun c1 hc1 => ih (fun sub h => hn sub (List.mem_cons_of_mem _ h)) _
      (cacheAll_put hc1 (hn s List.mem_cons_self))

/-- the cache after an iteration of a walk at `p` with the node `n` found there -/
theorem cacheAll_update (hc : CacheAll P c) {p : Path} {n : α} {subs : List Path}
    (hn : ∀ sub ∈ subs, P (p ++ sub) n sub) :
    CacheAll P (if subs ≠ [] then Frontier.add c p n subs else Frontier.delete c p) := by
  split
  · exact cacheAll_add hc hn
  · exact cacheAll_erase hc p

end

/-- every cache entry `p ↦ (parent, seg)` holds a node of the trie at a prefix `q` with `q ++ seg = p` -/
def CacheOk (t : Node) : Frontier Node → Prop :=
  CacheAll fun p parent seg => ∃ q, q ++ seg = p ∧ nodeAt t q = some parent

/-- everything in `rest` lies to the right of the whole subtree below `p` -/
def Below (p : Path) (rest : Fog) : Prop := ∀ r ∈ rest, ∀ s, plt (p ++ s) r = true

theorem below_head {p : Path} {rest : Fog} (hb : Below p rest) : ∀ r ∈ rest, plt p r = true := by
  intro r hr
  simpa using hb r hr []

theorem below_append {p : Path} {rest : Fog} (hb : Below p rest) (q : Path) : Below (p ++ q) rest := by
  intro r hr s
  rw [List.append_assoc]
  exact hb r hr (q ++ s)

theorem nearestRight_nil_nil : nearestRight ([] : Fog) [] = .error .perfect := rfl

theorem nearestRight_head (p : Path) (rest : Fog) (h : ∀ r ∈ rest, plt p r = true) :
    nearestRight (p :: rest) [] = .ok p := by
  cases p with
  | cons a p' => simp [nearestRight, bisect]
  | nil =>
    cases rest with
    | nil => simp [nearestRight, bisect]
    | cons r rs =>
      have hr := h r List.mem_cons_self
      simp [nearestRight, bisect, hr]

theorem annotate_raw (n : Node) : (annotate n).raw = n := by cases n <;> rfl

theorem traverseT_of_nodeAt {t : Node} {p : Path} {n : Node} (h : nodeAt t p = some n) :
    traverseT t p = (n, []) := by
  have := traverseT_nodeAt t p n h []
  rw [traverseT_nil, List.append_nil] at this
  exact this.symm

theorem traverseOut_of_traverseT {t : Node} {p : Path} {n : Node} (h : traverseT t p = (n, [])) :
    traverseOut t p = .node (annotate n) := by
  simp [traverseOut, h]

theorem traverseOut_node {v : Node} {p : Path} {a : Ann} (h : traverseOut v p = .node a) :
    (traverseT v p).2 = [] ∧ a = annotate (traverseT v p).1 := by
  unfold traverseOut at h
  generalize traverseT v p = r at h ⊢
  obtain ⟨n, rem⟩ := r
  simp only at h
  split at h
  · next hr => cases h; exact ⟨hr, rfl⟩
  · cases h

theorem nodeAt_ext_of_ne (q : Path) (c : Node) (k : Path) (hk : k ≠ []) :
    nodeAt (ext q c) k = if q <+: k then nodeAt c (k.drop q.length) else none := by
  cases k with
  | nil => exact absurd rfl hk
  | cons a r => rfl

theorem nodeAt_nodeAt {t : Node} {p : Path} {n : Node} (hn : nodeAt t p = some n) (s : Path) :
    nodeAt t (p ++ s) = nodeAt n s := by
  fun_induction nodeAt t p with
  | case1 t => cases hn; rfl
  | case2 | case3 | case5 => cases hn
  | case4 q c a k hq ih =>
    obtain ⟨r, hr⟩ := hq
    rw [← hr, List.drop_left] at ih hn
    rw [← ih hn, List.cons_append]
    simp only [nodeAt]
    rw [show a :: (k ++ s) = q ++ (r ++ s) by rw [← List.append_assoc, hr]; rfl,
      if_pos (List.prefix_append _ _), List.drop_left]
  | case6 ch v a k ih => exact ih hn

/-- the traversal of one iteration at `p`: `traverse(p)` from the root on a cache miss, `traverse_from(parent, seg)`
    on a hit -/
def iterOut (t : Node) (c : Frontier Node) (p : Path) : TravOut :=
  match Frontier.get c p with
  | none => traverseOut t p
  | some (parent, seg) => traverseOut parent seg

theorem iterOut_from {Q : Node → Prop} {t : Node} {c : Frontier Node} (ht : Q t)
    (hc : CacheAll (fun _ n _ => Q n) c) (p : Path) : ∃ v q, Q v ∧ iterOut t c p = traverseOut v q := by
  unfold iterOut
  cases hg : Frontier.get c p with
  | none => exact ⟨t, p, ht, rfl⟩
  | some e => exact ⟨e.1, e.2, hc p e.1 e.2 hg, rfl⟩

theorem iterOut_of_nodeAt {t n : Node} {c : Frontier Node} {p : Path} (hc : CacheOk t c)
    (hn : nodeAt t p = some n) : iterOut t c p = .node (annotate n) := by
  have htr := traverseT_of_nodeAt hn
  unfold iterOut
  cases hg : Frontier.get c p with
  | none => exact traverseOut_of_traverseT htr
  | some v =>
    obtain ⟨q, hq, hpar⟩ := hc p v.1 v.2 hg
    exact traverseOut_of_traverseT (by rw [traverseT_nodeAt t q v.1 hpar v.2, hq]; exact htr)

theorem nodesLoop_succ (t : Node) (fuel : Nat) (fog : Fog) (cache : Frontier Node) :
    nodesLoop t (fuel + 1) fog cache =
      match nearestRight fog [] with
      | .error _ => []
      | .ok p =>
        match iterOut t cache p with
        | .partialPath _ _ _ _ => []
        | .node a =>
          match Fog.explore fog p a.subs with
          | .error _ => []
          | .ok fog' =>
            (p, a.raw) :: nodesLoop t fuel fog'
              (if a.subs ≠ [] then Frontier.add cache p a.raw a.subs else Frontier.delete cache p) := rfl

theorem nodesLoop_nil (t : Node) (k : Nat) (cache : Frontier Node) : nodesLoop t k [] cache = [] := by
  cases k <;> rfl

theorem annotate_subs_antichain (n : Node) :
    ∀ a ∈ (annotate n).subs, ∀ b ∈ (annotate n).subs, a <+: b → a = b := by
  intro a ha b hb hab
  cases n with
  | blank => cases ha
  | leaf q v => cases ha
  | ext q c => rw [List.mem_singleton.1 ha, List.mem_singleton.1 hb]
  | branch ch v =>
    obtain ⟨i, _, rfl⟩ := List.mem_map.1 ha
    obtain ⟨j, _, rfl⟩ := List.mem_map.1 hb
    exact hab.eq_of_length rfl

/-- one iteration with the left-most unexplored prefix `p` at a node `n` of the trie: `n` is yielded and its
    sub-segments replace `p` in the fog -/
theorem nodesLoop_head (t n : Node) (f : Nat) (p : Path) (rest : Fog) (cache : Frontier Node)
    (hn : nodeAt t p = some n) (hc : CacheOk t cache) (hb : ∀ r ∈ rest, plt p r = true) :
    ∃ cache', CacheOk t cache' ∧
      nodesLoop t (f + 1) (p :: rest) cache =
        (p, n) :: nodesLoop t f (((annotate n).subs.map (p ++ ·)).foldl insert rest) cache' := by
  have he : explore (p :: rest) p (annotate n).subs =
      .ok (((annotate n).subs.map (p ++ ·)).foldl insert rest) := by
    rw [explore_eq_ok_iff, erase_head p rest hb]
    exact ⟨⟨List.mem_cons_self, (Walk.annotate_subs_small n).1, annotate_subs_antichain n⟩, rfl⟩
  refine ⟨if (annotate n).subs ≠ [] then Frontier.add cache p n (annotate n).subs else Frontier.delete cache p,
    cacheAll_update hc fun _ _ => ⟨p, rfl, hn⟩, ?_⟩
  rw [nodesLoop_succ, nearestRight_head p rest hb]
  simp only [iterOut_of_nodeAt hc hn, he, annotate_raw]

/-- with the unexplored prefix `p` of the node `n` at the front of the fog and everything else to the
    right of the subtree, the loop emits the pre-order of `n` and continues with the rest -/
def LoopOn (t n : Node) : Prop :=
  ∀ (p : Path) (rest : Fog) (cache : Frontier Node) (k : Nat),
    nodeAt t p = some n → CacheOk t cache → Below p rest →
    ∃ cache', CacheOk t cache' ∧
      nodesLoop t ((preorder n p).length + k) (p :: rest) cache =
        preorder n p ++ nodesLoop t k rest cache'

theorem loopOn_nosubs (t n : Node) (hsubs : (annotate n).subs = [])
    (hpre : ∀ p, preorder n p = [(p, n)]) : LoopOn t n := by
  intro p rest cache k hn hc hb
  obtain ⟨cache', hc', h⟩ := nodesLoop_head t n k p rest cache hn hc (below_head hb)
  rw [hsubs] at h
  refine ⟨cache', hc', ?_⟩
  rw [hpre p]
  simpa [Nat.add_comm] using h

theorem loopOn_ext (t : Node) (q : Path) (c : Node) (hq : q ≠ []) (ih : LoopOn t c) :
    LoopOn t (ext q c) := by
  intro p rest cache k hn hc hb
  obtain ⟨cache1, hc1, h1⟩ := nodesLoop_head t (ext q c) ((preorder c (p ++ q)).length + k) p rest cache hn hc
    (below_head hb)
  rw [show (annotate (ext q c)).subs = [q] from rfl, List.map_singleton, List.foldl_cons, List.foldl_nil,
    insert_front rest (p ++ q) (fun r hr => hb r hr q)] at h1
  have hnc : nodeAt t (p ++ q) = some c := by
    rw [nodeAt_nodeAt hn, nodeAt_ext_of_ne q c q hq]
    simp [nodeAt_nil]
  obtain ⟨cache2, hc2, h2⟩ := ih (p ++ q) rest cache1 k hnc hc1 (below_append hb q)
  refine ⟨cache2, hc2, ?_⟩
  have hlen : (preorder (ext q c) p).length + k = (preorder c (p ++ q)).length + k + 1 := by
    simp [preorder]; omega
  rw [hlen, h1, h2]
  simp [preorder]

theorem below_child {p : Path} {rest : Fog} (hb : Below p rest) (i : Nib) (is : List Nib)
    (hi : ∀ j ∈ is, i < j) : Below (p ++ [i]) (is.map (fun j => p ++ [j]) ++ rest) := by
  intro r hr s
  rcases List.mem_append.1 hr with hr | hr
  · obtain ⟨j, hj, rfl⟩ := List.mem_map.1 hr
    rw [List.append_assoc, plt_append_left]
    exact (plt_cons _ _ _ _).2 (Or.inl (hi j hj))
  · exact below_append hb [i] r hr s

theorem loop_children (t : Node) (ch : Nib → Node) (p : Path) (ih : ∀ i, LoopOn t (ch i))
    (hn : ∀ i, nodeAt t (p ++ [i]) = some (ch i)) (rest : Fog) (hb : Below p rest) :
    ∀ (is : List Nib), is.Pairwise (· < ·) → ∀ (cache : Frontier Node) (k : Nat), CacheOk t cache →
      ∃ cache', CacheOk t cache' ∧
        nodesLoop t ((is.flatMap fun i => preorder (ch i) (p ++ [i])).length + k)
            (is.map (fun j => p ++ [j]) ++ rest) cache =
          (is.flatMap fun i => preorder (ch i) (p ++ [i])) ++ nodesLoop t k rest cache' := by
  intro is
  induction is with
  | nil => intro _ cache k hc; exact ⟨cache, hc, by simp⟩
  | cons i is ihs =>
    intro hp cache k hc
    have ⟨hi, hp'⟩ := List.pairwise_cons.1 hp
    obtain ⟨cache1, hc1, h1⟩ := ih i (p ++ [i]) (is.map (fun j => p ++ [j]) ++ rest) cache
      ((is.flatMap fun i => preorder (ch i) (p ++ [i])).length + k) (hn i) hc (below_child hb i is hi)
    obtain ⟨cache2, hc2, h2⟩ := ihs hp' cache1 k hc1
    refine ⟨cache2, hc2, ?_⟩
    simp only [List.flatMap_cons, List.length_append, List.map_cons, List.cons_append,
      List.append_assoc]
    rw [Nat.add_assoc, h1, h2]

theorem flatMap_filter_eq {α β : Type} (l : List α) (f : α → Bool) (g : α → List β) :
    (l.filter f).flatMap g = l.flatMap (fun x => if f x then g x else []) := by
  induction l with
  | nil => rfl
  | cons x l ih =>
    by_cases h : f x <;> simp [h, ih]

theorem preorder_branch_live (ch : Nib → Node) (v : Bytes) (p : Path) :
    preorder (branch ch v) p =
      (p, branch ch v) :: (liveIdx ch).flatMap fun i => preorder (ch i) (p ++ [i]) := by
  rw [preorder, liveIdx, flatMap_filter_eq]
  refine congrArg _ (congrArg (fun f => List.flatMap f (List.finRange 16)) (funext fun i => ?_))
  cases isBlank (ch i) <;> simp

theorem liveIdx_pairwise (ch : Nib → Node) : (liveIdx ch).Pairwise (· < ·) :=
  (List.pairwise_lt_finRange 16).sublist List.filter_sublist

theorem sorted_children (p : Path) (is : List Nib) (h : is.Pairwise (· < ·)) :
    Sorted (is.map (fun j => p ++ [j])) := by
  unfold Sorted
  rw [List.pairwise_map]
  refine h.imp ?_
  intro a b hab
  rw [plt_append_left]
  exact (plt_cons _ _ _ _).2 (Or.inl hab)

theorem loopOn_branch (t : Node) (ch : Nib → Node) (v : Bytes) (ih : ∀ i, LoopOn t (ch i)) :
    LoopOn t (branch ch v) := by
  intro p rest cache k hn hc hb
  obtain ⟨cache1, hc1, h1⟩ := nodesLoop_head t (branch ch v)
    (((liveIdx ch).flatMap fun i => preorder (ch i) (p ++ [i])).length + k) p rest cache hn hc (below_head hb)
  have hfog : (((liveIdx ch).map (fun i => [i])).map (p ++ ·)).foldl insert rest =
      (liveIdx ch).map (fun j => p ++ [j]) ++ rest := by
    rw [List.map_map]
    have := foldl_insert_front ((liveIdx ch).map (fun j => p ++ [j])) rest
      (fun x hx r hr => by obtain ⟨j, _, rfl⟩ := List.mem_map.1 hx; exact hb r hr [j]) []
      (by simpa using sorted_children p _ (liveIdx_pairwise ch))
    simp only [List.nil_append] at this
    exact this
  rw [show (annotate (branch ch v)).subs = (liveIdx ch).map (fun i => [i]) from rfl, hfog] at h1
  have hnc : ∀ i, nodeAt t (p ++ [i]) = some (ch i) := by
    intro i
    rw [nodeAt_nodeAt hn]
    simp [nodeAt, nodeAt_nil]
  obtain ⟨cache2, hc2, h2⟩ := loop_children t ch p ih hnc rest hb (liveIdx ch) (liveIdx_pairwise ch)
    cache1 k hc1
  refine ⟨cache2, hc2, ?_⟩
  rw [preorder_branch_live]
  simp only [List.length_cons]
  rw [show ∀ a : Nat, a + 1 + k = a + k + 1 by omega, h1, h2]
  rfl

theorem loopOn (t n : Node) (hc : Canon n) : LoopOn t n := by
  induction n with
  | blank => exact loopOn_nosubs t blank rfl (fun _ => rfl)
  | leaf q v => exact loopOn_nosubs t (leaf q v) rfl (fun _ => rfl)
  | ext q c ih => exact loopOn_ext t q c hc.1 (ih hc.2.2)
  | branch ch v ih => exact loopOn_branch t ch v (fun i => ih i (hc.1 i))

/-- with enough fuel the loop of `nodes()` produces the pre-order sequence: every node once, parents
    before children, children left to right, each the node `traverse(prefix)` returns -/
theorem nodesOf_eq_preorder (t : Node) (hc : Canon t) (fuel : Nat) (hf : (preorder t []).length < fuel) :
    nodesOf t fuel = preorder t [] := by
  obtain ⟨k, rfl⟩ : ∃ k, fuel = (preorder t []).length + k := ⟨fuel - (preorder t []).length, by omega⟩
  obtain ⟨cache', _, h⟩ := loopOn t t hc [] [] [] k (nodeAt_nil t) cacheAll_nil
    (by intro r hr; simp at hr)
  unfold nodesOf Fog.init
  rw [h, nodesLoop_nil, List.append_nil]

end PyTrie.Hex
