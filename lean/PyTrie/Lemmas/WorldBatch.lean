import PyTrie.Lemmas.WorldPrune
/-! `squash_changes` on a **pruning** trie at world level (C05 / C06): the exact-pruning invariant,
    stated over what the batch *will commit* (`Store.view`: buffered writes are present, buffered deletes are
    absent, everything else as in the wrapped database), is preserved by every `set` / `delete` on the batch
    trie, and a normal exit (`batch_commit(do_deletes=True)`) turns it into the plain invariant of the outer
    trie: root, counts and database are exactly those of the batch's final tree. Together with
    `C05.abort_restores_world` this is all-or-nothing for pruning tries, with exactness preserved. -/
namespace PyTrie.HexW
open PyTrie.Hex hiding get set
open PyTrie.Hex.Node

variable (Hs : Hashing) (blankRootHash : Hash)

/-- the pruning invariant over the view (for a plain store it is `PruneInv`).
    `cacheNoDup`: the ScratchDB cache has unique keys — without it `Store.view` (first entry wins)
    and the commit loop (last entry wins) disagree; it holds initially (`[]`) and is preserved because the
    cache is only changed by `Dict.insert`. -/
structure PruneInvV (T : TrieSt) (s : OpSt) : Prop where
  prune : T.prune = true
  root : if isBlank T.tree then T.root = blankRootHash else T.root = Hs.hashOf T.tree ∧ T.root ≠ blankRootHash
  counts : ∀ h, s.counts.val h = occRoot Hs T.tree h
  keys : ∀ h, s.store.view h = true ↔ 0 < occRoot Hs T.tree h
  pending : s.pending = []
  cacheNoDup : s.store.CacheNoDup

theorem pruneInvV_of_plain (T : TrieSt) (s : OpSt) (h : PruneInv Hs blankRootHash T s) : PruneInvV Hs blankRootHash T s := by
  refine ⟨h.prune, h.root, h.counts, fun x => ?_, h.pending, Store.cacheNoDup_plain _ h.plain⟩
  rw [Store.view_plain _ h.plain]
  exact h.keys x

theorem opSetDel_pruneInvV (T : TrieSt) (hc : Canon T.tree) (key : Bytes) (val : Option Bytes) (s : OpSt)
    (hfa : s.store.failAfter = none) (hinv : PruneInvV Hs blankRootHash T s)
    (hrs : RefSound Hs T.tree (nibs key))
    (hblank : isBlank (opTree Hs T key val).1 = false → Hs.hashOf (opTree Hs T key val).1 ≠ blankRootHash) :
    ∃ T', (opSetDel Hs blankRootHash T key val s).2 = .ok T' ∧
      T'.tree = (opTree Hs T key val).1 ∧
      PruneInvV Hs blankRootHash T' (opSetDel Hs blankRootHash T key val s).1 ∧
      (opSetDel Hs blankRootHash T key val s).1.store.failAfter = none := by
  have hfa' := failAfter_none_preserved Hs blankRootHash T key val s hfa
  have hnd := opSetDel_stable Hs blankRootHash Store.cacheNoDup_stable T key val s hinv.cacheNoDup
  obtain ⟨s4, r, hop, _, hrootNew, hcounts, hkeys⟩ :=
    opSetDel_exact Hs blankRootHash (fun _ => True) T key val s hinv.prune hinv.root
      (fun _ => ⟨hfa, fun _ => trivial⟩) (fun h _ => hinv.counts h) (fun h _ => hinv.keys h)
      (fun h hp => contains_of_view _ _ ((hinv.keys h).2 hp)) hrs hblank
  rw [hop] at hfa' hnd ⊢
  exact ⟨_, rfl, rfl, ⟨hinv.prune, hrootNew, fun h => hcounts h trivial, fun h => hkeys h trivial, rfl, hnd⟩, hfa'⟩

/-! ### the commit loop -/

theorem commitLoop_none (dd : Bool) (cache : Dict (Option Bytes)) (base : Dict Bytes) :
    (commitLoop dd cache base none).1 = true ∧ (commitLoop dd cache base none).2.2 = none := by
  induction cache generalizing base with
  | nil => exact ⟨rfl, rfl⟩
  | cons e rest ih =>
    obtain ⟨k, o⟩ := e
    cases o <;> exact ih _

/-- With a repeated key a lookup in the cache reads the first entry, the loop applies the last: hence `hnd`. -/
theorem commitLoop_get? (doDeletes : Bool) (cache : Dict (Option Bytes)) (base : Dict Bytes) (hnd : NoDupKeys cache)
    (h : Hash) :
    Dict.get? (commitLoop doDeletes cache base none).2.1 h =
      match Dict.get? cache h with
      | some (some v) => some v
      | some none => if doDeletes then none else Dict.get? base h
      | none => Dict.get? base h := by
  induction cache generalizing base with
  | nil => rfl
  | cons e rest ih =>
    obtain ⟨k, o⟩ := e
    obtain ⟨hk0, hnd⟩ := hnd.cons
    -- the loop goes on with the first entry applied to the database
    have e : (commitLoop doDeletes ((k, o) :: rest) base none).2.1 =
        (commitLoop doDeletes rest (o.elim (if doDeletes then Dict.erase base k else base) (Dict.insert base k)) none).2.1 := by
      cases o <;> rfl
    rw [e, ih _ hnd, Dict.get?_cons]
    by_cases hk : k = h
    · subst hk
      rw [Dict.get?_eq_none_of_not_contains rest k hk0, beq_self_eq_true, if_pos rfl]
      cases o with
      | some v => exact Dict.get?_insert_self' _ _ _
      | none => cases doDeletes <;> simp only [Option.elim_none, Bool.false_eq_true, if_false, if_true, Dict.get?_erase_self]
    · have hb : Dict.get? (o.elim (if doDeletes then Dict.erase base k else base) (Dict.insert base k)) h = Dict.get? base h := by
        cases o with
        | some v => exact Dict.get?_insert_other' _ _ _ _ (fun e => hk e.symm)
        | none => cases doDeletes <;> simp only [Option.elim_none, Bool.false_eq_true, if_false, if_true, Dict.get?_erase_other _ _ _ (fun e => hk e.symm)]
      rw [hb, show ((k, o).fst == h) = false from beq_false_of_ne hk]
      rfl

/-- `ScratchDB.batch_commit` without write faults completes; it produces the view, and when deletes are
    skipped also keeps whatever the database had. -/
theorem commitLoop_contains (dd : Bool) (cache : Dict (Option Bytes)) (base : Dict Bytes) (hnd : NoDupKeys cache) :
    (commitLoop dd cache base none).1 = true ∧ (commitLoop dd cache base none).2.2 = none ∧
    ∀ h, Dict.contains (commitLoop dd cache base none).2.1 h =
      ((!dd && base.contains h) || Store.view { base := base, cache := some cache, failAfter := none } h) := by
  refine ⟨(commitLoop_none dd cache base).1, (commitLoop_none dd cache base).2, fun h => ?_⟩
  simp only [Store.view]
  rw [Dict.contains_eq_isSome, commitLoop_get? dd cache base hnd h, Dict.contains_eq_isSome]
  cases Dict.get? cache h with
  | none => cases dd <;> simp
  | some o => cases o <;> cases dd <;> simp

theorem commitLoop_view (cache : Dict (Option Bytes)) (base : Dict Bytes) (hnd : NoDupKeys cache) :
    (commitLoop true cache base none).1 = true ∧ (commitLoop true cache base none).2.2 = none ∧
    ∀ h, Dict.contains (commitLoop true cache base none).2.1 h =
      Store.view { base := base, cache := some cache, failAfter := none } h :=
  commitLoop_contains true cache base hnd

/-- **normal exit of a block on a pruning trie**: if the batch trie satisfies the invariant over the view,
    then after `batchEnd` the outer trie has the batch's tree and root, and (with the adopted counts and the
    committed database) satisfies the plain invariant: counts are the true reference counts and the
    database holds exactly the live nodes.
    (`hic`: the outer trie has a counts slot — `World.newTrie` / `openAt` push to `tries` and `counts`
    together, but an arbitrary `World` need not have `counts.size = tries.size`.) -/
theorem batchEnd_pruneInv (w : World) (b : Batch) (hb : w.batch = some b) (hi : b.outer < w.tries.size)
    (hic : b.outer < w.counts.size)
    (hop : (w.tries[b.outer]!).prune = true) (hfa : w.failAfter = none)
    (hinv : PruneInvV Hs blankRootHash b.trie (w.batchOpSt b)) :
    let w' := (w.batchEnd false).2
    (w.batchEnd false).1 = .ok () ∧ w'.batch = none ∧
    (w'.tries[b.outer]!).tree = b.trie.tree ∧ (w'.tries[b.outer]!).root = b.trie.root ∧
    PruneInv Hs blankRootHash (w'.tries[b.outer]!) (w'.opSt b.outer) := by
  have hcl := commitLoop_view b.cache w.base (hinv.cacheNoDup b.cache rfl)
  have hk := hinv.keys
  have hcn := hinv.counts
  have hr := hinv.root
  simp only [World.batchOpSt, hfa] at hk hcn
  simp only [World.batchEnd, hb, Bool.false_eq_true, ↓reduceIte, hop, hfa]
  generalize commitLoop true b.cache w.base none = q at hcl ⊢
  obtain ⟨ok, base', fa'⟩ := q
  simp only at hcl
  obtain ⟨rfl, rfl, hv⟩ := hcl
  simp only [↓reduceIte, World.opSt, true_and]
  rw [array_set!_self _ _ _ hi, array_set!_self _ _ _ hic]
  refine ⟨rfl, rfl, rfl, rfl, hr, hcn, fun h => ?_, rfl⟩
  show Dict.contains base' h = true ↔ _
  rw [hv h]
  exact hk h

theorem batchBegin_pruneInvV (w : World) (i : Nat) (hi : i < w.tries.size) (hnb : w.batch = none)
    (hinv : PruneInv Hs blankRootHash (w.tries[i]!) (w.opSt i)) :
    ∃ b, (w.batchBegin i).batch = some b ∧ b.outer = i ∧ b.trie.tree = (w.tries[i]!).tree ∧
      PruneInvV Hs blankRootHash b.trie ((w.batchBegin i).batchOpSt b) := by
  refine ⟨_, rfl, rfl, rfl, rfl, hinv.root, ?_, ?_, rfl, ?_⟩
  · intro h
    have := hinv.counts h
    simp only [World.opSt] at this
    simp only [World.batchBegin, World.batchOpSt, hinv.prune, ↓reduceIte]
    exact this
  · intro h
    have := hinv.keys h
    simp only [World.opSt] at this
    simp only [World.batchBegin, World.batchOpSt, Store.view, Dict.get?_nil]
    exact this
  · intro c hc
    simp only [World.batchBegin, World.batchOpSt, Option.some.injEq] at hc
    subst hc
    exact NoDupKeys.nil

end PyTrie.HexW
