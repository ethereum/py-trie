import PyTrie.Model.HexWorld
/-! Updates of the world's arrays at an index; `Dict` (association list with first-match lookup and in-place
    overwrite) and `Counts`: what `insert` / `erase` / `inc` do under `get?`, `contains` and `val`, and the
    well-formedness of the pending dict (unique keys, positive values). -/
namespace PyTrie.HexW
open PyTrie.Hex hiding get set

/-! ### array updates -/

theorem array_set!_size {α} (a : Array α) (i : Nat) (x : α) : (a.set! i x).size = a.size := by
  simp [Array.set!_eq_setIfInBounds]

theorem array_set!_self {α} [Inhabited α] (a : Array α) (i : Nat) (x : α) (h : i < a.size) :
    (a.set! i x)[i]! = x := by
  simp [Array.set!_eq_setIfInBounds, h]

theorem array_set!_other {α} [Inhabited α] (a : Array α) (i j : Nat) (x : α) (h : j ≠ i) :
    (a.set! i x)[j]! = a[j]! := by
  by_cases hj : j < a.size
  · simp [Array.set!_eq_setIfInBounds, hj, Ne.symm h]
  · simp [Array.set!_eq_setIfInBounds, hj]

theorem array_push_lt {α} [Inhabited α] (a : Array α) (i : Nat) (x : α) (h : i < a.size) :
    (a.push x)[i]! = a[i]! := by
  have h' : i < (a.push x).size := by simp; omega
  rw [getElem!_pos (a.push x) i h', getElem!_pos a i h, Array.getElem_push_lt]

theorem array_push_last {α} [Inhabited α] (a : Array α) (x : α) : (a.push x)[a.size]! = x := by
  simp

theorem array_set!_zero {α} [Inhabited α] (a : Array α) (x : α) (hsz : a.size = 1) :
    (a.set! 0 x).size = 1 ∧ (a.set! 0 x)[0]! = x :=
  ⟨(array_set!_size a 0 x).trans hsz, array_set!_self a 0 x (hsz ▸ Nat.zero_lt_one)⟩

theorem array_set!_getElem! {α} [Inhabited α] (a : Array α) (i : Nat) : a.set! i a[i]! = a := by
  apply Array.ext
  · simp [Array.set!_eq_setIfInBounds]
  · intro j h1 h2
    simp only [Array.set!_eq_setIfInBounds]
    rw [Array.getElem_setIfInBounds]
    split
    · next hij => subst hij; simp [getElem!_pos, h2]
    · rfl

/-! ### `Dict` and `Counts` -/

theorem Dict.get?_nil {α} (h : Hash) : Dict.get? ([] : Dict α) h = none := rfl

theorem Dict.get?_cons {α} (e : Hash × α) (r : Dict α) (h : Hash) :
    Dict.get? (e :: r) h = if e.1 == h then some e.2 else Dict.get? r h := by
  simp only [Dict.get?, List.find?_cons]
  cases (e.1 == h) <;> simp

theorem Dict.get?_map_self {α} (d : Dict α) (h : Hash) (b : α) (hc : Dict.contains d h = true) :
    Dict.get? (d.map (fun e => if e.1 == h then (h, b) else e)) h = some b := by
  induction d with
  | nil => simp [Dict.contains] at hc
  | cons e r ih =>
    simp only [Dict.contains, List.any_cons, Bool.or_eq_true] at hc
    rw [List.map_cons, Dict.get?_cons]
    cases he : (e.1 == h)
    · have hr : Dict.contains r h = true := by
        rcases hc with hc | hc
        · rw [he] at hc; cases hc
        · exact hc
      simp only [Bool.false_eq_true, if_false, he]
      exact ih hr
    · simp

theorem Dict.get?_map_other {α} (d : Dict α) (h h' : Hash) (b : α) (hne : h' ≠ h) :
    Dict.get? (d.map (fun e => if e.1 == h then (h, b) else e)) h' = Dict.get? d h' := by
  induction d with
  | nil => rfl
  | cons e r ih =>
    rw [List.map_cons, Dict.get?_cons, Dict.get?_cons, ih]
    cases he : (e.1 == h)
    · simp
    · have e1 : e.1 = h := by simpa using he
      have hh : (h == h') = false := by simpa using (Ne.symm hne)
      have hh' : (e.1 == h') = false := by rw [e1]; exact hh
      simp [hh, hh']

theorem Dict.get?_append {α} (d x : Dict α) (h : Hash) :
    Dict.get? (d ++ x) h = (Dict.get? d h).or (Dict.get? x h) := by
  induction d with
  | nil => simp [Dict.get?_nil]
  | cons e r ih =>
    rw [List.cons_append, Dict.get?_cons, Dict.get?_cons, ih]
    cases (e.1 == h) <;> simp

theorem Dict.get?_eq_none_of_not_contains {α} (d : Dict α) (h : Hash) (hc : Dict.contains d h = false) :
    Dict.get? d h = none := by
  induction d with
  | nil => rfl
  | cons e r ih =>
    simp only [Dict.contains, List.any_cons, Bool.or_eq_false_iff] at hc
    rw [Dict.get?_cons, hc.1]
    exact ih hc.2

theorem Dict.get?_insert_self' {α} (d : Dict α) (h : Hash) (b : α) : Dict.get? (Dict.insert d h b) h = some b := by
  unfold Dict.insert
  split
  · next hc => exact Dict.get?_map_self d h b hc
  · next hc =>
    simp only [Bool.not_eq_true] at hc
    rw [Dict.get?_append, Dict.get?_eq_none_of_not_contains d h hc, Dict.get?_cons]
    simp

theorem Dict.get?_insert_other' {α} (d : Dict α) (h h' : Hash) (b : α) (hne : h' ≠ h) :
    Dict.get? (Dict.insert d h b) h' = Dict.get? d h' := by
  unfold Dict.insert
  split
  · exact Dict.get?_map_other d h h' b hne
  · have hh : (h == h') = false := by simpa using (Ne.symm hne)
    rw [Dict.get?_append, Dict.get?_cons]
    simp [hh, Dict.get?_nil]

theorem Dict.contains_nil {α} (h : Hash) : Dict.contains ([] : Dict α) h = false := rfl

theorem Dict.contains_cons {α} (e : Hash × α) (r : Dict α) (h : Hash) :
    Dict.contains (e :: r) h = (e.1 == h || Dict.contains r h) := by
  simp [Dict.contains]

theorem Dict.contains_eq_isSome {α} (d : Dict α) (h : Hash) :
    Dict.contains d h = (Dict.get? d h).isSome := by
  induction d with
  | nil => rfl
  | cons e r ih => rw [Dict.contains_cons, Dict.get?_cons, ih]; cases e.1 == h <;> rfl

theorem Dict.contains_iff_mem_keys {α} (d : Dict α) (h : Hash) :
    Dict.contains d h = true ↔ h ∈ d.map (·.1) := by
  induction d with
  | nil => simp [Dict.contains]
  | cons e r ih =>
    rw [Dict.contains_cons, Bool.or_eq_true, ih, List.map_cons, List.mem_cons, beq_iff_eq, eq_comm]

theorem Dict.keys_insert {α} (d : Dict α) (h : Hash) (v : α) :
    (Dict.insert d h v).map (·.1) = if Dict.contains d h then d.map (·.1) else d.map (·.1) ++ [h] := by
  unfold Dict.insert
  split
  · rw [List.map_map]
    apply List.map_congr_left
    intro e _
    simp only [Function.comp_apply]
    split
    · next he => exact (beq_iff_eq.1 he).symm
    · rfl
  · simp

theorem Dict.get?_insert {α} (d : Dict α) (h x : Hash) (v : α) :
    Dict.get? (Dict.insert d h v) x = if x = h then some v else Dict.get? d x := by
  split
  · next e => rw [e, Dict.get?_insert_self']
  · next e => exact Dict.get?_insert_other' d h x v e

theorem Dict.get?_erase {α} (d : Dict α) (h x : Hash) :
    Dict.get? (Dict.erase d h) x = if x = h then none else Dict.get? d x := by
  induction d with
  | nil => simp [Dict.erase, Dict.get?_nil]
  | cons e r ih =>
    unfold Dict.erase at ih ⊢
    rw [List.filter_cons]
    by_cases hx : x = h
    · subst hx; cases he : e.1 == x <;> simp [he, Dict.get?_cons, ih]
    · cases he : e.1 == h
      · simp [Dict.get?_cons, ih, hx]
      · have : (e.1 == x) = false := by rw [beq_iff_eq.1 he]; exact beq_false_of_ne (Ne.symm hx)
        simp [Dict.get?_cons, ih, hx, this]

theorem Dict.get?_erase_self {α} (d : Dict α) (h : Hash) : Dict.get? (Dict.erase d h) h = none := by
  rw [Dict.get?_erase, if_pos rfl]

theorem Dict.get?_erase_other {α} (d : Dict α) (h x : Hash) (hne : x ≠ h) :
    Dict.get? (Dict.erase d h) x = Dict.get? d x := by
  rw [Dict.get?_erase, if_neg hne]

theorem Dict.contains_insert {α} (d : Dict α) (h x : Hash) (v : α) :
    (Dict.contains (Dict.insert d h v) x = true) ↔ (Dict.contains d x = true ∨ x = h) := by
  rw [Dict.contains_eq_isSome, Dict.contains_eq_isSome, Dict.get?_insert]
  split <;> simp [*]

theorem Dict.contains_erase {α} (d : Dict α) (h x : Hash) :
    (Dict.contains (Dict.erase d h) x = true) ↔ (Dict.contains d x = true ∧ x ≠ h) := by
  rw [Dict.contains_eq_isSome, Dict.contains_eq_isSome, Dict.get?_erase]
  split <;> simp [*]

theorem Dict.contains_insert_other {α} (d : Dict α) (h x : Hash) (v : α) (hne : x ≠ h) :
    Dict.contains (Dict.insert d h v) x = Dict.contains d x := by
  rw [Dict.contains_eq_isSome, Dict.get?_insert, if_neg hne, Dict.contains_eq_isSome]

theorem Dict.contains_erase_self {α} (d : Dict α) (h : Hash) : Dict.contains (Dict.erase d h) h = false := by
  rw [Dict.contains_eq_isSome, Dict.get?_erase_self]; rfl

theorem Dict.contains_erase_other {α} (d : Dict α) (h x : Hash) (hne : x ≠ h) :
    Dict.contains (Dict.erase d h) x = Dict.contains d x := by
  rw [Dict.contains_eq_isSome, Dict.get?_erase_other d h x hne, Dict.contains_eq_isSome]

theorem Counts.val_nil (h : Hash) : Counts.val [] h = 0 := rfl

theorem Counts.val_cons (e : Hash × Nat) (r : Counts) (h : Hash) :
    Counts.val (e :: r) h = if e.1 == h then e.2 else Counts.val r h := by
  unfold Counts.val
  rw [Dict.get?_cons]
  split <;> rfl

theorem Counts.val_of_not_contains (c : Counts) (h : Hash) (hc : Dict.contains c h = false) :
    Counts.val c h = 0 := by
  unfold Counts.val
  rw [Dict.get?_eq_none_of_not_contains c h hc]; rfl

theorem Counts.val_insert (c : Counts) (h x : Hash) (v : Nat) :
    Counts.val (Dict.insert c h v) x = if x = h then v else Counts.val c x := by
  unfold Counts.val
  rw [Dict.get?_insert]
  split <;> rfl

theorem Counts.val_erase (c : Counts) (h x : Hash) :
    Counts.val (Dict.erase c h) x = if x = h then 0 else Counts.val c x := by
  unfold Counts.val
  rw [Dict.get?_erase]
  split <;> rfl

theorem Counts.val_inc (c : Counts) (h x : Hash) :
    Counts.val (Counts.inc c h) x = Counts.val c x + (if h = x then 1 else 0) := by
  unfold Counts.inc
  rw [Counts.val_insert]
  by_cases e : x = h
  · subst e; simp
  · simp [e, Ne.symm e]

/-- no key occurs twice (pending dict, ScratchDB cache) -/
def NoDupKeys {α} (d : Dict α) : Prop := (d.map (·.1)).Nodup

theorem NoDupKeys.nil {α} : NoDupKeys ([] : Dict α) := List.nodup_nil

theorem NoDupKeys.cons {α} {e : Hash × α} {r : Dict α} (hd : NoDupKeys (e :: r)) :
    Dict.contains r e.1 = false ∧ NoDupKeys r := by
  unfold NoDupKeys at hd
  rw [List.map_cons, List.nodup_cons] at hd
  exact ⟨Bool.eq_false_iff.2 fun hc => hd.1 ((Dict.contains_iff_mem_keys r e.1).1 hc), hd.2⟩

theorem NoDupKeys.insert {α} {d : Dict α} (hd : NoDupKeys d) (h : Hash) (v : α) :
    NoDupKeys (Dict.insert d h v) := by
  unfold NoDupKeys at hd ⊢
  rw [Dict.keys_insert]
  split
  · exact hd
  · next hc =>
    rw [Dict.contains_iff_mem_keys] at hc
    rw [List.nodup_append]
    refine ⟨hd, by simp, ?_⟩
    intro a ha b hb
    simp only [List.mem_singleton] at hb
    subst hb
    intro hab; subst hab; exact hc ha

theorem NoDupKeys.inc {c : Counts} (hd : NoDupKeys c) (h : Hash) : NoDupKeys (Counts.inc c h) :=
  NoDupKeys.insert hd h _

def PosVals (c : Counts) : Prop := ∀ e ∈ c, 0 < e.2

theorem PosVals.nil : PosVals [] := by intro e he; cases he

theorem PosVals.insert {c : Counts} (hp : PosVals c) (h : Hash) (v : Nat) (hv : 0 < v) :
    PosVals (Dict.insert c h v) := by
  unfold Dict.insert
  intro e he
  split at he
  · obtain ⟨e0, he0, rfl⟩ := List.mem_map.1 he
    split
    · exact hv
    · exact hp e0 he0
  · rcases List.mem_append.1 he with h1 | h1
    · exact hp e h1
    · simp only [List.mem_singleton] at h1; subst h1; exact hv

theorem PosVals.inc {c : Counts} (hp : PosVals c) (h : Hash) : PosVals (Counts.inc c h) :=
  PosVals.insert hp h _ (Nat.succ_pos _)

theorem Counts.val_of_mem {c : Counts} (hd : NoDupKeys c) (e : Hash × Nat) (he : e ∈ c) :
    Counts.val c e.1 = e.2 := by
  induction c with
  | nil => cases he
  | cons a r ih =>
    obtain ⟨ha, hr⟩ := hd.cons
    rw [Counts.val_cons]
    rcases List.mem_cons.1 he with rfl | h1
    · simp
    · have hne : (a.1 == e.1) = false := Bool.eq_false_iff.2 fun hb => by
        rw [beq_iff_eq.1 hb, (Dict.contains_iff_mem_keys r e.1).2 (List.mem_map.2 ⟨e, h1, rfl⟩)] at ha
        cases ha
      rw [hne]
      exact ih hr h1

end PyTrie.HexW
