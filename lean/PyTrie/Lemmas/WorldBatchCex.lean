import PyTrie.Lemmas.WorldBatch
/-! Counterexamples showing that two hypotheses of `WorldBatch.lean` cannot be dropped: `NoDupKeys cache` of
    `commitLoop_view` (hence the field `cacheNoDup` of `PruneInvV`), and `b.outer < w.counts.size` of
    `batchEnd_pruneInv`. -/
namespace PyTrie.HexW
open PyTrie.Hex hiding get set
open PyTrie.Hex.Node

/-- `commitLoop_view` without `NoDupKeys cache` is false: for the cache `[(k, some v), (k, none)]` the view
    reads the first entry (present) while the commit loop writes and then deletes the key (absent). -/
theorem commitLoop_view_needs_nodup :
    ¬ (∀ (cache : Dict (Option Bytes)) (base : Dict Bytes),
      (commitLoop true cache base none).1 = true ∧ (commitLoop true cache base none).2.2 = none ∧
      ∀ h, Dict.contains (commitLoop true cache base none).2.1 h =
        Store.view { base := base, cache := some cache, failAfter := none } h) := by
  intro H
  have := (H [([], some []), ([], none)] []).2.2 []
  revert this
  decide

/-- `batchEnd_pruneInv` without `b.outer < w.counts.size` is false (for every hashing): a world whose
    `counts` array has no slot for the outer trie drops the batch's counts on exit (`Array.set!` out of range
    is a no-op, `[i]!` then reads `[]`), so the counts of the outer trie are not the reference counts of the
    one-leaf tree. All other hypotheses hold. -/
theorem batchEnd_pruneInv_needs_counts_slot (Hs : Hashing) :
    ∃ (blankRootHash : Hash) (w : World) (b : Batch),
      w.batch = some b ∧ b.outer < w.tries.size ∧ (w.tries[b.outer]!).prune = true ∧ w.failAfter = none ∧
      PruneInvV Hs blankRootHash b.trie (w.batchOpSt b) ∧
      ¬ PruneInv Hs blankRootHash ((w.batchEnd false).2.tries[b.outer]!) ((w.batchEnd false).2.opSt b.outer) := by
  let x : Hash := Hs.hashOf (leaf [] [])
  let T : TrieSt := { tree := leaf [] [], root := x, prune := true }
  let b : Batch := { outer := 0, cache := [], trie := T, counts := [(x, 1)] }
  let w : World := { base := [(x, [])], tries := #[T], counts := #[], batch := some b }
  have hne : x ≠ 0 :: x := by
    intro e
    have := congrArg List.length e
    simp at this
  refine ⟨0 :: x, w, b, rfl, by simp [w, b], rfl, rfl, ⟨rfl, ?_, ?_, ?_, rfl, ?_⟩, ?_⟩
  · simp only [isBlank, T, b]
    exact ⟨rfl, hne⟩
  · intro h
    show Counts.val [(x, 1)] h = occRoot Hs (leaf [] []) h
    rw [Counts.val_cons, Counts.val_nil]
    simp only [occRoot, occProper, isBlank, true_and, Nat.zero_add, beq_iff_eq]
    rfl
  · intro h
    show Store.view { base := [(x, [])], cache := some [], failAfter := none } h = true ↔
      0 < occRoot Hs (leaf [] []) h
    simp only [Store.view, Dict.get?_nil, Dict.contains_cons, Dict.contains_nil, Bool.or_false, beq_iff_eq,
      occRoot, occProper, isBlank, true_and, Nat.zero_add]
    show x = h ↔ 0 < if x = h then 1 else 0
    split <;> simp_all
  · intro c hc
    cases hc
    exact NoDupKeys.nil
  · intro hP
    have hc := hP.counts x
    have e : ((w.batchEnd false).2.opSt b.outer).counts = [] := by
      simp [World.batchEnd, World.opSt, commitLoop, w, b, T]
      rfl
    rw [e, Counts.val_nil] at hc
    have e2 : ((w.batchEnd false).2.tries[b.outer]!).tree = leaf [] [] := by
      simp [World.batchEnd, commitLoop, w, b, T]
    rw [e2] at hc
    simp only [occRoot, occProper, isBlank, true_and, Nat.zero_add] at hc
    have : (if Hs.hashOf (leaf [] []) = x then 1 else 0) = 1 := if_pos rfl
    omega

end PyTrie.HexW
