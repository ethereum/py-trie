import PyTrie.Model.Hex
/-! Map semantics of the tree-level `set` / `delete` / `normalize` (no hypotheses). -/
namespace PyTrie.Hex
open Node

theorem take_cpl (p k : Path) : p.take (cpl p k) = k.take (cpl p k) := by
  fun_induction cpl p k <;> simp [*]

theorem cpl_le_left (p k : Path) : cpl p k ≤ p.length := by
  fun_induction cpl p k <;> simp [*]

theorem cpl_le_right (p k : Path) : cpl p k ≤ k.length := by
  fun_induction cpl p k <;> simp [*]

theorem cpl_comm (p k : Path) : cpl p k = cpl k p := by
  induction p generalizing k with
  | nil => cases k <;> rfl
  | cons a as ih => cases k <;> simp [cpl, ih, eq_comm]

theorem cpl_append_left (p r : Path) : cpl p (p ++ r) = p.length := by
  induction p <;> simp [cpl, *]

theorem cpl_drop_left_nil_iff (p k : Path) : p.drop (cpl p k) = [] ↔ p <+: k := by
  induction p generalizing k with
  | nil => simp
  | cons a as ih =>
    cases k with
    | nil => simp [cpl]
    | cons b bs => by_cases h : a = b <;> simp [cpl, h, ih, List.cons_prefix_cons]

theorem cpl_drop_right_nil_iff (p k : Path) : k.drop (cpl p k) = [] ↔ k <+: p := by
  rw [cpl_comm]; exact cpl_drop_left_nil_iff k p

theorem cpl_head_ne (p k : Path) (ph kh : Nib) (pt kt : Path)
    (h1 : p.drop (cpl p k) = ph :: pt) (h2 : k.drop (cpl p k) = kh :: kt) : ph ≠ kh := by
  fun_induction cpl p k with
  | case1 a as bs ih => exact ih (by simpa using h1) (by simpa using h2)
  | case2 a as b bs hab => simp_all
  | case3 p k h => exact absurd h2 (h _ _ _ _ h1)

/-- `p` and `k` part ways after their common prefix `c`; the three subterms of `set` are `c`, `pr`, `kr` -/
theorem cpl_cases (p k : Path) : ∃ c pr kr, p = c ++ pr ∧ k = c ++ kr ∧
    p.take (cpl p k) = c ∧ p.drop (cpl p k) = pr ∧ k.drop (cpl p k) = kr ∧
    ∀ ph kh pt kt, pr = ph :: pt → kr = kh :: kt → ph ≠ kh :=
  ⟨_, _, _, (List.take_append_drop ..).symm, by rw [take_cpl, List.take_append_drop], rfl, rfl, rfl,
    cpl_head_ne p k⟩

theorem get_branch_nil (ch : Nib → Node) (v : Bytes) : get (branch ch v) [] = v := rfl
theorem get_branch_cons (ch : Nib → Node) (v : Bytes) (a : Nib) (r : Path) :
    get (branch ch v) (a :: r) = get (ch a) r := rfl
theorem get_ext (p : Path) (c : Node) (k : Path) :
    get (ext p c) k = if p <+: k then get c (k.drop p.length) else [] := rfl
theorem get_leaf (p : Path) (v : Bytes) (k : Path) : get (leaf p v) k = if k = p then v else [] := rfl

theorem get_wrap (c : Path) (n : Node) (k : Path) : get (wrap c n) k = get (ext c n) k := by
  unfold wrap
  split
  · next h => subst h; simp [get]
  · rfl

@[simp] theorem get_emptyCh (i : Nib) (k : Path) : get (emptyCh i) k = [] := rfl

theorem get_upd (ch : Nib → Node) (i j : Nib) (n : Node) (k : Path) :
    get (upd ch i n j) k = if j = i then get n k else get (ch j) k := by
  unfold upd; split <;> rfl

theorem ne_append_of_not_prefix {c k : Path} (h : ¬ c <+: k) (r : Path) : k ≠ c ++ r :=
  fun e => h (e ▸ List.prefix_append c r)

theorem get_ext_append (c q : Path) (n : Node) (k : Path) :
    get (ext (c ++ q) n) k = get (ext c (ext q n)) k := by
  simp only [get_ext]
  by_cases h : c <+: k
  · obtain ⟨r, rfl⟩ := h
    simp [List.prefix_append_right_inj]
  · have : ¬ c ++ q <+: k := fun h' => h ((List.prefix_append _ _).trans h')
    simp [h, this]

theorem get_leaf_append (c q : Path) (v : Bytes) (k : Path) :
    get (leaf (c ++ q) v) k = get (ext c (leaf q v)) k := by
  simp only [get_ext, get_leaf]
  by_cases h : c <+: k
  · obtain ⟨r, rfl⟩ := h
    simp
  · simp [h, ne_append_of_not_prefix h]

theorem get_ext_congr {b o : Node} {kr : Path} {v : Bytes}
    (h : ∀ r, get b r = if r = kr then v else get o r) (c k : Path) :
    get (ext c b) k = if k = c ++ kr then v else get (ext c o) k := by
  simp only [get_ext, h]
  by_cases hpre : c <+: k
  · obtain ⟨r, rfl⟩ := hpre
    simp
  · simp [hpre, ne_append_of_not_prefix hpre]

theorem get_branch_congr {b : Node} {kr : Path} {v : Bytes} (ch : Nib → Node) (n : Nib) (bv : Bytes)
    (h : ∀ r, get b r = if r = kr then v else get (ch n) r) (k : Path) :
    get (branch (upd ch n b) bv) k = if k = n :: kr then v else get (branch ch bv) k := by
  cases k with
  | nil => simp [get]
  | cons a r =>
    simp only [get_branch_cons, get_upd, h]
    by_cases ha : a = n <;> simp [ha]

theorem get_set (t : Node) (k : Path) (v : Bytes) (k' : Path) :
    get (set t k v) k' = if k' = k then v else get t k' := by
  induction t generalizing k k' with
  | blank => rfl
  | leaf p pv =>
    -- up to contents every result is an extension `ext c _` of the common prefix: compare below `c`
    obtain ⟨c, pr, kr, rfl, rfl, h1, h2, h3, hne⟩ := cpl_cases p k
    simp only [set, h1, h2, h3]
    clear h1 h2 h3
    cases pr <;> cases kr <;> simp only [get_wrap, get_leaf_append] <;>
      refine get_ext_congr (fun r => ?_) c k' <;> cases r <;>
      simp [get_leaf, get_branch_nil, get_branch_cons, get_upd] <;> grind
  | ext p c ih =>
    obtain ⟨cm, pr, kr, rfl, rfl, h1, h2, h3, hne⟩ := cpl_cases p k
    simp only [set, h1, h2, h3]
    clear h1 h2 h3
    cases pr <;> cases kr <;> simp only [get_wrap, get_ext_append] <;>
      refine get_ext_congr (fun r => ?_) cm k' <;> cases r <;>
      simp [get_ext, get_wrap, get_leaf, get_branch_nil, get_branch_cons, get_upd, ih] <;> grind
  | branch ch bv ih =>
    cases k with
    | nil => cases k' <;> simp [set, get]
    | cons n k => exact get_branch_congr ch n bv (ih n k) k'

theorem isBlank_iff (n : Node) : isBlank n = true ↔ n = blank := by cases n <;> simp [isBlank]

theorem get_blank_of_isBlank {n : Node} (h : isBlank n = true) (k : Path) : get n k = [] := by
  rw [(isBlank_iff n).1 h]; rfl

theorem not_blank_of_get {n : Node} {k : Path} (h : get n k ≠ []) : isBlank n = false := by
  cases n with
  | blank => simp [get] at h
  | _ => rfl

theorem mem_liveIdx (ch : Nib → Node) (i : Nib) : i ∈ liveIdx ch ↔ isBlank (ch i) = false := by
  simp [liveIdx]

theorem isBlank_of_not_mem_liveIdx {ch : Nib → Node} {i : Nib} (h : i ∉ liveIdx ch) :
    isBlank (ch i) = true := by
  simpa [mem_liveIdx] using h

theorem get_normalize (ch : Nib → Node) (v : Bytes) (k : Path) :
    get (normalize ch v) k = get (branch ch v) k := by
  have hb (a : Nib) (r : Path) (h : a ∉ liveIdx ch) : get (ch a) r = [] :=
    get_blank_of_isBlank (isBlank_of_not_mem_liveIdx h) r
  unfold normalize
  generalize hl : liveIdx ch = l at hb
  match l, v with
  | [], [] => cases k <;> simp [get, hb]
  | [], _ :: _ => cases k <;> simp [get, hb]
  | [i], [] =>
    -- the merged node has the contents of `ext [i] (ch i)`
    have : get (ext [i] (ch i)) k = get (branch ch []) k := by
      cases k with
      | nil => rfl
      | cons a r =>
        by_cases ha : i = a
        · simp [get, ha]
        · simp [get, ha, hb a r (by simpa using Ne.symm ha)]
    rw [← this]
    simp only []
    split
    · next e => rw [e]; exact get_leaf_append [i] _ _ k
    · next e => rw [e]; exact get_ext_append [i] _ _ k
    · rfl
  | [i], _ :: _ => rfl
  | _ :: _ :: _, _ => rfl

theorem get_delete (t : Node) (k k' : Path) :
    get (delete t k) k' = if k' = k then [] else get t k' := by
  induction t generalizing k k' with
  | blank => simp [delete, get]
  | leaf p v => simp only [delete]; split <;> simp_all [get] <;> grind
  | ext p c ih =>
    simp only [delete]
    split
    · next hpk =>
      -- the merged node has the contents of `ext p (delete c kr)`
      obtain ⟨kr, rfl⟩ := hpk
      rw [List.drop_left, ← get_ext_congr (ih kr) p k']
      split
      · next e => simp [e, get]
      · next e => rw [e]; exact get_leaf_append ..
      · next e => rw [e]; exact get_ext_append ..
      · next e => rw [e]
    · next hpk =>
      have : k' = k → ¬ p <+: k' := fun h => h ▸ hpk
      simp only [get]; grind
  | branch ch bv ih =>
    cases k with
    | nil => simp only [delete, get_normalize]; cases k' <;> simp [get]
    | cons n k =>
      simp only [delete]
      split <;> (try rw [get_normalize]) <;> exact get_branch_congr ch n bv (ih n k) k'

theorem nib_hi_val (x : UInt8) : (Fin.ofNat 16 (x.toNat / 16)).val = x.toNat / 16 := by
  have := x.toNat_lt
  simp only [Fin.val_ofNat]
  omega

theorem nib_lo_val (x : UInt8) : (Fin.ofNat 16 (x.toNat % 16)).val = x.toNat % 16 := by
  simp only [Fin.val_ofNat]
  omega

end PyTrie.Hex
