import PyTrie.Model.Smt
/-! Sparse Merkle tree (C14) and streamed proof (C15) at database level. The database is the log of
    all writes; `Functional` (no hash bound to two bodies) is the run-level no-collision predicate,
    needed only where a value is read back. Nothing is assumed about `H` except its 32-byte output
    (`node[:32] / node[32:]` in the code relies on it). -/
namespace PyTrie.Smt
open PyTrie.Bin (Bits)

def Functional (db : Db) : Prop := ∀ h b b', (h, b) ∈ db → (h, b') ∈ db → b = b'

variable (H : Bytes → Bytes)

/-- Merkle root of the full depth-`d` tree whose leaf at path `p` is `H (f p)` -/
def merkleRoot : Nat → (Bits → Bytes) → Hash
  | 0, f => H (f [])
  | d + 1, f => H (merkleRoot d (fun p => f (false :: p)) ++ merkleRoot d (fun p => f (true :: p)))

/-- `h` resolves through `db` to the full depth-`d` tree with leaves `f` -/
def Rep (db : Db) : Nat → Hash → (Bits → Bytes) → Prop
  | 0, h, f => h = H (f []) ∧ (h, f []) ∈ db
  | d + 1, h, f => ∃ l r, h = H (l ++ r) ∧ (h, l ++ r) ∈ db ∧ l.length = 32 ∧
      Rep db d l (fun p => f (false :: p)) ∧ Rep db d r (fun p => f (true :: p))

/-- the sibling hashes along a path in the ideal tree, root → leaf (what `branch(key)` must return) -/
def siblings : (d : Nat) → (Bits → Bytes) → Bits → List Hash
  | d + 1, f, b :: bs =>
    (if b then merkleRoot H d (fun p => f (false :: p)) else merkleRoot H d (fun p => f (true :: p))) ::
      siblings d (fun p => f (b :: p)) bs
  | _, _, _ => []

/-- the hashes of the nodes on a path in the ideal tree, root → leaf, root excluded, leaf included
    (what `set` must return) -/
def pathHashes : (d : Nat) → (Bits → Bytes) → Bits → List Hash
  | d + 1, f, b :: bs => merkleRoot H d (fun p => f (b :: p)) :: pathHashes d (fun p => f (b :: p)) bs
  | _, _, _ => []

/-- the leaf function after writing `value` at `key` -/
def upd (f : Bits → Bytes) (key : Bits) (value : Bytes) : Bits → Bytes := fun p => if p = key then value else f p

theorem lookup_of_mem {db : Db} (hf : Functional db) {h : Hash} {b : Bytes} (hm : (h, b) ∈ db) :
    lookup db h = some b := by
  unfold lookup
  cases hfind : db.find? (fun e => e.1 == h) with
  | none => simpa using List.find?_eq_none.1 hfind _ hm
  | some e =>
    have he : e.1 = h := by simpa using List.find?_some hfind
    subst he
    exact congrArg some (hf _ _ _ (List.mem_of_find?_eq_some hfind) hm)

theorem rep_root (db : Db) (d : Nat) (h : Hash) (f : Bits → Bytes) (hr : Rep H db d h f) :
    h = merkleRoot H d f := by
  induction d generalizing h f with
  | zero => exact hr.1
  | succ d ih =>
    obtain ⟨l, r, hh, _, _, hl, hrr⟩ := hr
    rw [hh, ih l _ hl, ih r _ hrr]; rfl

theorem rep_mono (db db' : Db) (hsub : ∀ x ∈ db, x ∈ db') (d : Nat) (h : Hash) (f : Bits → Bytes)
    (hr : Rep H db d h f) : Rep H db' d h f := by
  induction d generalizing h f with
  | zero => exact ⟨hr.1, hsub _ hr.2⟩
  | succ d ih =>
    obtain ⟨l, r, hh, hm, hlen, hl, hrr⟩ := hr
    exact ⟨l, r, hh, hsub _ hm, hlen, ih l _ hl, ih r _ hrr⟩

theorem merkleRoot_length (hlen : ∀ b, (H b).length = 32) (d : Nat) (f : Bits → Bytes) :
    (merkleRoot H d f).length = 32 := by
  cases d <;> exact hlen _

/-- the constructor's loop keeps this invariant: in any database that has the writes so far and the body
    `node` under its hash, that hash resolves to the all-default tree of depth `k` -/
theorem initLoop_rep (hlen : ∀ b, (H b).length = 32) (dflt : Bytes) (n k : Nat) (node : Bytes) (db : Db)
    (h : ∀ db', (∀ x ∈ (H node, node) :: db, x ∈ db') → Rep H db' k (H node) (fun _ => dflt))
    (db' : Db) (hsub : ∀ x ∈ (H (initLoop H n node db).1, (initLoop H n node db).1) :: (initLoop H n node db).2, x ∈ db') :
    Rep H db' (n + k) (H (initLoop H n node db).1) (fun _ => dflt) := by
  induction n generalizing k node db with
  | zero => rw [Nat.zero_add]; exact h db' hsub
  | succ n ih =>
    rw [Nat.succ_add_eq_add_succ]
    refine ih (k + 1) (H node ++ H node) ((H node, node) :: db) (fun db' hs => ?_) hsub
    have hc := h db' fun x hx => hs x (List.mem_cons_of_mem _ hx)
    exact ⟨_, _, rfl, hs _ List.mem_cons_self, hlen _, hc, hc⟩

/-- the constructor builds the tree of defaults -/
theorem init_rep (hlen : ∀ b, (H b).length = 32) (d : Nat) (dflt : Bytes) :
    Rep H (init H d dflt).db d (init H d dflt).root (fun _ => dflt) ∧ (init H d dflt).depth = d :=
  ⟨initLoop_rep H hlen dflt d 0 dflt [] (fun _ hs => ⟨rfl, hs _ List.mem_cons_self⟩) _ fun _ hx => hx, rfl⟩

/-! The sibling of a step `b` is the subtree under `!b`; stated this way the lemmas along a path need no
    case split on the bit. -/

theorem siblings_cons (d : Nat) (f : Bits → Bytes) (b : Bool) (bs : Bits) :
    siblings H (d + 1) f (b :: bs) =
      merkleRoot H d (fun p => f ((!b) :: p)) :: siblings H d (fun p => f (b :: p)) bs := by
  cases b <;> rfl

theorem merkleRoot_succ (d : Nat) (f : Bits → Bytes) (b : Bool) :
    merkleRoot H (d + 1) f =
      H (if b then merkleRoot H d (fun p => f ((!b) :: p)) ++ merkleRoot H d (fun p => f (b :: p))
         else merkleRoot H d (fun p => f (b :: p)) ++ merkleRoot H d (fun p => f ((!b) :: p))) := by
  cases b <;> rfl

theorem upd_cons_eq (f : Bits → Bytes) (b : Bool) (bs : Bits) (v : Bytes) :
    (fun p => upd f (b :: bs) v (b :: p)) = upd (fun p => f (b :: p)) bs v := by
  funext p; simp [upd]

theorem upd_cons_ne (f : Bits → Bytes) {a b : Bool} (hab : a ≠ b) (bs : Bits) (v : Bytes) :
    (fun p => upd f (b :: bs) v (a :: p)) = fun p => f (a :: p) := by
  funext p; simp [upd, hab]

theorem not_ne (b : Bool) : (!b) ≠ b := (Bool.not_eq_self b).1

/-- `_get` returns the leaf value and exactly the sibling list of the ideal tree -/
theorem getAux_of_rep (db : Db) (hf : Functional db) (d : Nat) (h : Hash) (f : Bits → Bytes)
    (hr : Rep H db d h f) (bits : Bits) (hb : bits.length = d) :
    getAux db h bits = some (f bits, siblings H d f bits) := by
  subst hb
  induction bits generalizing h f with
  | nil => simp [getAux, lookup_of_mem hf hr.2, siblings]
  | cons b bs ih =>
    obtain ⟨l, r, _, hm, hlen, hl, hrr⟩ := hr
    have hL := rep_root H db _ l _ hl
    have hR := rep_root H db _ r _ hrr
    cases b <;>
      simp only [getAux, lookup_of_mem hf hm, List.take_left' hlen, List.drop_left' hlen, ih _ _ hl, ih _ _ hrr,
        siblings, ← hL, ← hR, Bool.false_eq_true, if_false, if_true, Option.map_some, List.length_cons]

/-- `get` on a tree that represents `f` reads `f`; a blank value reads as absent -/
theorem get_of_rep (t : Tree) (hf : Functional t.db) (d : Nat) (f : Bits → Bytes) (hr : Rep H t.db d t.root f)
    (key : Bits) (hk : key.length = d) :
    get t key = if f key = [] then .error .keyError else .ok (f key) := by
  rw [get, getAux_of_rep H t.db hf d t.root f hr key hk]

/-- `calc_root(key, value, branch(key))` is the root -/
theorem calcRoot_siblings (d : Nat) (f : Bits → Bytes) (bits : Bits) (hb : bits.length = d) :
    calcRoot H bits (f bits) (siblings H d f bits) = merkleRoot H d f := by
  subst hb
  induction bits generalizing f with
  | nil => rfl
  | cons b bs ih =>
    simp only [List.length_cons, siblings_cons, calcRoot, ih fun p => f (b :: p), merkleRoot_succ H _ f b]
    cases b <;> rfl

/-- `set` re-establishes the representation for the updated leaf function, in any db that contains the
    old entries and the writes of this `set`. -/
theorem set_rep (hlen : ∀ b, (H b).length = 32) (db db' : Db) (hsub : ∀ x ∈ db, x ∈ db')
    (d : Nat) (h : Hash) (f : Bits → Bytes) (hr : Rep H db d h f)
    (bits : Bits) (hb : bits.length = d) (value : Bytes)
    (hw : ∀ x ∈ (setAux H bits (siblings H d f bits) value).2.1, x ∈ db')
    (htop : (H (setAux H bits (siblings H d f bits) value).1, (setAux H bits (siblings H d f bits) value).1) ∈ db') :
    Rep H db' d (H (setAux H bits (siblings H d f bits) value).1) (upd f bits value) := by
  subst hb
  induction bits generalizing h f with
  | nil => exact ⟨by simp [setAux, upd], by simpa [setAux, upd] using htop⟩
  | cons b bs ih =>
    obtain ⟨l, r, _, _, _, hl, hrr⟩ := hr
    obtain rfl := rep_root H db _ l _ hl
    obtain rfl := rep_root H db _ r _ hrr
    -- the child on the path is rebuilt, its sibling is the old subtree
    cases b <;> simp only [List.length_cons, siblings, setAux, Bool.false_eq_true, ↓reduceIte] at hw htop ⊢
    · refine ⟨_, _, rfl, htop, hlen _, ?_, ?_⟩
      · rw [upd_cons_eq]
        exact ih _ _ hl (fun x hx => hw x (List.mem_append_left _ hx)) (hw _ (List.mem_append_right _ (by simp)))
      · rw [upd_cons_ne f (by decide)]
        exact rep_mono H db db' hsub _ _ _ hrr
    · refine ⟨_, _, rfl, htop, merkleRoot_length H hlen _ _, ?_, ?_⟩
      · rw [upd_cons_ne f (by decide)]
        exact rep_mono H db db' hsub _ _ _ hl
      · rw [upd_cons_eq]
        exact ih _ _ hrr (fun x hx => hw x (List.mem_append_left _ hx)) (hw _ (List.mem_append_right _ (by simp)))

theorem setAux_hashes (d : Nat) (f : Bits → Bytes) (bits : Bits) (hb : bits.length = d) (value : Bytes) :
    H (setAux H bits (siblings H d f bits) value).1 = merkleRoot H d (upd f bits value) ∧
    (setAux H bits (siblings H d f bits) value).2.2 = pathHashes H d (upd f bits value) bits := by
  subst hb
  induction bits generalizing f with
  | nil => simp [setAux, merkleRoot, pathHashes, upd]
  | cons b bs ih =>
    obtain ⟨IH1, IH2⟩ := ih fun p => f (b :: p)
    simp only [List.length_cons, siblings_cons, setAux, merkleRoot_succ H _ _ b, pathHashes, upd_cons_eq,
      upd_cons_ne f (not_ne b), IH1, IH2, and_self]

theorem set_some {t : Tree} {key : Bits} {value : Bytes} {t' : Tree} {ups : List Hash}
    (h : set H t key value = some (t', ups)) :
    t'.depth = t.depth ∧ t'.default = t.default ∧ ∀ x ∈ t.db, x ∈ t'.db := by
  unfold set at h
  split at h
  · cases h
  · cases h
    exact ⟨rfl, rfl, fun x hx => List.mem_cons_of_mem _ (List.mem_append_right _ hx)⟩

/-- **`set`** re-establishes the representation for the updated leaf function and returns the new path
    hashes root → leaf -/
theorem set_spec (hlen : ∀ b, (H b).length = 32) (t : Tree) (f : Bits → Bytes)
    (hfun : Functional t.db) (hr : Rep H t.db t.depth t.root f) (key : Bits) (hk : key.length = t.depth)
    (value : Bytes) :
    ∃ t' ups, set H t key value = some (t', ups) ∧ t'.depth = t.depth ∧ t'.default = t.default ∧
      (∀ x ∈ t.db, x ∈ t'.db) ∧
      Rep H t'.db t'.depth t'.root (upd f key value) ∧
      ups = pathHashes H t.depth (upd f key value) key := by
  simp only [set, getAux_of_rep H t.db hfun t.depth t.root f hr key hk]
  refine ⟨_, _, rfl, rfl, rfl, fun x hx => List.mem_cons_of_mem _ (List.mem_append_right _ hx), ?_,
    (setAux_hashes H t.depth f key hk value).2⟩
  exact set_rep H hlen t.db _ (fun x hx => List.mem_cons_of_mem _ (List.mem_append_right _ hx)) t.depth t.root f hr
    key hk value (fun x hx => List.mem_cons_of_mem _ (List.mem_append_left _ (List.mem_reverse.2 hx)))
    List.mem_cons_self

theorem firstDiff_none_iff (a b : Bits) (h : a.length = b.length) : firstDiff a b = none ↔ a = b := by
  induction a generalizing b with
  | nil => cases b <;> simp [firstDiff] at h ⊢
  | cons x xs ih =>
    cases b with
    | nil => simp at h
    | cons y ys =>
      by_cases e : x = y
      · simp [firstDiff, e, ih ys (by simpa using h)]
      · simp [firstDiff, e]

theorem firstDiff_lt (a b : Bits) (i : Nat) (h : firstDiff a b = some i) : i < a.length ∧ i < b.length := by
  induction a generalizing b i with
  | nil => simp [firstDiff] at h
  | cons x xs ih =>
    cases b with
    | nil => simp [firstDiff] at h
    | cons y ys =>
      simp only [firstDiff] at h
      split at h
      · obtain ⟨j, hj, rfl⟩ := Option.map_eq_some_iff.1 h
        have := ih ys j hj
        simp only [List.length_cons]; omega
      · cases h; simp

/-- how the sibling list of a tracked key changes when another key is written: only the entry at the
    first differing bit changes, and it becomes the new path hash of the written key at that depth -/
theorem siblings_upd (d : Nat) (f : Bits → Bytes) (k0 key : Bits) (h0 : k0.length = d) (hk : key.length = d)
    (value : Bytes) (i : Nat) (hi : firstDiff k0 key = some i) :
    siblings H d (upd f key value) k0 =
      (siblings H d f k0).set i ((pathHashes H d (upd f key value) key).getD i []) := by
  subst h0
  induction k0 generalizing f key i with
  | nil => simp [firstDiff] at hi
  | cons a as ih =>
    cases key with
    | nil => simp [firstDiff] at hi
    | cons b bs =>
      simp only [firstDiff] at hi
      split at hi
      · next hab =>
        subst hab
        obtain ⟨j, hj, rfl⟩ := Option.map_eq_some_iff.1 hi
        simp only [List.length_cons, siblings_cons, pathHashes, upd_cons_eq, upd_cons_ne f (not_ne a),
          List.set_cons_succ, List.getD_cons_succ, ih _ bs j hj (by simpa using hk)]
      · next hab =>
        cases hi
        obtain rfl := Bool.eq_not_of_ne (Ne.symm hab)
        simp only [List.length_cons, siblings_cons, pathHashes, upd_cons_eq, upd_cons_ne f hab,
          List.set_cons_zero, List.getD_cons_zero]

theorem siblings_upd_self (d : Nat) (f : Bits → Bytes) (key : Bits) (value : Bytes) :
    siblings H d (upd f key value) key = siblings H d f key := by
  induction d generalizing f key with
  | zero => simp [siblings]
  | succ d ih =>
    cases key with
    | nil => simp [siblings]
    | cons b bs => simp only [siblings_cons, upd_cons_eq, upd_cons_ne f (not_ne b), ih]

theorem pathHashes_length (d : Nat) (f : Bits → Bytes) (key : Bits) (hk : key.length = d) :
    (pathHashes H d f key).length = d := by
  subst hk
  induction key generalizing f with
  | nil => rfl
  | cons b bs ih => simp [pathHashes, ih]

/-- **C15, one update**: a proof that is in sync with the leaf function `f` (value and branch of the
    tracked key) stays in sync after the tree wrote `value` at `key`, given any prefix of the returned
    hashes that reaches the first differing bit; a shorter prefix is rejected -/
theorem proof_update_tracks (d : Nat) (f : Bits → Bytes) (p : Proof) (hp : p.key.length = d)
    (hv : p.value = f p.key) (hb : p.branch = siblings H d f p.key)
    (key : Bits) (hk : key.length = d) (value : Bytes) (n : Nat) :
    let ups := (pathHashes H d (upd f key value) key).take n
    (key = p.key → ∃ p', p.update key value ups = .ok p' ∧ p'.key = p.key ∧
        p'.value = upd f key value p.key ∧ p'.branch = siblings H d (upd f key value) p.key) ∧
    (∀ i, firstDiff p.key key = some i → i < n → ∃ p', p.update key value ups = .ok p' ∧ p'.key = p.key ∧
        p'.value = upd f key value p.key ∧ p'.branch = siblings H d (upd f key value) p.key) ∧
    (∀ i, firstDiff p.key key = some i → n ≤ i → p.update key value ups = .error .validation) := by
  intro ups
  have hlenups : ups.length = min n d := by
    simp [ups, pathHashes_length H d _ key hk]
  refine ⟨?_, ?_, ?_⟩
  · intro hkey
    subst hkey
    have hnone : firstDiff p.key p.key = none := (firstDiff_none_iff _ _ rfl).2 rfl
    refine ⟨{ p with value := value }, ?_, rfl, ?_, ?_⟩
    · simp [Proof.update, hnone]
    · simp [upd]
    · simp only [siblings_upd_self]; exact hb
  · intro i hi hin
    have hlt := firstDiff_lt _ _ i hi
    have hne : p.key ≠ key := by
      intro e
      have := (firstDiff_none_iff p.key key (by omega)).2 e
      rw [this] at hi; cases hi
    have hnle : ¬ ups.length ≤ i := by omega
    refine ⟨{ p with branch := p.branch.set i (ups.getD i []) }, ?_, rfl, ?_, ?_⟩
    · simp only [Proof.update, hi, hnle, ↓reduceIte]
    · simp only [upd, hne, ↓reduceIte]; exact hv
    · have hg : ups.getD i [] = (pathHashes H d (upd f key value) key).getD i [] := by
        simp only [ups, List.getD_eq_getElem?_getD, List.getElem?_take, hin, ↓reduceIte]
      simp only [hg, hb]
      exact (siblings_upd H d f p.key key hp hk value i hi).symm
  · intro i hi hni
    have hle : ups.length ≤ i := by omega
    simp only [Proof.update, hi, hle, ↓reduceIte]

end PyTrie.Smt
