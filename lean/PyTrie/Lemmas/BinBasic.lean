import PyTrie.Model.Bin
/-! The binary trie on trees, basics. `_set` is described once, by one equation per way the key can meet a
    node (`bset_leaf` … `bset_branch_cons`), with the induction principle `walk_induct` that has exactly these
    cases; later proofs rewrite with the equations and never unfold `bset`. The kv cases are stated on the
    shape of path and key (key a proper prefix of the path, path a prefix of the key, or the two part after
    a common prefix), not on `cpl`. Invariant `WF`: leaf values and kv paths are non-empty. -/
namespace PyTrie.Bin
open BNode

def WF : BNode → Prop
  | leaf v => v ≠ []
  | kv p c => p ≠ [] ∧ WF c
  | branch l r => WF l ∧ WF r

theorem cpl_le_left (p k : Bits) : cpl p k ≤ p.length := by
  induction p generalizing k with
  | nil => simp [cpl]
  | cons a as ih => cases k with
    | nil => simp [cpl]
    | cons b bs => simp only [cpl]; split <;> simp [ih]

theorem cpl_eq_length_iff (p k : Bits) : cpl p k = p.length ↔ p <+: k := by
  induction p generalizing k with
  | nil => simp [cpl]
  | cons a as ih =>
    cases k with
    | nil => simp [cpl]
    | cons b bs =>
      simp only [cpl, List.cons_prefix_cons]
      split
      · next h => subst h; simp [ih]
      · next h => simp [h]

theorem cpl_lt_left {p k : Bits} (h : ¬ p <+: k) : cpl p k < p.length :=
  Nat.lt_of_le_of_ne (cpl_le_left p k) fun e => h ((cpl_eq_length_iff p k).1 e)

theorem cpl_comm (p k : Bits) : cpl p k = cpl k p := by
  induction p generalizing k with
  | nil => cases k <;> simp [cpl]
  | cons a as ih =>
    cases k with
    | nil => simp [cpl]
    | cons b bs =>
      simp only [cpl]
      by_cases h : a = b
      · subst h; simp [ih]
      · simp [h, Ne.symm h]

theorem prefix_iff_cpl (p k : Bits) : k <+: p ↔ k.length ≤ cpl p k := by
  have h1 := cpl_le_left k p
  have h2 := cpl_eq_length_iff k p
  rw [cpl_comm] at h1 h2
  rw [← h2]; omega

theorem cpl_append_cons (cm : Bits) (pb kb : Bool) (pt kt : Bits) (h : pb ≠ kb) :
    cpl (cm ++ pb :: pt) (cm ++ kb :: kt) = cm.length := by
  induction cm with
  | nil => simp [cpl, h]
  | cons a as ih => simp [cpl, ih]

theorem diverge (p k : Bits) (hp : ¬ p <+: k) (hk : ¬ k <+: p) :
    ∃ cm pb pt kb kt, p = cm ++ pb :: pt ∧ k = cm ++ kb :: kt ∧ pb ≠ kb := by
  induction p generalizing k with
  | nil => simp at hp
  | cons a as ih =>
    cases k with
    | nil => simp at hk
    | cons b bs =>
      by_cases e : a = b
      · subst e
        obtain ⟨cm, pb, pt, kb, kt, h1, h2, h3⟩ := ih bs (by simpa using hp) (by simpa using hk)
        exact ⟨a :: cm, pb, pt, kb, kt, by simp [h1], by simp [h2], h3⟩
      · exact ⟨[], a, as, b, bs, rfl, rfl, e⟩

theorem proper_prefix {p k : Bits} (h : k <+: p) (hne : k ≠ p) : k.length < p.length ∧ ¬ p <+: k :=
  ⟨Nat.lt_of_le_of_ne h.length_le fun e => hne (h.eq_of_length e),
    fun h' => hne (h.eq_of_length_le h'.length_le)⟩

theorem diverge_not_prefix (cm pt kt : Bits) (pb kb : Bool) (h : pb ≠ kb) (k' : Bits)
    (hk : cm ++ kb :: kt <+: k') : ¬ cm ++ pb :: pt <+: k' := by
  obtain ⟨x, rfl⟩ := hk
  simp [List.prefix_append_right_inj, h]

/-- induction along the walk of `_set` / `_get` down a trie: one case per way the key can meet a node -/
theorem walk_induct {motive : BNode → Bits → Prop}
    (leaf : ∀ x k, motive (leaf x) k)
    (kv_nil : ∀ p c, motive (kv p c) [])
    (kv_prefix : ∀ p c k, k ≠ [] → k <+: p → k ≠ p → motive (kv p c) k)
    (kv_append : ∀ p c kr, p ++ kr ≠ [] → motive c kr → motive (kv p c) (p ++ kr))
    (kv_diverge : ∀ cm pb pt kb kt c, pb ≠ kb → motive (kv (cm ++ pb :: pt) c) (cm ++ kb :: kt))
    (branch_nil : ∀ l r, motive (branch l r) [])
    (branch_cons : ∀ l r b k, motive (if b = false then l else r) k → motive (branch l r) (b :: k))
    (t : BNode) (k : Bits) : motive t k := by
  induction t generalizing k with
  | leaf x => exact leaf x k
  | kv p c ih =>
    by_cases hk : k = []
    · exact hk ▸ kv_nil p c
    by_cases hp : p <+: k
    · obtain ⟨kr, rfl⟩ := hp
      exact kv_append p c kr hk (ih kr)
    by_cases hkp : k <+: p
    · exact kv_prefix p c k hk hkp fun e => hp (e ▸ List.prefix_refl _)
    obtain ⟨cm, pb, pt, kb, kt, rfl, rfl, hne⟩ := diverge p k hp hkp
    exact kv_diverge cm pb pt kb kt c hne
  | branch l r ihl ihr =>
    match k with
    | [] => exact branch_nil l r
    | false :: k => exact branch_cons l r false k (ihl k)
    | true :: k => exact branch_cons l r true k (ihr k)

theorem bget_leaf (v : Bytes) (k : Bits) : bget (leaf v) k = if k = [] then some v else none := rfl
theorem bget_kv (p : Bits) (c : BNode) (k : Bits) :
    bget (kv p c) k = if k = [] then none else if p <+: k then bget c (k.drop p.length) else none := rfl
theorem bget_branch_nil (l r : BNode) : bget (branch l r) [] = none := rfl
theorem bget_branch_cons (l r : BNode) (b : Bool) (k : Bits) :
    bget (branch l r) (b :: k) = if b = false then bget l k else bget r k := rfl

theorem bget_branch_cons' (l r : BNode) (b : Bool) (k : Bits) :
    bget (branch l r) (b :: k) = bget (if b = false then l else r) k := by
  cases b <;> rfl

theorem bgetTop_none (k : Bits) : bgetTop none k = none := rfl
theorem bgetTop_some (n : BNode) (k : Bits) : bgetTop (some n) k = bget n k := rfl

theorem bget_kv_of_ne {p : Bits} {c : BNode} {k : Bits} (hp : p ≠ []) :
    bget (kv p c) k = if p <+: k then bget c (k.drop p.length) else none := by
  rw [bget_kv]
  split
  · next hk => subst hk; simp [hp]
  · rfl

theorem bget_kv_some (p : Bits) (c : BNode) (k : Bits) (v : Bytes) :
    bget (kv p c) k = some v ↔ k ≠ [] ∧ ∃ r, k = p ++ r ∧ bget c r = some v := by
  rw [bget_kv]
  constructor
  · intro h
    split at h
    · cases h
    · next hk =>
      split at h
      · next hp => obtain ⟨r, rfl⟩ := hp; exact ⟨hk, r, rfl, by simpa using h⟩
      · cases h
  · rintro ⟨hk, r, rfl, h⟩
    rw [if_neg hk, if_pos (List.prefix_append _ _), List.drop_left]; exact h

theorem wf_child {l r : BNode} (h : WF (branch l r)) : ∀ b : Bool, WF (if b = false then l else r)
  | false => h.1
  | true => h.2

theorem wf_mkKv (p : Bits) (s : BNode) (hp : p ≠ []) (hs : WF s) : WF (mkKv p s) := by
  cases s with
  | leaf v => exact ⟨hp, hs⟩
  | kv p2 c2 => exact ⟨by simp [hp], hs.2⟩
  | branch l r => exact ⟨hp, hs⟩

/-- `kv p c`, or `c` itself when the path is empty: the shape of `valnode`, `oldnode` and of the result in
    `_set_kv_node` -/
def optKv (p : Bits) (c : BNode) : BNode := if p = [] then c else kv p c

/-- the node `_set_kv_node` builds when the key leaves the path after the common part `cm` with bit `kb`:
    `pt` and `kt` are what is left of path and key behind the differing bit -/
def splitNode (cm : Bits) (kb : Bool) (pt : Bits) (c : BNode) (kt : Bits) (v : Bytes) : BNode :=
  optKv cm (if kb = true then branch (optKv pt c) (optKv kt (leaf v)) else branch (optKv kt (leaf v)) (optKv pt c))

theorem wf_optKv (p : Bits) (c : BNode) (hc : WF c) : WF (optKv p c) := by
  unfold optKv; split
  · exact hc
  · exact ⟨‹_›, hc⟩

theorem wf_splitNode (cm : Bits) (kb : Bool) (pt : Bits) (c : BNode) (kt : Bits) (v : Bytes)
    (hc : WF c) (hv : v ≠ []) : WF (splitNode cm kb pt c kt v) := by
  have h1 := wf_optKv pt c hc
  have h2 := wf_optKv kt (leaf v) hv
  cases kb
  · exact wf_optKv cm _ ⟨h2, h1⟩
  · exact wf_optKv cm _ ⟨h1, h2⟩

theorem bset_leaf (x : Bytes) (k : Bits) (v : Bytes) (sub : Bool) :
    bset (leaf x) k v sub =
      if k = [] then .ok (if v = [] ∨ sub then none else some (leaf v)) else .error .override := by
  by_cases hk : k = [] <;> cases sub <;> by_cases hv : v = [] <;> simp [bset, hk, hv]

theorem bset_kv_nil (p : Bits) (c : BNode) (v : Bytes) (sub : Bool) :
    bset (kv p c) [] v sub = if sub then .ok none else .error .override := rfl

theorem bset_kv_prefix {p : Bits} {c : BNode} {k : Bits} {v : Bytes} {sub : Bool}
    (hk : k ≠ []) (h : k <+: p) (hne : k ≠ p) :
    bset (kv p c) k v sub =
      if sub then .ok none else if v = [] then .ok (some (kv p c)) else .error .override := by
  obtain ⟨hlt, hp⟩ := proper_prefix h hne
  simp only [bset, if_neg hk, hlt, h, and_true, if_neg hp, if_pos ((prefix_iff_cpl p k).1 h)]
  cases sub <;> simp

theorem bset_kv_append {p : Bits} {c : BNode} {kr : Bits} {v : Bytes} {sub : Bool} (h : p ++ kr ≠ []) :
    bset (kv p c) (p ++ kr) v sub = (bset c kr v sub).map (Option.map (mkKv p)) := by
  have hlt : ¬ (p ++ kr).length < p.length := by simp
  rw [bset, if_neg h, if_neg (fun h' => hlt h'.2.1), if_pos (List.prefix_append ..), List.drop_left]
  rcases bset c kr v sub with _ | _ | _ <;> rfl

theorem bset_kv_diverge {cm pt kt : Bits} {pb kb : Bool} {c : BNode} {v : Bytes} {sub : Bool} (h : pb ≠ kb) :
    bset (kv (cm ++ pb :: pt) c) (cm ++ kb :: kt) v sub =
      .ok (some (if v = [] ∨ sub then kv (cm ++ pb :: pt) c else splitNode cm kb pt c kt v)) := by
  have hlen : ¬ cm.length + (kt.length + 1) ≤ cm.length := by omega
  simp only [bset, cpl_append_cons cm pb kb pt kt h, List.drop_length_add_append, List.drop_succ_cons,
    List.drop_zero]
  by_cases hv : v = [] ∨ sub <;>
    simp [hv, splitNode, optKv, List.prefix_append_right_inj, h, Ne.symm h, hlen]

theorem bset_branch_nil (l r : BNode) (v : Bytes) (sub : Bool) :
    bset (branch l r) [] v sub = if sub then .ok none else .error .override := rfl

/-- the node `_set_branch_node` builds from the new child `o` on side `b`: when the child has become blank, the
    other child moves under a kv node -/
def rebranch (l r : BNode) (b : Bool) (o : Option BNode) : BNode :=
  o.elim (mkKv [!b] (if b = false then r else l)) fun s => if b = false then branch s r else branch l s

theorem bset_branch_cons (l r : BNode) (b : Bool) (k : Bits) (v : Bytes) (sub : Bool) :
    bset (branch l r) (b :: k) v sub =
      (bset (if b = false then l else r) k v sub).map fun o => some (rebranch l r b o) := by
  cases b
  · show _ = (bset l k v sub).map _
    rw [bset, if_pos rfl]
    rcases bset l k v sub with _ | _ | _ <;> rfl
  · show _ = (bset r k v sub).map _
    rw [bset, if_neg nofun]
    rcases bset r k v sub with _ | _ | _ <;> rfl

/-- `_set` preserves every shape invariant that it keeps when it builds a node -/
theorem bset_preserves (P : BNode → Prop) (hleaf : ∀ v, v ≠ [] → P (leaf v))
    (hkv : ∀ p c, P (kv p c) → p ≠ [] ∧ P c) (hbr : ∀ l r, P (branch l r) ↔ P l ∧ P r)
    (hmk : ∀ p s, p ≠ [] → P s → P (mkKv p s))
    (hsplit : ∀ cm pb pt kb kt c v, P (kv (cm ++ pb :: pt) c) → v ≠ [] → P (splitNode cm kb pt c kt v))
    (t : BNode) (k : Bits) (v : Bytes) (sub : Bool) (ht : P t) (t' : BNode)
    (h : bset t k v sub = .ok (some t')) : P t' := by
  induction t, k using walk_induct generalizing t' with
  | leaf x k =>
    rw [bset_leaf] at h
    split at h
    · injection h with h
      split at h <;> cases h
      next hv => exact hleaf v fun e => hv (.inl e)
    · cases h
  | kv_nil p c => rw [bset_kv_nil] at h; split at h <;> cases h
  | kv_prefix p c k hk hp hne =>
    rw [bset_kv_prefix hk hp hne] at h
    split at h
    · cases h
    · split at h <;> cases h
      exact ht
  | kv_append p c kr hne ih =>
    rw [bset_kv_append hne] at h
    rcases hr : bset c kr v sub with _ | _ | s <;> rw [hr] at h <;> cases h
    exact hmk p s (hkv p c ht).1 (ih (hkv p c ht).2 s hr)
  | kv_diverge cm pb pt kb kt c hne =>
    rw [bset_kv_diverge hne] at h
    cases h
    split
    · exact ht
    · next hv => exact hsplit cm pb pt kb kt c v ht fun e => hv (.inl e)
  | branch_nil l r => rw [bset_branch_nil] at h; split at h <;> cases h
  | branch_cons l r b k ih =>
    rw [bset_branch_cons] at h
    rw [hbr] at ht
    rcases hr : bset _ k v sub with _ | _ | s <;> rw [hr] at h <;> cases h
    · cases b
      · exact hmk _ _ nofun ht.2
      · exact hmk _ _ nofun ht.1
    · cases b
      · exact (hbr s r).2 ⟨ih ht.1 s hr, ht.2⟩
      · exact (hbr l s).2 ⟨ht.1, ih ht.2 s hr⟩

theorem wf_bset (t : BNode) (k : Bits) (v : Bytes) (sub : Bool) (ht : WF t) (t' : BNode)
    (h : bset t k v sub = .ok (some t')) : WF t' :=
  bset_preserves WF (fun _ h => h) (fun _ _ h => h) (fun _ _ => .rfl) wf_mkKv
    (fun cm _ pt kb kt c v h => wf_splitNode cm kb pt c kt v h.2) t k v sub ht t' h

end PyTrie.Bin
