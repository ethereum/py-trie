import PyTrie.Lemmas.PruneBodies
import PyTrie.Lemmas.RawHistory
/-! Towards C04 at history level (`Props/C04History.lean`): every prefix of a history on a non-pruning trie is itself such a
    history, and every binding of its database is still in the final one. -/
namespace PyTrie.HexRaw
open PyTrie PyTrie.Hex PyTrie.HexD PyTrie.HexW
open PyTrie.Props.C01 (Op run spec)

variable (H : Bytes → Bytes)

theorem complete_root_eq (d : Dict Bytes) (T : TrieSt)
    (hcomp : Complete (stdHashing H) (blankRoot H) d T) : T.root = rootHash H T.tree := by
  have h1 := hcomp.1
  split at h1
  · next hb =>
    rw [h1, (isBlank_iff T.tree).1 hb]
    simp [rootHash, enc_blank, blankRoot]
  · exact h1.1

theorem noprune_history_prefix (ops : List Op) (T : TrieSt) (s : OpSt)
    (h : ReachOpsNC (stdHashing H) (blankRoot H) false ops T s) (i : Nat) :
    ∃ Ti si, ReachOpsNC (stdHashing H) (blankRoot H) false (ops.take i) Ti si ∧ Preserved si.store.base s.store.base := by
  induction h with
  | init => exact ⟨_, _, by simpa using ReachOpsNC.init, Preserved.refl _⟩
  | step ops T s o T' hreach hrs hbl hnc hok ih =>
    by_cases hle : i ≤ ops.length
    · obtain ⟨Ti, si, hr, hp⟩ := ih
      refine ⟨Ti, si, ?_, ?_⟩
      · rw [List.take_append_of_le_length hle]; exact hr
      · obtain ⟨_, hprune, hcache, hfa, hdb⟩ :=
          reachOps_inv (stdHashing H) (blankRoot H) false ops T s
            (reachOpsNC_reachOps (stdHashing H) (blankRoot H) false ops T s hreach)
        obtain ⟨_, _, _, _, hpres, _⟩ := opSetDel_keeps_complete (stdHashing H) (blankRoot H) T hprune
          (opKey o) (opVal o) s hcache hfa (by simpa using hdb) hnc hbl
        exact hp.trans hpres
    · refine ⟨T', _, ?_, Preserved.refl _⟩
      rw [List.take_of_length_le (by simp; omega)]
      exact ReachOpsNC.step ops T s o T' hreach hrs hbl hnc hok

end PyTrie.HexRaw
