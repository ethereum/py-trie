import PyTrie.Lemmas.BinBasic
/-! What `_set` does to the contents of a node, under `WF`, in all its modes at once: which keys change when
    it succeeds (`bgetTop_bset`) and which stored key it has met when it is refused (`bset_error`). The
    statements for store, delete and delete_subtrie are read off from these two. -/
namespace PyTrie.Bin
open BNode

/-- two stored keys are *related* when one is a proper prefix of the other -/
def Related (a b : Bits) : Prop := a ≠ b ∧ (a <+: b ∨ b <+: a)

theorem wf_exists_key (t : BNode) (h : WF t) : ∃ k v, bget t k = some v := by
  induction t with
  | leaf v => exact ⟨[], v, rfl⟩
  | kv p c ih =>
    obtain ⟨k, v, hkv⟩ := ih h.2
    exact ⟨p ++ k, v, (bget_kv_some ..).2 ⟨by simp [h.1], k, rfl, hkv⟩⟩
  | branch l r ihl _ =>
    obtain ⟨k, v, hkv⟩ := ihl h.1
    exact ⟨false :: k, v, by simpa [bget_branch_cons] using hkv⟩

theorem prefix_key_eq (t : BNode) (a b : Bits) (va vb : Bytes)
    (ha : bget t a = some va) (hb : bget t b = some vb) (hp : a <+: b) : a = b := by
  induction t generalizing a b with
  | leaf v =>
    simp only [bget_leaf] at ha hb
    split at ha
    · split at hb
      · simp_all
      · cases hb
    · cases ha
  | kv p c ih =>
    obtain ⟨_, ra, rfl, ha'⟩ := (bget_kv_some ..).1 ha
    obtain ⟨_, rb, rfl, hb'⟩ := (bget_kv_some ..).1 hb
    have : ra <+: rb := by simpa [List.prefix_append_right_inj] using hp
    rw [ih ra rb ha' hb' this]
  | branch l r ihl ihr =>
    cases a with
    | nil => simp [bget_branch_nil] at ha
    | cons x a1 =>
      cases b with
      | nil => simp [bget_branch_nil] at hb
      | cons y b1 =>
        obtain ⟨hxy, hp1⟩ := List.cons_prefix_cons.1 hp
        subst hxy
        rw [bget_branch_cons] at ha hb
        split at ha
        · next hx => rw [if_pos hx] at hb; rw [ihl a1 b1 ha hb hp1]
        · next hx => rw [if_neg hx] at hb; rw [ihr a1 b1 ha hb hp1]

/-- stored keys are never related (values live in leaves only) -/
theorem keys_prefix_free (t : BNode) (a b : Bits) (va vb : Bytes)
    (ha : bget t a = some va) (hb : bget t b = some vb) : ¬ Related a b := by
  rintro ⟨hne, h | h⟩
  · exact hne (prefix_key_eq t a b va vb ha hb h)
  · exact hne (prefix_key_eq t b a vb va hb ha h).symm

theorem bget_optKv (p : Bits) (c : BNode) (k : Bits) :
    bget (optKv p c) k = if p <+: k then bget c (k.drop p.length) else none := by
  unfold optKv
  split
  · next h => subst h; simp
  · next h => exact bget_kv_of_ne h

theorem bget_optKv_leaf (p : Bits) (v : Bytes) (k : Bits) :
    bget (optKv p (leaf v)) k = if k = p then some v else none := by
  rw [bget_optKv, bget_leaf]
  by_cases h : p <+: k
  · obtain ⟨x, rfl⟩ := h; simp
  · have : k ≠ p := fun e => h (e ▸ List.prefix_refl _)
    simp [h, this]

theorem bget_mkKv (p : Bits) (s : BNode) (hs : WF s) (k : Bits) : bget (mkKv p s) k = bget (kv p s) k := by
  cases s with
  | leaf v => rfl
  | branch l r => rfl
  | kv p2 c2 =>
    rw [mkKv, bget_kv_of_ne (by simp [hs.1]), bget_kv]
    by_cases hp : p <+: k
    · obtain ⟨r, rfl⟩ := hp
      simp only [List.prefix_append, ↓reduceIte, List.drop_left, bget_kv_of_ne hs.1,
        List.prefix_append_right_inj, List.length_append, List.drop_length_add_append]
      by_cases hr : p ++ r = []
      · simp [(List.append_eq_nil_iff.1 hr).2, hs.1]
      · rw [if_neg hr]
    · have : ¬ (p ++ p2 <+: k) := fun h => hp ((List.prefix_append _ _).trans h)
      simp [hp, this]

theorem bgetTop_map_mkKv (p : Bits) (hp : p ≠ []) (o : Option BNode) (ho : ∀ s, o = some s → WF s)
    (k : Bits) :
    bgetTop (o.map (mkKv p)) k = if p <+: k then bgetTop o (k.drop p.length) else none := by
  cases o with
  | none => simp [bgetTop]
  | some s => exact (bget_mkKv p s (ho s rfl) k).trans (bget_kv_of_ne hp)

theorem bget_splitNode (cm pt kt : Bits) (pb kb : Bool) (c : BNode) (v : Bytes) (h : pb ≠ kb) (k' : Bits) :
    bget (splitNode cm kb pt c kt v) k' =
      if k' = cm ++ kb :: kt then some v else bget (kv (cm ++ pb :: pt) c) k' := by
  rw [splitNode, bget_optKv, bget_kv_of_ne (by simp)]
  by_cases hp : cm <+: k'
  · obtain ⟨r, rfl⟩ := hp
    simp only [List.prefix_append, ↓reduceIte, List.drop_left, List.append_cancel_left_eq,
      List.prefix_append_right_inj, List.length_append, List.drop_length_add_append]
    cases r with
    | nil => cases kb <;> simp [bget_branch_nil]
    | cons b r =>
      cases kb <;> cases pb <;> cases b <;>
        simp [bget_branch_cons, bget_optKv_leaf, bget_optKv pt c] at h ⊢
  · have h1 : k' ≠ cm ++ kb :: kt := fun e => hp (e ▸ List.prefix_append _ _)
    have h2 : ¬ (cm ++ pb :: pt <+: k') := fun e => hp ((List.prefix_append _ _).trans e)
    simp [hp, h1, h2]

theorem bget_rebranch_nil (l r : BNode) (h : WF (branch l r)) (b : Bool) (o : Option BNode) :
    bget (rebranch l r b o) [] = none := by
  cases o <;> cases b <;> simp [rebranch, bget_mkKv _ _ h.1, bget_mkKv _ _ h.2, bget_kv, bget_branch_nil]

theorem bget_rebranch_cons (l r : BNode) (h : WF (branch l r)) (b : Bool) (o : Option BNode) (b' : Bool) (k : Bits) :
    bget (rebranch l r b o) (b' :: k) = if b' = b then bgetTop o k else bget (branch l r) (b' :: k) := by
  cases o <;> cases b <;> cases b' <;>
    simp [rebranch, bget_mkKv _ _ h.1, bget_mkKv _ _ h.2, bget_kv, bget_branch_cons, bgetTop]

/-- the keys a call `_set(k, ·, sub)` acts on: `k` itself, or with `sub` every key that starts with `k` -/
def touched (sub : Bool) (k k' : Bits) : Prop := if sub then k <+: k' else k' = k

instance (sub : Bool) (k k' : Bits) : Decidable (touched sub k k') := by unfold touched; infer_instance

theorem touched_prefix {sub : Bool} {k k' : Bits} (h : touched sub k k') : k <+: k' := by
  cases sub
  · exact h ▸ List.prefix_refl _
  · exact h

theorem touched_append (sub : Bool) (p k k' : Bits) : touched sub (p ++ k) (p ++ k') ↔ touched sub k k' := by
  cases sub <;> simp [touched, List.prefix_append_right_inj]

theorem touched_cons (sub : Bool) (a b : Bool) (k k' : Bits) :
    touched sub (a :: k) (b :: k') ↔ b = a ∧ touched sub k k' := by
  cases sub <;> simp [touched, List.cons_prefix_cons, eq_comm]

/-- map semantics of a successful `_set` in all its modes: the touched keys are removed, or, for a store
    (`v ≠ b""`, no `sub`), key `k` gets `v`; every other key keeps its value -/
theorem bgetTop_bset (t : BNode) (ht : WF t) (k : Bits) (v : Bytes) (sub : Bool) (t' : Option BNode)
    (h : bset t k v sub = .ok t') (k' : Bits) :
    bgetTop t' k' = if touched sub k k' then (if v = [] ∨ sub then none else some v) else bget t k' := by
  induction t, k using walk_induct generalizing t' k' with
  | leaf x k =>
    rw [bset_leaf] at h
    split at h
    · next hk =>
      cases h; subst hk
      cases sub <;> by_cases hv : v = [] <;> by_cases hk' : k' = [] <;>
        simp [touched, bgetTop, bget_leaf, hv, hk']
    · cases h
  | kv_nil p c =>
    rw [bset_kv_nil] at h
    split at h <;> cases h
    simp [*, touched, bgetTop]
  | kv_prefix p c k hk hp hne =>
    have hpk := (proper_prefix hp hne).2
    rw [bset_kv_prefix hk hp hne] at h
    split at h
    · next hs =>
      -- every key below `p` starts with `k`
      cases h
      subst hs
      rw [bgetTop_none, bget_kv_of_ne ht.1]
      split
      · simp
      · next hh => rw [if_neg fun h' => hh (hp.trans h')]
    · next hs =>
      -- `k` ends inside the path and was not stored
      split at h <;> cases h
      rw [bgetTop_some]
      split
      · next hh =>
        have : k' = k := by simpa [touched, hs] using hh
        subst this
        simp [*, bget_kv_of_ne ht.1]
      · rfl
  | kv_append p c kr hne ih =>
    rw [bset_kv_append hne] at h
    rcases hr : bset c kr v sub with _ | o <;> rw [hr] at h <;> cases h
    rw [bgetTop_map_mkKv p ht.1 o (fun s hs => wf_bset c kr v sub ht.2 s (hs ▸ hr)),
      bget_kv_of_ne ht.1]
    by_cases hp : p <+: k'
    · obtain ⟨r, rfl⟩ := hp
      simp only [List.prefix_append, ↓reduceIte, List.drop_left, ih ht.2 o hr r, touched_append]
    · rw [if_neg hp, if_neg hp, if_neg fun h' => hp ((List.prefix_append p kr).trans (touched_prefix h'))]
  | kv_diverge cm pb pt kb kt c hne =>
    rw [bset_kv_diverge hne] at h
    cases h
    rw [bgetTop_some]
    split
    · split
      · next hh =>
        rw [bget_kv_of_ne (by simp),
          if_neg (diverge_not_prefix cm pt kt pb kb hne k' (touched_prefix hh))]
      · rfl
    · next hv =>
      have hs : sub = false := by simpa using fun e => hv (.inr e)
      rw [bget_splitNode cm pt kt pb kb c v hne, hs]
      rfl
  | branch_nil l r =>
    rw [bset_branch_nil] at h
    split at h <;> cases h
    simp [*, touched, bgetTop]
  | branch_cons l r b k ih =>
    rw [bset_branch_cons] at h
    rcases hr : bset _ k v sub with _ | o <;> rw [hr] at h <;> cases h
    rw [bgetTop_some]
    cases k' with
    | nil =>
      rw [bget_rebranch_nil l r ht, if_neg fun h' => by simpa using touched_prefix h']
      rfl
    | cons b' k' =>
      rw [bget_rebranch_cons l r ht]
      by_cases hb : b' = b
      · subst hb
        simp only [↓reduceIte, ih (wf_child ht b') o hr k', touched_cons, true_and, bget_branch_cons']
      · simp [touched_cons, hb]

theorem bset_ne_none (t : BNode) (ht : WF t) (k : Bits) (v : Bytes) (hv : v ≠ []) :
    bset t k v false ≠ .ok none := fun h => by
  simpa [touched, hv, bgetTop] using bgetTop_bset t ht k v false none h k

/-- map semantics of a successful non-empty store -/
theorem bget_bset (t : BNode) (k : Bits) (v : Bytes) (hv : v ≠ []) (ht : WF t) (t' : BNode)
    (h : bset t k v false = .ok (some t')) (k' : Bits) :
    bget t' k' = if k' = k then some v else bget t k' := by
  simpa [touched, hv, bgetTop] using bgetTop_bset t ht k v false (some t') h k'

/-- a refused `_set` has met a stored key: one that ends before `k` does, or, unless a subtrie is being
    deleted, one that goes on where `k` ends -/
theorem bset_error (t : BNode) (ht : WF t) (k : Bits) (v : Bytes) (sub : Bool) (e : Err)
    (h : bset t k v sub = .error e) :
    ∃ k' v', bget t k' = some v' ∧ k' ≠ k ∧ (k' <+: k ∨ sub = false ∧ k <+: k') := by
  induction t, k using walk_induct with
  | leaf x k =>
    rw [bset_leaf] at h
    split at h
    · cases h
    · next hk => exact ⟨[], x, rfl, Ne.symm hk, .inl List.nil_prefix⟩
  | kv_nil p c =>
    rw [bset_kv_nil] at h
    split at h
    · cases h
    · next hs =>
      obtain ⟨k', v', hk'⟩ := wf_exists_key _ ht
      exact ⟨k', v', hk', ((bget_kv_some ..).1 hk').1, .inr ⟨by simpa using hs, List.nil_prefix⟩⟩
  | kv_prefix p c k hk hp hne =>
    rw [bset_kv_prefix hk hp hne] at h
    split at h
    · cases h
    · next hs =>
      obtain ⟨k', v', hk'⟩ := wf_exists_key _ ht
      obtain ⟨_, r, rfl, _⟩ := (bget_kv_some ..).1 hk'
      exact ⟨_, v', hk', fun e => hne (hp.eq_of_length_le (e ▸ by simp)),
        .inr ⟨by simpa using hs, hp.trans (List.prefix_append p r)⟩⟩
  | kv_append p c kr hne ih =>
    rw [bset_kv_append hne] at h
    rcases hr : bset c kr v sub with _ | _ <;> rw [hr] at h <;> cases h
    obtain ⟨k', v', h1, h2, h3⟩ := ih ht.2 hr
    exact ⟨p ++ k', v', (bget_kv_some ..).2 ⟨by simp [ht.1], k', rfl, h1⟩, by simpa using h2,
      by simpa [List.prefix_append_right_inj] using h3⟩
  | kv_diverge cm pb pt kb kt c hne => rw [bset_kv_diverge hne] at h; cases h
  | branch_nil l r =>
    rw [bset_branch_nil] at h
    split at h
    · cases h
    · next hs =>
      obtain ⟨k', v', hk'⟩ := wf_exists_key _ ht
      exact ⟨k', v', hk', fun e => by simp [e, bget_branch_nil] at hk',
        .inr ⟨by simpa using hs, List.nil_prefix⟩⟩
  | branch_cons l r b k ih =>
    rw [bset_branch_cons] at h
    rcases hr : bset _ k v sub with _ | _ <;> rw [hr] at h <;> cases h
    obtain ⟨k', v', h1, h2, h3⟩ := ih (wf_child ht b) hr
    exact ⟨b :: k', v', (bget_branch_cons' ..).trans h1, by simpa using h2,
      by simpa [List.cons_prefix_cons] using h3⟩

/-- a store is refused exactly when a related key is stored: were it carried out, the new trie would hold
    two related keys -/
theorem bset_override_iff (t : BNode) (ht : WF t) (k : Bits) (v : Bytes) (hv : v ≠ []) :
    bset t k v false = .error .override ↔ ∃ k' v', bget t k' = some v' ∧ Related k' k := by
  constructor
  · intro h
    obtain ⟨k', v', h1, h2, h3⟩ := bset_error t ht k v false _ h
    exact ⟨k', v', h1, h2, h3.imp_right And.right⟩
  · rintro ⟨k', v', h1, hne, h2⟩
    rcases h : bset t k v false with ⟨⟩ | _ | t'
    · rfl
    · exact absurd h (bset_ne_none t ht k v hv)
    · have hk := bget_bset t k v hv ht t' h k
      have hk' := bget_bset t k v hv ht t' h k'
      rw [if_pos rfl] at hk
      rw [if_neg hne, h1] at hk'
      exact absurd ⟨hne, h2⟩ (keys_prefix_free t' k' k v' v hk' hk)

end PyTrie.Bin
