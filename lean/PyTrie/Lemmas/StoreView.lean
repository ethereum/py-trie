import PyTrie.Lemmas.PruneDict
/-! What a store *will contain after a commit with deletes* (`Store.view`), and the observational behaviour
    of `Store.write` / `Store.del` / `Store.contains` under it, uniformly for a plain dict (`cache = none`)
    and for a `ScratchDB` in front of one (`cache = some c`). -/
namespace PyTrie.HexW
open PyTrie.Hex hiding get set

def Store.view (s : Store) (h : Hash) : Bool :=
  match s.cache with
  | none => s.base.contains h
  | some c =>
    match Dict.get? c h with
    | some (some _) => true
    | some none => false
    | none => s.base.contains h

/-- the ScratchDB cache (if there is one) has unique keys; it starts as `[]` and is only changed by
    `Dict.insert`, so this always holds of a reachable store -/
def Store.CacheNoDup (s : Store) : Prop := ∀ c, s.cache = some c → NoDupKeys c

theorem Store.cacheNoDup_plain (s : Store) (hc : s.cache = none) : s.CacheNoDup := by
  intro c h; rw [hc] at h; cases h

theorem Store.view_plain (s : Store) (hc : s.cache = none) (h : Hash) : s.view h = s.base.contains h := by
  unfold Store.view; rw [hc]

theorem Store.contains_plain (s : Store) (hc : s.cache = none) (h : Hash) :
    s.contains h = s.base.contains h := by
  unfold Store.contains; rw [hc]

/-- a key that the commit will keep is readable now (reads fall through DELETED markers, so the converse fails) -/
theorem contains_of_view (s : Store) (h : Hash) (hv : s.view h = true) : s.contains h = true := by
  revert hv
  unfold Store.view Store.contains
  cases s.cache with
  | none => exact id
  | some c =>
    simp only
    cases Dict.get? c h with
    | none => exact id
    | some o => cases o with
      | none => exact fun hv => nomatch hv
      | some v => exact fun _ => rfl

theorem Store.contains_of_base (s : Store) (h : Hash) (hb : Dict.contains s.base h = true) :
    s.contains h = true := by
  unfold Store.contains
  split
  · exact hb
  · split
    · rfl
    · exact hb

theorem Store.contains_eq_view_of_new (s : Store) (h : Hash) (hb : Dict.contains s.base h = false) :
    s.contains h = s.view h := by
  unfold Store.contains Store.view
  cases s.cache with
  | none => rfl
  | some c =>
    simp only
    cases hg : Dict.get? c h with
    | none => rfl
    | some o =>
      cases o with
      | none => simp [hb]
      | some v => rfl

/-- a write that cannot be refused (a ScratchDB in front, or no fault injected) succeeds, adds exactly its
    key to the view and keeps everything readable; the store stays of its kind -/
theorem Store.write_view (s : Store) (hw : s.cache = none → s.failAfter = none) (h : Hash) (b : Bytes) :
    ∃ s', s.write h b = some s' ∧ s'.failAfter = s.failAfter ∧ (s'.cache = none ↔ s.cache = none) ∧
      (∀ x, s'.view x = true ↔ (s.view x = true ∨ x = h)) ∧
      (∀ x, s.contains x = true → s'.contains x = true) := by
  obtain ⟨base, cache, fa⟩ := s
  cases cache with
  | none =>
    cases hw rfl
    exact ⟨_, rfl, rfl, Iff.rfl, fun x => Dict.contains_insert _ _ _ _,
      fun x hx => (Dict.contains_insert _ _ _ _).2 (Or.inl hx)⟩
  | some c =>
    refine ⟨_, rfl, rfl, by simp, fun x => ?_, fun x => ?_⟩
    · simp only [Store.view, Dict.get?_insert]
      by_cases hx : x = h <;> simp [hx]
    · simp only [Store.contains, Dict.get?_insert]
      by_cases hx : x = h <;> simp [hx]

/-- a delete succeeds (on a plain dict the key has to be there) and removes exactly its key from the view -/
theorem Store.del_view (s : Store) (h : Hash) (hv : s.cache = none → s.view h = true) :
    ∃ s', s.del h = some s' ∧ s'.failAfter = s.failAfter ∧ (s'.cache = none ↔ s.cache = none) ∧
      ∀ x, s'.view x = true ↔ (s.view x = true ∧ x ≠ h) := by
  obtain ⟨base, cache, fa⟩ := s
  cases cache with
  | none =>
    have hb : Dict.contains base h = true := hv rfl
    refine ⟨{ base := Dict.erase base h, cache := none, failAfter := fa }, ?_, rfl, Iff.rfl,
      fun x => Dict.contains_erase _ _ _⟩
    simp [Store.del, hb]
  | some c =>
    refine ⟨_, rfl, rfl, by simp, fun x => ?_⟩
    simp only [Store.view, Dict.get?_insert]
    by_cases hx : x = h <;> simp [hx]

end PyTrie.HexW
