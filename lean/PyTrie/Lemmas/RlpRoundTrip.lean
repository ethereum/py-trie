import PyTrie.Model.HexDb
/-! The strict RLP decoder of the model inverts the RLP encoder on every item whose strings and
    list payloads are shorter than `2^64` bytes (`Item.Small`; pyrlp refuses lengths `≥ 256^8`, and in
    the model the prefix byte `off + 55 + lengthOfLength` leaves its range / wraps for such lengths:
    a string of `2^64` bytes gets prefix `0xc0`, a list payload of `2^64` bytes gets prefix `0x00`). -/

/-! ### big-endian length fields -/
namespace PyTrie.HexD
open PyTrie

theorem natToBE_zero : natToBE 0 = [] := by
  rw [natToBE]; simp

theorem natToBE_pos {n : Nat} (h : n ≠ 0) :
    natToBE n = natToBE (n / 256) ++ [UInt8.ofNat (n % 256)] := by
  rw [natToBE]; simp [h]

theorem beToNat_snoc (bs : Bytes) (b : UInt8) :
    beToNat (bs ++ [b]) = beToNat bs * 256 + b.toNat := by
  simp [beToNat, List.foldl_append]

theorem toNat_ofNat_mod (n : Nat) : (UInt8.ofNat (n % 256)).toNat = n % 256 := by
  simp [UInt8.toNat_ofNat']

theorem toNat_ofNat_lt {n : Nat} (h : n < 256) : (UInt8.ofNat n).toNat = n :=
  UInt8.toNat_ofNat_of_lt' h

theorem beToNat_natToBE (n : Nat) : beToNat (natToBE n) = n := by
  induction n using Nat.strongRecOn with
  | _ n ih =>
    by_cases h : n = 0
    · subst h; rw [natToBE_zero]; rfl
    · rw [natToBE_pos h, beToNat_snoc, ih _ (Nat.div_lt_self (Nat.pos_of_ne_zero h) (by decide)), toNat_ofNat_mod]
      exact Nat.div_add_mod' n 256

theorem natToBE_length_le (k : Nat) : ∀ n, n < 256 ^ k → (natToBE n).length ≤ k := by
  induction k with
  | zero => intro n h; have : n = 0 := by simpa using h
            subst this; simp [natToBE_zero]
  | succ k ih =>
    intro n h
    by_cases h0 : n = 0
    · subst h0; simp [natToBE_zero]
    · rw [natToBE_pos h0]
      have : n / 256 < 256 ^ k := by
        rw [Nat.div_lt_iff_lt_mul (by decide)]; rw [Nat.pow_succ] at h; exact h
      have := ih _ this
      simp; omega

/-- no leading zero, non-empty -/
theorem natToBE_head {n : Nat} (h : n ≠ 0) : ∃ b tl, natToBE n = b :: tl ∧ b ≠ 0 := by
  induction n using Nat.strongRecOn with
  | _ n ih =>
    rw [natToBE_pos h]
    by_cases hq : n / 256 = 0
    · rw [hq, natToBE_zero]
      refine ⟨_, [], rfl, ?_⟩
      intro hz
      have := congrArg UInt8.toNat hz
      rw [toNat_ofNat_mod] at this
      simp at this; omega
    · obtain ⟨b, tl, e, hb⟩ := ih _ (Nat.div_lt_self (Nat.pos_of_ne_zero h) (by decide)) hq
      exact ⟨b, tl ++ [UInt8.ofNat (n % 256)], by rw [e]; rfl, hb⟩

theorem natToBE_length_pos {n : Nat} (h : n ≠ 0) : 0 < (natToBE n).length := by
  obtain ⟨b, tl, e, _⟩ := natToBE_head h
  rw [e]; simp

theorem longLen_natToBE {n : Nat} (h : 56 ≤ n) : longLen (natToBE n) = some n := by
  obtain ⟨b, tl, e, hb⟩ := natToBE_head (n := n) (by omega)
  have hv := beToNat_natToBE n
  rw [e] at hv
  rw [e]
  simp only [longLen, hb, if_false, hv]
  simp; omega

end PyTrie.HexD

namespace PyTrie
open PyTrie.HexD

mutual
/-- every string and every list payload inside the item is shorter than `2^64` bytes -/
def Item.Small : Item → Prop
  | .str b => b.length < 2 ^ 64
  | .list l => (rlpList l).length < 2 ^ 64 ∧ Item.SmallList l
def Item.SmallList : List Item → Prop
  | [] => True
  | x :: xs => Item.Small x ∧ Item.SmallList xs
end

end PyTrie

namespace PyTrie.HexD
open PyTrie

/-! ### unfolding the decoder -/

theorem decItem_succ_cons (fuel : Nat) (b : UInt8) (rest : Bytes) :
  decItem (fuel + 1) (b :: rest) =
    if b.toNat < 0x80 then some (.str [b], rest)
    else if b.toNat < 0xb8 then
      if rest.length < b.toNat - 0x80 then none
      else match rest.take (b.toNat - 0x80) with
        | [c] => if c.toNat < 0x80 then none else some (.str [c], rest.drop (b.toNat - 0x80))
        | s => some (.str s, rest.drop (b.toNat - 0x80))
    else if b.toNat < 0xc0 then
      if rest.length < b.toNat - 0xb7 then none
      else match longLen (rest.take (b.toNat - 0xb7)) with
        | none => none
        | some n =>
          if (rest.drop (b.toNat - 0xb7)).length < n then none
          else some (.str ((rest.drop (b.toNat - 0xb7)).take n), (rest.drop (b.toNat - 0xb7)).drop n)
    else if b.toNat < 0xf8 then
      if rest.length < b.toNat - 0xc0 then none
      else (decList fuel (rest.take (b.toNat - 0xc0))).map fun l => (.list l, rest.drop (b.toNat - 0xc0))
    else
      if rest.length < b.toNat - 0xf7 then none
      else match longLen (rest.take (b.toNat - 0xf7)) with
        | none => none
        | some n =>
          if (rest.drop (b.toNat - 0xf7)).length < n then none
          else (decList fuel ((rest.drop (b.toNat - 0xf7)).take n)).map
                 fun l => (.list l, (rest.drop (b.toNat - 0xf7)).drop n) := by
  delta decItem decList
  -- with more than instances unfolded, the `match`es make the unifier evaluate `b.toNat - 0xf7` and the
  -- like by peeling the literal, some thousand frames deep
  with_reducible_and_instances rfl

/-! ### the five header forms -/

theorem decItem_single (fuel : Nat) (x : UInt8) (rest : Bytes) (hx : x < 0x80) :
    decItem (fuel + 1) (x :: rest) = some (.str [x], rest) := by
  have : x.toNat < 0x80 := UInt8.lt_iff_toNat_lt.mp hx
  rw [decItem_succ_cons, if_pos this]

theorem decItem_short_str (fuel : Nat) (b rest : Bytes) (hb : ∀ c, b = [c] → 0x80 ≤ c.toNat)
    (hn : b.length < 56) :
    decItem (fuel + 1) (UInt8.ofNat (0x80 + b.length) :: (b ++ rest)) = some (.str b, rest) := by
  have ht : (UInt8.ofNat (0x80 + b.length)).toNat = 0x80 + b.length := toNat_ofNat_lt (by omega)
  rw [decItem_succ_cons, ht, if_neg (by omega), if_pos (by omega),
    Nat.add_sub_cancel_left, List.take_left' rfl, List.drop_left' rfl, if_neg (by simp)]
  split
  · next c => rw [if_neg (Nat.not_lt.2 (hb c rfl))]
  · rfl

theorem decItem_long_str (fuel k : Nat) (be b rest : Bytes) (hk1 : 1 ≤ k) (hk8 : k ≤ 8)
    (hbe : be.length = k) (hl : longLen be = some b.length) :
    decItem (fuel + 1) (UInt8.ofNat (0xb7 + k) :: (be ++ (b ++ rest))) = some (.str b, rest) := by
  have ht : (UInt8.ofNat (0xb7 + k)).toNat = 0xb7 + k := toNat_ofNat_lt (by omega)
  rw [decItem_succ_cons, ht, if_neg (by omega), if_neg (by omega), if_pos (by omega),
    Nat.add_sub_cancel_left, List.take_left' hbe, List.drop_left' hbe, hl, if_neg (by simp; omega)]
  simp only [List.take_left' rfl, List.drop_left' rfl]
  exact if_neg (by simp)

theorem decItem_short_list (fuel : Nat) (p rest : Bytes) (hn : p.length < 56) :
    decItem (fuel + 1) (UInt8.ofNat (0xc0 + p.length) :: (p ++ rest))
      = (decList fuel p).map fun l => (.list l, rest) := by
  have ht : (UInt8.ofNat (0xc0 + p.length)).toNat = 0xc0 + p.length := toNat_ofNat_lt (by omega)
  rw [decItem_succ_cons, ht, if_neg (by omega), if_neg (by omega), if_neg (by omega), if_pos (by omega),
    Nat.add_sub_cancel_left, List.take_left' rfl, List.drop_left' rfl]
  exact if_neg (by simp)

theorem decItem_long_list (fuel k : Nat) (be p rest : Bytes) (hk1 : 1 ≤ k) (hk8 : k ≤ 8)
    (hbe : be.length = k) (hl : longLen be = some p.length) :
    decItem (fuel + 1) (UInt8.ofNat (0xf7 + k) :: (be ++ (p ++ rest)))
      = (decList fuel p).map fun l => (.list l, rest) := by
  have ht : (UInt8.ofNat (0xf7 + k)).toNat = 0xf7 + k := toNat_ofNat_lt (by omega)
  rw [decItem_succ_cons, ht, if_neg (by omega), if_neg (by omega), if_neg (by omega), if_neg (by omega),
    Nat.add_sub_cancel_left, List.take_left' hbe, List.drop_left' hbe, hl, if_neg (by simp; omega)]
  simp only [List.take_left' rfl, List.drop_left' rfl]
  exact if_neg (by simp)

theorem natToBE_length_bounds {n : Nat} (h56 : 56 ≤ n) (h64 : n < 2 ^ 64) :
    1 ≤ (natToBE n).length ∧ (natToBE n).length ≤ 8 :=
  ⟨natToBE_length_pos (by omega), natToBE_length_le 8 n (by simpa using h64)⟩

theorem rlpLen_ne_nil (off n : Nat) : rlpLen off n ≠ [] := by
  unfold rlpLen; split <;> simp

/-- a string that is not a single byte below `0x80`, prefixed by its length -/
theorem decItem_rlpLen_str (fuel : Nat) (b rest : Bytes) (hb : ∀ c, b = [c] → 0x80 ≤ c.toNat)
    (hs : b.length < 2 ^ 64) :
    decItem (fuel + 1) (rlpLen 0x80 b.length ++ b ++ rest) = some (.str b, rest) := by
  unfold rlpLen
  by_cases h : b.length < 56
  · simp only [h, if_true, List.cons_append, List.nil_append]
    exact decItem_short_str fuel b rest hb h
  · obtain ⟨h1, h8⟩ := natToBE_length_bounds (n := b.length) (by omega) hs
    simp only [h, if_false, List.append_assoc, List.cons_append]
    exact decItem_long_str fuel _ _ b rest h1 h8 rfl (longLen_natToBE (by omega))

theorem decItem_rlpLen_list (fuel : Nat) (p rest : Bytes) (hs : p.length < 2 ^ 64) :
    decItem (fuel + 1) (rlpLen 0xc0 p.length ++ p ++ rest)
      = (decList fuel p).map fun l => (.list l, rest) := by
  unfold rlpLen
  by_cases h : p.length < 56
  · simp only [h, if_true, List.cons_append, List.nil_append]
    exact decItem_short_list fuel p rest h
  · obtain ⟨h1, h8⟩ := natToBE_length_bounds (n := p.length) (by omega) hs
    simp only [h, if_false, List.append_assoc, List.cons_append]
    exact decItem_long_list fuel _ _ p rest h1 h8 rfl (longLen_natToBE (by omega))

theorem decItem_rlp_str (fuel : Nat) (b rest : Bytes) (hs : b.length < 2 ^ 64) :
    decItem (fuel + 1) (rlp (.str b) ++ rest) = some (.str b, rest) := by
  by_cases h : ∃ x, b = [x]
  · obtain ⟨x, rfl⟩ := h
    rw [rlp.eq_1]
    by_cases hx : x < 128
    · simp only [hx, if_true]; exact decItem_single fuel x rest hx
    · simp only [hx, if_false]
      refine decItem_rlpLen_str fuel [x] rest ?_ hs
      intro c hc
      have : x = c := by simpa using hc
      subst this
      simpa [UInt8.lt_iff_toNat_lt] using hx
  · rw [rlp.eq_2 b (fun x hx => h ⟨x, hx⟩)]
    exact decItem_rlpLen_str fuel b rest (fun c hc => absurd ⟨c, hc⟩ h) hs

theorem rlp_ne_nil (it : Item) : rlp it ≠ [] := by
  cases it with
  | str b =>
    by_cases h : ∃ x, b = [x]
    · obtain ⟨x, rfl⟩ := h
      rw [rlp.eq_1]; split
      · simp
      · simp [rlpLen_ne_nil]
    · rw [rlp.eq_2 b (fun x hx => h ⟨x, hx⟩)]; simp [rlpLen_ne_nil]
  | list l => rw [rlp.eq_3]; simp [rlpLen_ne_nil]

theorem rlp_length_pos (it : Item) : 0 < (rlp it).length :=
  List.length_pos_iff.mpr (rlp_ne_nil it)

theorem rlp_list_length (l : List Item) :
    (rlpList l).length < (rlp (.list l)).length := by
  rw [rlp.eq_3]
  have := List.length_pos_iff.mpr (rlpLen_ne_nil 0xc0 (rlpList l).length)
  simp; omega

/-! ### the round trip, by mutual structural recursion -/

mutual
theorem decItem_rlp (it : Item) (rest : Bytes) (fuel : Nat) (hs : it.Small)
    (hf : 2 * (rlp it).length ≤ fuel) :
    decItem fuel (rlp it ++ rest) = some (it, rest) := by
  match it, hs, hf with
  | .str b, hs, hf =>
    have := rlp_length_pos (.str b)
    obtain ⟨f, rfl⟩ : ∃ f, fuel = f + 1 := ⟨fuel - 1, by omega⟩
    exact decItem_rlp_str f b rest hs
  | .list l, hs, hf =>
    have := rlp_list_length l
    obtain ⟨f, rfl⟩ : ∃ f, fuel = f + 1 := ⟨fuel - 1, by omega⟩
    rw [rlp.eq_3, decItem_rlpLen_list f (rlpList l) rest hs.1, decList_rlpList l f hs.2 (by omega)]
    rfl
theorem decList_rlpList (l : List Item) (fuel : Nat) (hs : Item.SmallList l)
    (hf : 2 * (rlpList l).length < fuel) :
    decList fuel (rlpList l) = some l := by
  match l, hs, hf with
  | [], _, hf =>
    rw [rlpList.eq_1]
    exact decList.eq_2 fuel (by omega)
  | x :: xs, hs, hf =>
    rw [rlpList.eq_2] at hf ⊢
    rw [List.length_append] at hf
    have := rlp_length_pos x
    obtain ⟨f, rfl⟩ : ∃ f, fuel = f + 1 := ⟨fuel - 1, by omega⟩
    have hx := decItem_rlp x (rlpList xs) f hs.1 (by omega)
    have hxs := decList_rlpList xs f hs.2 (by omega)
    cases hc : rlp x ++ rlpList xs with
    | nil => exact absurd (List.append_eq_nil_iff.mp hc).1 (rlp_ne_nil x)
    | cons b bs =>
      rw [decList.eq_3, ← hc, hx]
      simp only [hxs]
      rfl
end

/-- `rlp.decode(rlp.encode(x)) == x` for every item whose strings and list payloads are shorter
    than `2^64` bytes -/
theorem rlpDecode_rlp_small (it : Item) (hs : it.Small) : rlpDecode (rlp it) = some it := by
  have h := decItem_rlp it [] (2 * (rlp it).length + 2) hs (by omega)
  rw [List.append_nil] at h
  simp only [rlpDecode, h]

/-! ### a sufficient condition: the whole encoding is shorter than `2^64` bytes -/

theorem str_length_le (b : Bytes) : b.length ≤ (rlp (.str b)).length := by
  by_cases h : ∃ x, b = [x]
  · obtain ⟨x, rfl⟩ := h
    have := rlp_length_pos (.str [x])
    simp only [List.length_singleton]; omega
  · rw [rlp.eq_2 b (fun x hx => h ⟨x, hx⟩)]; simp

mutual
theorem small_of_length_lt (N : Nat) : ∀ (it : Item), (rlp it).length < N → N ≤ 2 ^ 64 → it.Small
  | .str b, h, hN => by
    have := str_length_le b
    simp only [Item.Small]; omega
  | .list l, h, hN => by
    have := rlp_list_length l
    simp only [Item.Small]
    exact ⟨by omega, smallList_of_length_lt N l (by omega) hN⟩
theorem smallList_of_length_lt (N : Nat) : ∀ (l : List Item), (rlpList l).length < N → N ≤ 2 ^ 64 →
    Item.SmallList l
  | [], _, _ => by simp [Item.SmallList]
  | x :: xs, h, hN => by
    simp only [rlpList.eq_2, List.length_append] at h
    simp only [Item.SmallList]
    exact ⟨small_of_length_lt N x (by omega) hN, smallList_of_length_lt N xs (by omega) hN⟩
end

theorem small_of_rlp_length_lt (it : Item) (h : (rlp it).length < 2 ^ 64) : it.Small :=
  small_of_length_lt (2 ^ 64) it h (Nat.le_refl _)

/-- the round trip for every item whose encoding is shorter than `2^64` bytes
    (in particular for every trie node that fits in memory) -/
theorem rlpDecode_rlp_of_length_lt (it : Item) (h : (rlp it).length < 2 ^ 64) :
    rlpDecode (rlp it) = some it :=
  rlpDecode_rlp_small it (small_of_rlp_length_lt it h)

end PyTrie.HexD
