import PyTrie.Lemmas.HexIterProofs
import PyTrie.Model.HexEnc
/-! The Yellow Paper's trie construction (Appendix D: `c(I, i)`, `n(I, i)`, `TRIE(I)`) written out
    literally over a list of (nibble key, value) pairs, and the theorem that the raw node structure of
    every canonical tree — hence of every trie py-trie can reach — *is* that construction applied to
    its contents. Holds for every hash function `H` (KEC in the paper). -/

namespace PyTrie.Hex
open Node

theorem ent_append (t : Node) (a b : Path) :
    ent t (a ++ b) = (ent t b).map (fun e => (a ++ e.1, e.2)) := by
  induction t generalizing b with
  | blank => simp [ent]
  | leaf p v => by_cases hv : v = [] <;> simp [ent, hv]
  | ext p c ih => simp only [ent, List.append_assoc]; exact ih _
  | branch ch v ih =>
    simp only [ent, List.map_append, List.map_flatMap, List.append_assoc]
    congr 1
    · by_cases hv : v = [] <;> simp [hv]
    · congr 1
      funext x
      exact ih x _

theorem ent_eq_map_itemsOf (t : Node) (pre : Path) :
    ent t pre = (itemsOf t).map (fun e => (pre ++ e.1, e.2)) := by
  rw [itemsOf_eq_ent, ← ent_append, List.append_nil]

theorem ent_prefix (t : Node) (pre : Path) (e : Path × Bytes) (h : e ∈ ent t pre) :
    ∃ s, e.1 = pre ++ s := by
  obtain ⟨k, rfl, _⟩ := (mem_ent_iff t pre e).1 h
  exact ⟨k, rfl⟩

theorem ent_ne_nil (t : Node) (hc : Canon t) (hb : isBlank t = false) (pre : Path) :
    ent t pre ≠ [] := by
  obtain ⟨k, hk⟩ := exists_key t hc hb
  exact List.ne_nil_of_mem ((mem_ent_iff t pre _).2 ⟨k, rfl, hk⟩)

theorem ent_branch_two (ch : Nib → Node) (v : Bytes) (hc : Canon (branch ch v)) (pre : Path) :
    2 ≤ (ent (branch ch v) pre).length := by
  obtain ⟨k1, k2, hne, h1, h2⟩ := branch_two_keys ch v hc
  refine two_le_length_of_mem ((mem_ent_iff _ pre _).2 ⟨k1, rfl, h1⟩)
    ((mem_ent_iff _ pre _).2 ⟨k2, rfl, h2⟩) fun h => ?_
  simp only [Prod.mk.injEq, List.append_cancel_left_eq] at h
  exact hne h.1

theorem flatMap_single_ite {α β} [DecidableEq α] (l : List α) (hl : l.Nodup) (x : α) (hx : x ∈ l)
    (A : List β) : (l.flatMap fun y => if y = x then A else []) = A := by
  induction l with
  | nil => simp at hx
  | cons a l ih =>
    simp only [List.nodup_cons] at hl
    simp only [List.flatMap_cons]
    by_cases hax : a = x
    · subst hax
      have : (l.flatMap fun y => if y = a then A else []) = [] := by
        rw [List.flatMap_eq_nil_iff]
        intro y hy
        have : y ≠ a := fun e => hl.1 (e ▸ hy)
        simp [this]
      simp [this]
    · have hx' : x ∈ l := by
        rcases List.mem_cons.1 hx with h | h
        · exact absurd h.symm hax
        · exact h
      simp [hax, ih hl.2 hx']

/-- entries of the subtree under nibble `y` all have nibble `y` at position `‖pre‖` -/
theorem ent_child_filter (t : Node) (pre : Path) (x y : Nib) :
    (ent t (pre ++ [y])).filter (fun e => e.1[pre.length]? = some x) =
      if y = x then ent t (pre ++ [y]) else [] := by
  have hy (e : Path × Bytes) (he : e ∈ ent t (pre ++ [y])) : e.1[pre.length]? = some y := by
    obtain ⟨s, hs⟩ := ent_prefix t _ e he
    simp [hs]
  split
  · next h => exact List.filter_eq_self.2 fun e he => by simp [hy e he, h]
  · next h => exact List.filter_eq_nil_iff.2 fun e he => by simp [hy e he, h]

theorem ent_branch_filter (ch : Nib → Node) (v : Bytes) (pre : Path) (x : Nib) :
    (ent (branch ch v) pre).filter (fun e => e.1[pre.length]? = some x) = ent (ch x) (pre ++ [x]) := by
  simp only [ent, List.filter_append, List.filter_flatMap, ent_child_filter]
  have h1 : (if v ≠ [] then [(pre, v)] else []).filter (fun e => e.1[pre.length]? = some x) = [] := by
    by_cases hv : v = [] <;> simp [hv]
  rw [h1, List.nil_append]
  have h2 : (fun a => if a = x then ent (ch a) (pre ++ [a]) else []) =
      (fun a => if a = x then ent (ch x) (pre ++ [x]) else []) := by
    funext a
    by_cases ha : a = x
    · subst ha; rfl
    · simp [ha]
  rw [h2]
  exact flatMap_single_ite _ (List.nodup_finRange 16) x (List.mem_finRange x) _

theorem ent_branch_find? (ch : Nib → Node) (v : Bytes) (pre : Path) :
    (ent (branch ch v) pre).find? (fun e => e.1.length = pre.length) =
      if v = [] then none else some (pre, v) := by
  by_cases hv : v = []
  · subst hv
    simp only [↓reduceIte]
    rw [List.find?_eq_none]
    intro e he
    simp only [ent, ne_eq, not_true_eq_false, ↓reduceIte, List.nil_append, List.mem_flatMap] at he
    obtain ⟨y, _, he⟩ := he
    obtain ⟨s, hs⟩ := ent_prefix _ _ e he
    simp [hs]
  · simp [ent, hv]

theorem ent_branch_find (ch : Nib → Node) (v : Bytes) (pre : Path) :
    (match (ent (branch ch v) pre).find? (fun e => e.1.length = pre.length) with
      | some e => e.2
      | none => []) = v := by
  rw [ent_branch_find?]
  by_cases hv : v = [] <;> simp [hv]

end PyTrie.Hex

namespace PyTrie.YP
open PyTrie PyTrie.Hex PyTrie.Hex.Node

abbrev Entries := List (Path × Bytes)

/-- the longest common prefix of two paths -/
def lcp : Path → Path → Path
  | a :: as, b :: bs => if a = b then a :: lcp as bs else []
  | _, _ => []

def lcpAll : List Path → Path
  | [] => []
  | [k] => k
  | k :: rest => lcp k (lcpAll rest)

variable (H : Bytes → Bytes)

/-- `n(J, i)` given `c(J, i)`: `()` for the empty set, the structure itself when its RLP is shorter than
    32 bytes, its Keccak hash otherwise -/
def ypRef (J : Entries) (c : Item) : Item :=
  if J.isEmpty then .str [] else if (rlp c).length < 32 then c else .str (H (rlp c))

/-- `c(J, i)` (fuel bounds the recursion depth; by `toItem_eq_ypC` every fuel from the height of the tree on gives the same result) -/
def ypC : Nat → Entries → Nat → Item
  | 0, _, _ => .str []
  | fuel + 1, J, i =>
    match J with
    | [] => .str []
    | [(k, v)] => .list [.str (hp (k.drop i) true), .str v]
    | (k0, _) :: _ :: _ =>
      -- `j = max {x | ∃ l, ‖l‖ = x ∧ ∀ I ∈ J, I₀[0..x-1] = l}`: the length of the longest common prefix of all keys
      let j := (lcpAll (J.map (·.1))).length
      if i ≠ j then
        .list [.str (hp ((k0.drop i).take (j - i)) false), ypRef H J (ypC fuel J j)]
      else
        let u (x : Nib) : Item :=
          let Jx := J.filter (fun e => e.1[i]? = some x)
          ypRef H Jx (ypC fuel Jx (i + 1))
        let v : Bytes := match J.find? (fun e => e.1.length = i) with
          | some e => e.2
          | none => []
        .list ((List.finRange 16).map u ++ [.str v])

/-- `TRIE(J) = KEC(RLP(c(J, 0)))`, and `KEC(RLP(()))` for the empty mapping -/
def ypRoot (fuel : Nat) (J : Entries) : Hash :=
  if J.isEmpty then H [0x80] else H (rlp (ypC H fuel J 0))

/-- height of a tree (bounds the recursion depth of the construction) -/
def height : Node → Nat
  | blank => 0
  | leaf _ _ => 1
  | ext _ c => height c + 1
  | branch ch _ => ((List.finRange 16).map (fun i => height (ch i))).foldl max 0 + 1

/-- the contents of a subtree as absolute entries: keys prefixed by the path leading to it -/
def entriesAt (t : Node) (pre : Path) : Entries := (itemsOf t).map fun e => (pre ++ e.1, e.2)

theorem entriesAt_eq_ent (t : Node) (pre : Path) : entriesAt t pre = ent t pre :=
  (ent_eq_map_itemsOf t pre).symm

theorem lcp_prefix_left (a b : Path) : lcp a b <+: a := by
  fun_induction lcp a b <;> simp [*, List.cons_prefix_cons]

theorem lcp_prefix_right (a b : Path) : lcp a b <+: b := by
  fun_induction lcp a b <;> simp [*, List.cons_prefix_cons]

theorem prefix_lcp (q a b : Path) (ha : q <+: a) (hb : q <+: b) : q <+: lcp a b := by
  induction q generalizing a b with
  | nil => simp
  | cons x xs ih =>
    obtain ⟨a', rfl⟩ := ha
    obtain ⟨b', rfl⟩ := hb
    simp only [List.cons_append, lcp, ↓reduceIte]
    exact (List.cons_prefix_cons).2 ⟨rfl, ih _ _ (List.prefix_append _ _) (List.prefix_append _ _)⟩

theorem lcpAll_prefix (L : List Path) (k : Path) (hk : k ∈ L) : lcpAll L <+: k := by
  fun_induction lcpAll L with
  | case1 => simp at hk
  | case2 => simp_all
  | case3 k' rest _ ih =>
    rcases List.mem_cons.1 hk with rfl | hk
    · exact lcp_prefix_left _ _
    · exact (lcp_prefix_right _ _).trans (ih hk)

theorem prefix_lcpAll (L : List Path) (hL : L ≠ []) (q : Path) (h : ∀ k ∈ L, q <+: k) :
    q <+: lcpAll L := by
  fun_induction lcpAll L with
  | case1 => exact absurd rfl hL
  | case2 k => exact h k (by simp)
  | case3 k rest hne ih =>
    exact prefix_lcp _ _ _ (h k (by simp)) (ih hne fun k hk => h k (List.mem_cons_of_mem _ hk))

/-- the keys below a canonical branch reached via `pre` have exactly `pre` in common -/
theorem lcpAll_branch (ch : Nib → Node) (v : Bytes) (hc : Canon (branch ch v)) (pre : Path) :
    lcpAll ((ent (branch ch v) pre).map (·.1)) = pre := by
  have hne : (ent (branch ch v) pre).map (·.1) ≠ [] := by
    simpa using ent_ne_nil _ hc rfl pre
  have h1 : pre <+: lcpAll ((ent (branch ch v) pre).map (·.1)) := by
    refine prefix_lcpAll _ hne pre ?_
    intro k hk
    obtain ⟨e, he, rfl⟩ := List.mem_map.1 hk
    obtain ⟨s, hs⟩ := ent_prefix _ _ e he
    exact ⟨s, hs.symm⟩
  obtain ⟨s, hs⟩ := h1
  by_cases hs0 : s = []
  · rw [← hs, hs0, List.append_nil]
  · exfalso
    apply branch_no_common_prefix ch v hc s hs0
    intro k hk
    have hm : pre ++ k ∈ (ent (branch ch v) pre).map (·.1) :=
      List.mem_map.2 ⟨_, (mem_ent_iff _ pre _).2 ⟨k, rfl, hk⟩, rfl⟩
    have := lcpAll_prefix _ _ hm
    rw [← hs] at this
    exact (List.prefix_append_right_inj pre).1 this

theorem ypC_single (fuel : Nat) (k : Path) (v : Bytes) (i : Nat) :
    ypC H (fuel + 1) [(k, v)] i = .list [.str (hp (k.drop i) true), .str v] := rfl

theorem ypC_ext_case (fuel : Nat) (J : Entries) (i : Nat) (h2 : 2 ≤ J.length)
    (hij : i ≠ (lcpAll (J.map (·.1))).length) :
    ∃ e ∈ J, ypC H (fuel + 1) J i =
      .list [.str (hp ((e.1.drop i).take ((lcpAll (J.map (·.1))).length - i)) false),
        ypRef H J (ypC H fuel J (lcpAll (J.map (·.1))).length)] := by
  match J, h2 with
  | (k0, v0) :: e2 :: rest, _ => exact ⟨(k0, v0), by simp, by simp only [ypC]; rw [if_pos hij]⟩

theorem ypC_branch_case (fuel : Nat) (J : Entries) (i : Nat) (h2 : 2 ≤ J.length)
    (hij : i = (lcpAll (J.map (·.1))).length) :
    ypC H (fuel + 1) J i =
      .list ((List.finRange 16).map (fun x =>
          ypRef H (J.filter (fun e => e.1[i]? = some x))
            (ypC H fuel (J.filter (fun e => e.1[i]? = some x)) (i + 1))) ++
        [.str (match J.find? (fun e => e.1.length = i) with
          | some e => e.2
          | none => [])]) := by
  match J, h2 with
  | (k0, v0) :: e2 :: rest, _ =>
    simp only [ypC]
    rw [if_neg (by simpa using hij)]

theorem le_foldl_max (l : List Nat) (a : Nat) : a ≤ l.foldl max a ∧ ∀ x ∈ l, x ≤ l.foldl max a := by
  induction l generalizing a with
  | nil => simp
  | cons b l ih =>
    simp only [List.foldl_cons, List.mem_cons]
    obtain ⟨h1, h2⟩ := ih (max a b)
    refine ⟨by omega, ?_⟩
    rintro x (rfl | hx)
    · omega
    · exact h2 x hx

theorem height_child_lt (ch : Nib → Node) (v : Bytes) (i : Nib) :
    height (ch i) + 1 ≤ height (branch ch v) := by
  simp only [height, Nat.add_le_add_iff_right]
  exact (le_foldl_max _ 0).2 _ (List.mem_map.2 ⟨i, List.mem_finRange i, rfl⟩)

theorem mkRef_list (l : List Item) :
    mkRef H (.list l) = if (rlp (.list l)).length < 32 then .list l else .str (H (rlp (.list l))) := rfl

/-- for a non-empty set of entries `n(J, i)` is the reference py-trie builds -/
theorem ypRef_toItem (t : Node) (hb : isBlank t = false) (J : Entries) (hJ : J ≠ []) :
    ypRef H J (toItem H t) = refOf H t := by
  obtain ⟨l, hl⟩ : ∃ l, toItem H t = .list l := by
    cases t with
    | blank => simp [isBlank] at hb
    | leaf | ext | branch => exact ⟨_, rfl⟩
  cases J with
  | nil => exact absurd rfl hJ
  | cons => rw [refOf, hl]; rfl

/-- the reference equation follows from the structure equation -/
theorem refOf_ent_of_toItem (t : Node) (hc : Canon t) (pre : Path) (fuel : Nat)
    (hT : isBlank t = false → toItem H t = ypC H fuel (ent t pre) pre.length) :
    refOf H t = ypRef H (ent t pre) (ypC H fuel (ent t pre) pre.length) := by
  cases hb : isBlank t with
  | true =>
    rw [ent_of_isBlank hb, (isBlank_iff t).1 hb]
    rfl
  | false => rw [← hT hb, ypRef_toItem H t hb _ (ent_ne_nil t hc hb pre)]

theorem toItem_eq_ypC_ent (t : Node) (hc : Canon t) (hb : isBlank t = false) (pre : Path) (fuel : Nat)
    (hf : height t ≤ fuel) :
    toItem H t = ypC H fuel (ent t pre) pre.length := by
  induction t generalizing pre fuel with
  | blank => simp [isBlank] at hb
  | leaf p v =>
    have hv : v ≠ [] := hc
    obtain ⟨f, rfl⟩ : ∃ f, fuel = f + 1 := ⟨fuel - 1, by simp only [height] at hf; omega⟩
    simp only [ent, ne_eq, hv, not_false_eq_true, ↓reduceIte, ypC_single, List.drop_left, toItem]
  | ext p c ih =>
    match c, hc, ih with
    | branch ch v, ⟨hpne, _, hcc⟩, ih =>
      obtain ⟨f, rfl⟩ : ∃ f, fuel = f + 1 := ⟨fuel - 1, by simp only [height] at hf; omega⟩
      have hf' : height (branch ch v) ≤ f := by simp only [height] at hf ⊢; omega
      show _ = ypC H (f + 1) (ent (branch ch v) (pre ++ p)) pre.length
      have hl := lcpAll_branch ch v hcc (pre ++ p)
      have hij : pre.length ≠ (lcpAll ((ent (branch ch v) (pre ++ p)).map (·.1))).length := by
        have := List.length_pos_iff.2 hpne
        rw [hl, List.length_append]
        omega
      obtain ⟨e, he, eq⟩ := ypC_ext_case H f _ pre.length (ent_branch_two ch v hcc (pre ++ p)) hij
      obtain ⟨s, hs⟩ := ent_prefix _ _ e he
      have hd : (e.1.drop pre.length).take ((pre ++ p).length - pre.length) = p := by
        simp [hs, List.append_assoc]
      rw [eq, hl, hd, ← ih hcc rfl (pre ++ p) f hf', ypRef_toItem H _ rfl _ (ent_ne_nil _ hcc rfl _)]
      rfl
  | branch ch v ih =>
    obtain ⟨f, rfl⟩ : ∃ f, fuel = f + 1 := ⟨fuel - 1, by simp only [height] at hf; omega⟩
    have hl := lcpAll_branch ch v hc pre
    rw [ypC_branch_case H f _ pre.length (ent_branch_two ch v hc pre) (by rw [hl]), ent_branch_find]
    simp only [ent_branch_filter, toItem]
    congr 2
    apply List.map_congr_left
    intro i _
    have hfi : height (ch i) ≤ f := by
      have := height_child_lt ch v i
      omega
    have := refOf_ent_of_toItem H (ch i) (hc.1 i) (pre ++ [i]) f
      fun hb => ih i (hc.1 i) hb (pre ++ [i]) f hfi
    rwa [List.length_append, List.length_singleton] at this

/-- **every canonical subtree is the Yellow Paper's `c(J, i)`** of its contents `J` (absolute keys) at
    depth `i = ‖pre‖` -/
theorem toItem_eq_ypC (t : Node) (hc : Canon t) (hb : isBlank t = false) (pre : Path) (fuel : Nat)
    (hf : height t ≤ fuel) :
    toItem H t = ypC H fuel (entriesAt t pre) pre.length := by
  rw [entriesAt_eq_ent]
  exact toItem_eq_ypC_ent H t hc hb pre fuel hf

/-- … and a child reference is the paper's `n(J, i)` -/
theorem refOf_eq_ypRef (t : Node) (hc : Canon t) (pre : Path) (fuel : Nat) (hf : height t ≤ fuel) :
    refOf H t = ypRef H (entriesAt t pre) (ypC H fuel (entriesAt t pre) pre.length) := by
  rw [entriesAt_eq_ent]
  exact refOf_ent_of_toItem H t hc pre fuel (fun hb => toItem_eq_ypC_ent H t hc hb pre fuel hf)

/-- **the root hash is the Yellow Paper's `TRIE` of the contents** -/
theorem rootHash_eq_ypRoot (t : Node) (hc : Canon t) (fuel : Nat) (hf : height t ≤ fuel) :
    rootHash H t = ypRoot H fuel (itemsOf t) := by
  rw [itemsOf_eq_ent]
  cases hb : isBlank t with
  | true =>
    rw [(isBlank_iff t).1 hb]
    simp [rootHash, enc, toItem, ypRoot, ent, rlp, rlpLen]
  | false =>
    have hne := ent_ne_nil t hc hb []
    have := toItem_eq_ypC_ent H t hc hb [] fuel hf
    simp only [List.length_nil] at this
    simp only [rootHash, enc, ypRoot, List.isEmpty_iff, hne, ↓reduceIte, this]

end PyTrie.YP
