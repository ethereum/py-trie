import PyTrie.Lemmas.BinOps
import PyTrie.Lemmas.BinSaves
/-! The binary trie on trees: map semantics of `_set` in all its modes, the shape invariant, canonical
    uniqueness, and the save list. `bget t k = some v` ⇔ key `k` (a bit string) holds `v`. -/
namespace PyTrie.Bin
open BNode

/-- shape invariant of honest tries: leaf values and kv paths are non-empty, a kv node never points to a
    kv node (paths are compressed) -/
def BCanon : BNode → Prop
  | leaf v => v ≠ []
  | kv p c => p ≠ [] ∧ (∀ p' c', c ≠ kv p' c') ∧ BCanon c
  | branch l r => BCanon l ∧ BCanon r

def BCanonTop : Option BNode → Prop
  | none => True
  | some n => BCanon n

theorem wf_of_bcanon (t : BNode) (h : BCanon t) : WF t := by
  induction t with
  | leaf v => exact h
  | kv p c ih => exact ⟨h.1, ih h.2.2⟩
  | branch l r ihl ihr => exact ⟨ihl h.1, ihr h.2⟩

theorem bcanon_mkKv (p : Bits) (s : BNode) (hp : p ≠ []) (hs : BCanon s) : BCanon (mkKv p s) := by
  cases s with
  | leaf v => exact ⟨hp, (by intro _ _ h; cases h), hs⟩
  | kv p2 c2 => exact ⟨by simp [hp], hs.2.1, hs.2.2⟩
  | branch l r => exact ⟨hp, (by intro _ _ h; cases h), hs⟩

theorem bcanon_optKv (p : Bits) (c : BNode) (hc : BCanon c) (hk : ∀ p' c', c ≠ kv p' c') :
    BCanon (optKv p c) := by
  unfold optKv; split
  · exact hc
  · exact ⟨‹_›, hk, hc⟩

theorem bcanon_splitNode (cm : Bits) (kb : Bool) (pt : Bits) (c : BNode) (kt : Bits) (v : Bytes)
    (hc : BCanon c) (hk : ∀ p' c', c ≠ kv p' c') (hv : v ≠ []) : BCanon (splitNode cm kb pt c kt v) := by
  have h1 := bcanon_optKv pt c hc hk
  have h2 := bcanon_optKv kt (leaf v) hv nofun
  cases kb
  · exact bcanon_optKv cm _ ⟨h2, h1⟩ nofun
  · exact bcanon_optKv cm _ ⟨h1, h2⟩ nofun

theorem bcanon_bset (t : BNode) (k : Bits) (v : Bytes) (sub : Bool) (ht : BCanon t) (t' : BNode)
    (h : bset t k v sub = .ok (some t')) : BCanon t' :=
  bset_preserves BCanon (fun _ h => h) (fun _ _ h => ⟨h.1, h.2.2⟩) (fun _ _ => .rfl) bcanon_mkKv
    (fun cm _ pt kb kt c v h => bcanon_splitNode cm kb pt c kt v h.2.2 h.2.1) t k v sub ht t' h

theorem kv_prefix_le (p : Bits) (c : BNode) (hc : BCanon (kv p c)) (q : Bits)
    (h : ∀ k v, bget (kv p c) k = some v → q <+: k) : q <+: p := by
  obtain ⟨hp, hnk, hcc⟩ := hc
  cases c with
  | leaf v => exact h p v ((bget_kv_some ..).2 ⟨hp, [], by simp, rfl⟩)
  | kv p' c' => exact absurd rfl (hnk p' c')
  | branch l r =>
    obtain ⟨x, vx, hx⟩ := wf_exists_key l (wf_of_bcanon _ hcc.1)
    obtain ⟨y, vy, hy⟩ := wf_exists_key r (wf_of_bcanon _ hcc.2)
    have h1 := h (p ++ false :: x) vx
      ((bget_kv_some ..).2 ⟨by simp, false :: x, rfl, by rw [bget_branch_cons]; exact hx⟩)
    have h2 := h (p ++ true :: y) vy
      ((bget_kv_some ..).2 ⟨by simp, true :: y, rfl, by rw [bget_branch_cons]; exact hy⟩)
    rcases List.prefix_or_prefix_of_prefix h1 (List.prefix_append p _) with h3 | ⟨s, rfl⟩
    · exact h3
    · rw [List.prefix_append_right_inj] at h1 h2
      cases s with
      | nil => simp
      | cons b s' =>
        have e1 := (List.cons_prefix_cons.1 h1).1
        have e2 := (List.cons_prefix_cons.1 h2).1
        rw [e1] at e2; cases e2

theorem kv_branch_keys_ne (p : Bits) (c l r : BNode) (hkv : BCanon (kv p c)) (hbr : BCanon (branch l r))
    (h : ∀ k, bget (kv p c) k = bget (branch l r) k) : False := by
  obtain ⟨x, vx, hx⟩ := wf_exists_key l (wf_of_bcanon _ hbr.1)
  obtain ⟨y, vy, hy⟩ := wf_exists_key r (wf_of_bcanon _ hbr.2)
  have h1 : bget (kv p c) (false :: x) = some vx := by rw [h, bget_branch_cons]; exact hx
  have h2 : bget (kv p c) (true :: y) = some vy := by rw [h, bget_branch_cons]; exact hy
  obtain ⟨_, r1, e1, _⟩ := (bget_kv_some ..).1 h1
  obtain ⟨_, r2, e2, _⟩ := (bget_kv_some ..).1 h2
  cases p with
  | nil => exact hkv.1 rfl
  | cons b p' =>
    have a1 : false = b := by simpa using (List.cons.inj e1).1
    have a2 : true = b := by simpa using (List.cons.inj e2).1
    rw [← a1] at a2; cases a2

theorem exists_key (t : BNode) (hc : BCanon t) : ∃ k v, bget t k = some v := by
  exact wf_exists_key t (wf_of_bcanon t hc)

/-- the shape invariant is preserved by every successful `_set` (store, delete, delete_subtrie) -/
theorem bcanon_bsetTop (t : Option BNode) (hc : BCanonTop t) (k : Bits) (v : Bytes) (sub : Bool) (hk : k ≠ [])
    (t' : Option BNode) (h : bsetTop t k v sub = .ok t') : BCanonTop t' := by
  cases t with
  | none =>
    simp only [bsetTop] at h
    split at h
    · next hv => cases h; exact ⟨hk, (by intro _ _ e; cases e), hv⟩
    · cases h; trivial
  | some n =>
    cases t' with
    | none => trivial
    | some n' => exact bcanon_bset n k v sub hc n' h

/-- **store**: a successful `set(k, v)` with `v ≠ b""` changes exactly key `k` -/
theorem bget_set (t : Option BNode) (hc : BCanonTop t) (k : Bits) (hk : k ≠ []) (v : Bytes) (hv : v ≠ [])
    (t' : Option BNode) (h : bsetTop t k v false = .ok t') (k' : Bits) :
    bgetTop t' k' = if k' = k then some v else bgetTop t k' := by
  cases t with
  | none =>
    simp only [bsetTop, ne_eq, hv, not_false_eq_true, ↓reduceIte] at h
    cases h
    have := bget_optKv_leaf k v k'
    rwa [optKv, if_neg hk] at this
  | some n =>
    cases t' with
    | none => exact absurd h (bset_ne_none n (wf_of_bcanon n hc) k v hv)
    | some n' => exact bget_bset n k v hv (wf_of_bcanon n hc) n' h k'

/-- … and it is refused with `NodeOverrideError` exactly when a related key is stored -/
theorem set_override_iff (t : Option BNode) (hc : BCanonTop t) (k : Bits) (hk : k ≠ []) (v : Bytes) (hv : v ≠ []) :
    bsetTop t k v false = .error .override ↔ ∃ k' v', bgetTop t k' = some v' ∧ Related k' k := by
  cases t with
  | none =>
    simp only [bsetTop]
    constructor
    · intro h; split at h <;> cases h
    · rintro ⟨k', v', h, _⟩; cases h
  | some n => exact bset_override_iff n (wf_of_bcanon n hc) k v hv

/-- **delete**: a successful `delete(k)` removes exactly key `k` (nothing if it was absent) -/
theorem bget_delete (t : Option BNode) (hc : BCanonTop t) (k : Bits) (hk : k ≠ [])
    (t' : Option BNode) (h : bsetTop t k [] false = .ok t') (k' : Bits) :
    bgetTop t' k' = if k' = k then none else bgetTop t k' := by
  cases t with
  | none =>
    simp [bsetTop] at h
    subst h
    simp [bgetTop]
  | some n => simpa [touched, bgetTop_some] using bgetTop_bset n (wf_of_bcanon n hc) k [] false t' h k'

/-- … and it can be refused only for an absent key that is related to a stored key -/
theorem delete_override (t : Option BNode) (hc : BCanonTop t) (k : Bits) (hk : k ≠ [])
    (h : bsetTop t k [] false = .error .override) :
    bgetTop t k = none ∧ ∃ k' v', bgetTop t k' = some v' ∧ Related k' k := by
  cases t with
  | none => simp [bsetTop] at h
  | some n =>
    obtain ⟨k', v', h1, h2, h3⟩ := bset_error n (wf_of_bcanon n hc) k [] false _ h
    have h3 : k' <+: k ∨ k <+: k' := h3.imp_right And.right
    refine ⟨?_, k', v', h1, h2, h3⟩
    cases hk : bget n k with
    | none => exact hk
    | some x => exact absurd ⟨h2, h3⟩ (keys_prefix_free n k' k v' x h1 hk)

/-- **delete_subtrie**: a successful `delete_subtrie(p)` removes exactly the keys starting with `p` -/
theorem bget_delete_subtrie (t : Option BNode) (hc : BCanonTop t) (p : Bits) (hp : p ≠ [])
    (t' : Option BNode) (h : bsetTop t p [] true = .ok t') (k' : Bits) :
    bgetTop t' k' = if p <+: k' then none else bgetTop t k' := by
  cases t with
  | none =>
    simp [bsetTop] at h
    subst h
    simp [bgetTop]
  | some n => simpa [touched, bgetTop_some] using bgetTop_bset n (wf_of_bcanon n hc) p [] true t' h k'

/-- … and it is refused only when `p` runs past a stored key (then no stored key starts with `p`) -/
theorem delete_subtrie_override (t : Option BNode) (hc : BCanonTop t) (p : Bits) (hp : p ≠ [])
    (h : bsetTop t p [] true = .error .override) :
    (∃ k' v', bgetTop t k' = some v' ∧ k' <+: p ∧ k' ≠ p) ∧ ∀ k' v', bgetTop t k' = some v' → ¬ p <+: k' := by
  cases t with
  | none => simp [bsetTop] at h
  | some n =>
    obtain ⟨k0, v0, h1, h3, h2⟩ := bset_error n (wf_of_bcanon n hc) p [] true _ h
    replace h2 : k0 <+: p := h2.resolve_right fun h' => nomatch h'.1
    refine ⟨⟨k0, v0, h1, h2, h3⟩, fun k' v' hk' hp' => ?_⟩
    have e := prefix_key_eq n k0 k' v0 v' h1 hk' (h2.trans hp')
    subst e
    exact h3 (h2.eq_of_length_le hp'.length_le)

/-- **canonical form**: two canonical trees with the same contents are equal -/
theorem bcanon_unique (a b : BNode) (ha : BCanon a) (hb : BCanon b) (h : ∀ k, bget a k = bget b k) : a = b := by
  induction a generalizing b with
  | leaf v =>
    cases b with
    | leaf w => have := h []; simp [bget_leaf] at this; rw [this]
    | kv q d => have := h []; simp [bget_leaf, bget_kv] at this
    | branch l r => have := h []; simp [bget_leaf, bget_branch_nil] at this
  | kv p c ih =>
    cases b with
    | leaf w => have := h []; simp [bget_leaf, bget_kv] at this
    | kv q d =>
      have h1 : q <+: p := kv_prefix_le p c ha q (fun k v hk => by
        rw [h k] at hk
        obtain ⟨_, r, rfl, _⟩ := (bget_kv_some ..).1 hk
        exact List.prefix_append _ _)
      have h2 : p <+: q := kv_prefix_le q d hb p (fun k v hk => by
        rw [← h k] at hk
        obtain ⟨_, r, rfl, _⟩ := (bget_kv_some ..).1 hk
        exact List.prefix_append _ _)
      have hpq : p = q := h2.eq_of_length_le h1.length_le
      subst hpq
      have : c = d := ih d ha.2.2 hb.2.2 (fun k => by
        have := h (p ++ k)
        simpa [bget_kv, ha.1] using this)
      rw [this]
    | branch l r => exact (kv_branch_keys_ne p c l r ha hb h).elim
  | branch l r ihl ihr =>
    cases b with
    | leaf w => have := h []; simp [bget_leaf, bget_branch_nil] at this
    | kv q d => exact (kv_branch_keys_ne q d l r hb ha (fun k => (h k).symm)).elim
    | branch l' r' =>
      rw [ihl l' ha.1 hb.1 (fun k => by simpa [bget_branch_cons] using h (false :: k)),
        ihr r' ha.2 hb.2 (fun k => by simpa [bget_branch_cons] using h (true :: k))]

/-- a call that raises has saved nothing: root *and* database are untouched -/
theorem raise_before_save (t : Option BNode) (k : Bits) (v : Bytes) (sub : Bool) (e : Err)
    (h : (bsetTopS t k v sub).1 = .error e) : (bsetTopS t k v sub).2 = [] := by
  cases t with
  | none => simp only [bsetTopS] at h ⊢; split at h <;> cases h
  | some n => exact bsetS_raise n k v sub e h

end PyTrie.Bin
