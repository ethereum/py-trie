import PyTrie.Lemmas.PartialInv
/-! **Every earlier version stays partially consistent with the current database** (C09 / C04 / C08 across versions).
    A fog walk with a `TrieFrontierCache`, an `at_root` snapshot of an old root, a `traverse_from` on a node kept from
    before a mutation — all read nodes of an *older* version from the database as it is now. Content addressing makes that
    safe: whatever the current database holds under the hash of a node of any older version is that node's encoding
    (possibly nothing, if pruned), provided no two different nodes among the versions of the run share a hash (run-level
    predicate). Hence reading an older version through the current database returns what that version says or reports a
    missing node (`C09.stale_parent_truthful`, `C07.raw_traverse_partial`), never something else. -/
namespace PyTrie.HexFree
open PyTrie PyTrie.Hex PyTrie.HexD PyTrie.HexW PyTrie.HexRaw
open PyTrie.Props.C01 (Op run spec)

variable (H : Bytes → Bytes)

/-- the writes of an operation agree with the (possibly withheld or pruned) nodes of a tree `t0`: a write under the hash of
    `t0` itself or of a hashed node of `t0` carries that node's encoding -/
def WritesAgree (ws : List (Hash × Bytes)) (t0 : Node) : Prop :=
  ∀ (m : Node) (b : Bytes), (hashOf H m, b) ∈ ws →
    (m = t0 ∨ (isHashed H m = true ∧ ∃ q, nodeAt t0 q = some m)) → b = enc H m

/-- one operation (any trie `T`, plain store, pruning on or off, returning or raising) keeps ANY canonical tree `t0` —
    e.g. an older version — partially consistent with the database -/
theorem opSetDel_keeps_tree_consistent (T : TrieSt) (key : Bytes) (val : Option Bytes) (s : OpSt)
    (t0 : Node) (hc0 : Canon t0) (root0 : Hash)
    (hp : RootPartial H s.store.base root0 t0 ∧ PartialD H s.store.base t0)
    (hag : WritesAgree H (opWrites (stdHashing H) T key val) t0) :
    RootPartial H (opSetDel (stdHashing H) (blankRoot H) T key val s).1.store.base root0 t0 ∧
    PartialD H (opSetDel (stdHashing H) (blankRoot H) T key val s).1.store.base t0 :=
  partial_onlyAdds H t0 hc0 root0 _ _ _ (opSetDel_adds (stdHashing H) (blankRoot H) T key val s) hag hp

/-- a history in which, in addition to the premises of `ReachOpsNC`, the writes of every step agree with every earlier
    version and the two physical side conditions hold at every state -/
inductive ReachVersions (prune : Bool) : List Op → TrieSt → OpSt → Prop where
  | init : ReachVersions prune [] { tree := .blank, root := blankRoot H, prune := prune }
      { store := { base := [], cache := none, failAfter := none }, counts := [], pending := [] }
  | step (ops : List Op) (T : TrieSt) (s : OpSt) (o : Op) (T' : TrieSt) :
      ReachVersions prune ops T s →
      RefSound (stdHashing H) T.tree (nibs (opKey o)) →
      (isBlank (opTree (stdHashing H) T (opKey o) (opVal o)).1 = false →
        hashOf H (opTree (stdHashing H) T (opKey o) (opVal o)).1 ≠ blankRoot H) →
      NoClobber s.store.base (opWrites (stdHashing H) T (opKey o) (opVal o)) →
      (∀ i, i ≤ ops.length → WritesAgree H (opWrites (stdHashing H) T (opKey o) (opVal o)) (run (ops.take i))) →
      Dict.get? (opSetDel (stdHashing H) (blankRoot H) T (opKey o) (opVal o) s).1.store.base (blankRoot H) = none →
      (∀ h b, Dict.get? (opSetDel (stdHashing H) (blankRoot H) T (opKey o) (opVal o) s).1.store.base h = some b → b.length < 2 ^ 64) →
      (opSetDel (stdHashing H) (blankRoot H) T (opKey o) (opVal o) s).2 = .ok T' →
      ReachVersions prune (ops ++ [o]) T' (opSetDel (stdHashing H) (blankRoot H) T (opKey o) (opVal o) s).1

theorem reachVersions_nc (prune : Bool) (ops : List Op) (T : TrieSt) (s : OpSt)
    (h : ReachVersions H prune ops T s) : ReachOpsNC (stdHashing H) (blankRoot H) prune ops T s := by
  induction h with
  | init => exact ReachOpsNC.init
  | step ops T s o T' _ hrs hbl hnc _ _ _ hok ih => exact ReachOpsNC.step ops T s o T' ih hrs hbl hnc hok

/-- **after any such history every earlier version (and the current one) is partially consistent with the current
    database**, pruning on or off -/
theorem all_versions_consistent (prune : Bool) (ops : List Op) (T : TrieSt) (s : OpSt)
    (h : ReachVersions H prune ops T s) (i : Nat) (hi : i ≤ ops.length) :
    RootPartial H s.store.base (rootHash H (run (ops.take i))) (run (ops.take i)) ∧
    PartialD H s.store.base (run (ops.take i)) := by
  revert i
  induction h with
  | init =>
    intro i _
    refine ⟨?_, ?_⟩
    · simp [RootPartial, run, isBlank, rootHash, enc_blank, blankRoot]
    · simp [run, PartialD]
  | step ops T s o T' hreach hrs hbl hnc hwa hbk hsm hok ih =>
    intro i hi
    by_cases hle : i ≤ ops.length
    · rw [List.take_append_of_le_length hle]
      exact opSetDel_keeps_tree_consistent H T (opKey o) (opVal o) s _ (PyTrie.Props.C01.canon_run _) _
        (ih i hle) (hwa i hle)
    · have hlen : (ops ++ [o]).length ≤ i := by
        simp only [List.length_append, List.length_singleton] at hi ⊢; omega
      rw [List.take_of_length_le hlen]
      have hnc' := ReachOpsNC.step ops T s o T' (reachVersions_nc H prune ops T s hreach) hrs hbl hnc hok
      have hcomp := reachOpsNC_complete (stdHashing H) (blankRoot H) prune _ _ _ hnc'
      have htree : T'.tree = run (ops ++ [o]) :=
        (reachOps_tree (stdHashing H) (blankRoot H) prune _ _ _
          (reachOpsNC_reachOps (stdHashing H) (blankRoot H) prune _ _ _ hnc')).1
      have hroot := complete_root_eq H _ T' hcomp
      have := partial_of_complete H T' _ hcomp hbk hsm
      rw [hroot, htree] at this
      exact this

end PyTrie.HexFree
