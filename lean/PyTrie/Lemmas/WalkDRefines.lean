import PyTrie.Model.WalkD
import PyTrie.Lemmas.WalkConcrete
import PyTrie.Lemmas.ReadPartial
/-! **The raw-level walk step computes the tree-level walk step, or reports the first missing node.** The tree-level
    step `cstep` (`Model/Walk.lean`) holds tree nodes in its cache and consults the tree; the raw-level step `cstepD`
    (`Model/WalkD.lean`) holds raw node bodies and reads their children from the database as it is now. On a database that
    is partially consistent with the current version and with every cached parent (whatever it holds under the hash of
    one of their nodes is that node's encoding — `Lemmas/VersionsConsistent.lean`), `cstepD` returns `MissingTraversalNode` for the
    first absent node on the way, or exactly the image of `cstep`'s result. So the walk theorems of C09
    (`concrete_finds_stable`, `concrete_sound`, termination) are theorems about the raw-level loop body, which is what
    the correspondence check runs against the code. -/
namespace PyTrie.HexD
open PyTrie PyTrie.Hex PyTrie.Fog PyTrie.HexRaw PyTrie.Walk

variable (H : Bytes → Bytes)

/-- the raw image of a tree-level walk state: cached parents become their raw bodies -/
def toCD (s : CState) : CStateD :=
  ⟨s.fog, s.cache.map (fun e => (e.1, (toItem H e.2.1, e.2.2))), s.met⟩

/-- every cached parent is canonical and partially consistent with the database -/
def CacheOkD (db : Db) (c : Frontier Node) : Prop :=
  ∀ p parent seg, Frontier.get c p = some (parent, seg) → Canon parent ∧ PartialD H db parent

theorem frontier_get_map (c : Frontier Node) (p : Path) :
    Frontier.get (c.map (fun e => (e.1, (toItem H e.2.1, e.2.2)))) p =
      (Frontier.get c p).map (fun e => (toItem H e.1, e.2)) := by
  simp only [Frontier.get, List.find?_map, Option.map_map]
  rfl

def mapC (c : Frontier Node) : Frontier Item := c.map (fun e => (e.1, (toItem H e.2.1, e.2.2)))

theorem mapC_erase (c : Frontier Node) (p : Path) :
    Frontier.erase (mapC H c) p = mapC H (Frontier.erase c p) := by
  simp only [mapC, Frontier.erase, List.filter_map]
  rfl

theorem mapC_put (c : Frontier Node) (p : Path) (n : Node) (seg : Path) :
    Frontier.put (mapC H c) p (toItem H n, seg) = mapC H (Frontier.put c p (n, seg)) := by
  simp only [Frontier.put, mapC_erase]
  rfl

theorem mapC_add (c : Frontier Node) (pre : Path) (n : Node) (subs : List Path) :
    Frontier.add (mapC H c) pre (toItem H n) subs = mapC H (Frontier.add c pre n subs) := by
  have hfold : ∀ c : Frontier Node,
      subs.foldl (fun acc seg => Frontier.put acc (pre ++ seg) (toItem H n, seg)) (mapC H c) =
        mapC H (subs.foldl (fun acc seg => Frontier.put acc (pre ++ seg) (n, seg)) c) := by
    induction subs with
    | nil => exact fun _ => rfl
    | cons s subs ih => exact fun c => by simp only [List.foldl_cons, mapC_put, ih]
  unfold Frontier.add
  split
  · rw [mapC_erase, hfold]
  · exact hfold c

theorem mapC_delete (c : Frontier Node) (p : Path) :
    Frontier.delete (mapC H c) p = mapC H (Frontier.delete c p) := mapC_erase H c p

theorem mapC_update (c : Frontier Node) (p : Path) (n : Node) (subs : List Path) :
    (if subs ≠ [] then Frontier.add (mapC H c) p (toItem H n) subs else Frontier.delete (mapC H c) p) =
      mapC H (if subs ≠ [] then Frontier.add c p n subs else Frontier.delete c p) := by
  split
  · exact mapC_add H c p n subs
  · exact mapC_delete H c p

theorem descD?_toD (out : TravOut) : descD? (TravOut.toD H out) = (descOf? out).map (Ann.toD H) := by
  cases out <;> rfl

/-- `db` reads the nodes satisfying `P` truthfully: `traverse_from(node, path)` returns the tree-level description,
    or `MissingTraversalNode` for a hash and prefix satisfying `E` -/
def Reads (db : Db) (E : Hash → Path → Prop) (P : Node → Prop) : Prop :=
  ∀ v, P v → ∀ (q : Path) (fuel : Nat), q.length < fuel →
    (∃ h pre, traverseOutD H db fuel (toItem H v) q = .error (.missing h pre) ∧ E h pre) ∨
    traverseOutD H db fuel (toItem H v) q = .ok (TravOut.toD H (traverseOut v q))

/-- an incomplete database: the node reported missing really is absent -/
theorem reads_partial (hlen : ∀ b, (H b).length = 32) (db : Db) :
    Reads H db (fun h _ => lookup db h = none) (fun v => Canon v ∧ PartialD H db v) := by
  intro v hv q fuel hf
  rw [traverseOutD_partial H hlen db v hv.1 hv.2 q fuel hf]
  cases hm : firstMissingRead H db v q [] with
  | none => exact Or.inr rfl
  | some e =>
    refine Or.inl ⟨e.1, e.2, rfl, ?_⟩
    simpa [firstMissingRead] using List.find?_some hm

theorem traverseOutD_stored (hlen : ∀ b, (H b).length = 32) (db : Db) (t : Node) (hc : Canon t) (hst : StoredD H db t)
    (p : Path) (fuel : Nat) (hf : p.length < fuel) :
    traverseOutD H db fuel (toItem H t) p = .ok (TravOut.toD H (traverseOut t p)) := by
  have htr := trav_okD H hlen db t hc hst p fuel [] (by omega)
  unfold traverseOutD
  rw [htr]
  simp only [traverseOut]
  generalize traverseT t p = r
  obtain ⟨n, rem⟩ := r
  simp only [annotateD_toItem H hlen]
  by_cases hrem : rem = []
  · simp only [hrem, ↓reduceIte, TravOut.toD]
  · simp only [hrem, ↓reduceIte, TravOut.toD, simulateD_annotate]

/-- a complete database: nothing is missing -/
theorem reads_stored (hlen : ∀ b, (H b).length = 32) (db : Db) :
    Reads H db (fun _ _ => False) (fun v => Canon v ∧ StoredD H db v) :=
  fun v hv q fuel hf => Or.inr (traverseOutD_stored H hlen db v hv.1 hv.2 q fuel hf)

/-- **the traversal of one step**: the root node is fetched (on a cache miss) and the start node is read -/
theorem walkTraverseD_sim {E : Hash → Path → Prop} {P : Node → Prop} (hlen : ∀ b, (H b).length = 32) (db : Db)
    (root : Hash) (t : Node) (hroot : RootPartial H db root t)
    (hrootE : isBlank t = false → lookup db root = none → E root []) (hreads : Reads H db E P) (ht : P t)
    (s : CState) (p : Path) (hcache : ∀ parent seg, Frontier.get s.cache p = some (parent, seg) → P parent) :
    (∃ h pre, walkTraverseD H db root (toCD H s) p = .error (.missing h pre) ∧ E h pre) ∨
    walkTraverseD H db root (toCD H s) p = .ok (TravOut.toD H (iterOut t s.cache p)) := by
  unfold walkTraverseD iterOut
  simp only [toCD, frontier_get_map]
  cases hg : Frontier.get s.cache p with
  | some e => exact hreads e.1 (hcache e.1 e.2 hg) e.2 _ (by omega)
  | none =>
    simp only [Option.map_none]
    have hfin := hreads t ht p (db.length + p.length + 2) (by omega)
    unfold RootPartial at hroot
    cases hb : isBlank t with
    | true =>
      simp only [hb, ↓reduceIte] at hroot
      subst hroot
      obtain rfl := (isBlank_iff t).1 hb
      rw [show fetch H db (.str (blankRoot H)) [] = .ok (toItem H Node.blank) from root_fetch_blank H db]
      exact hfin
    | false =>
      simp only [hb, Bool.false_eq_true, ↓reduceIte] at hroot
      obtain ⟨rfl, hne, hl, hd⟩ := hroot
      cases hlk : lookup db (hashOf H t) with
      | none =>
        rw [fetch_hash_none H hlen db t [] hne hlk]
        exact Or.inl ⟨_, _, rfl, hrootE hb hlk⟩
      | some b =>
        obtain rfl := hl b hlk
        rw [fetch_hash_some H hlen db t [] hne hlk hd]
        exact hfin

/-- **one step**: the raw-level step is the tree-level step, or reports a missing node -/
theorem cstepD_sim {E : Hash → Path → Prop} {P : Node → Prop} (hlen : ∀ b, (H b).length = 32) (db : Db)
    (root : Hash) (t : Node) (hroot : RootPartial H db root t)
    (hrootE : isBlank t = false → lookup db root = none → E root []) (hreads : Reads H db E P) (ht : P t)
    (s : CState) (p : Path) (hcache : ∀ parent seg, Frontier.get s.cache p = some (parent, seg) → P parent) :
    (∃ h pre, cstepD H db root (toCD H s) p = .error (.missing h pre) ∧ E h pre) ∨
    cstepD H db root (toCD H s) p = .ok ((cstep t s p).map (toCD H)) := by
  unfold cstepD
  rcases walkTraverseD_sim H hlen db root t hroot hrootE hreads ht s p hcache with ⟨h, pre, he, hl⟩ | hok
  · rw [he]
    exact Or.inl ⟨h, pre, rfl, hl⟩
  · rw [hok, cstep_eq, ← descOf?_eq_desc]
    simp only [descD?_toD]
    cases descOf? (iterOut t s.cache p) with
    | none => exact Or.inr rfl
    | some d =>
      simp only [Option.map_some, cfinish, toCD, Ann.toD]
      cases Fog.explore s.fog p d.subs with
      | error e => exact Or.inr rfl
      | ok fog' =>
        exact Or.inr (congrArg (fun c => Except.ok (some (CStateD.mk fog' c _))) (mapC_update H s.cache p d.raw d.subs))

theorem cstepD_refines (hlen : ∀ b, (H b).length = 32) (db : Db) (root : Hash) (t : Node) (hc : Canon t)
    (hroot : RootPartial H db root t) (hst : PartialD H db t)
    (s : CState) (hcache : CacheOkD H db s.cache) (p : Path) :
    (∃ h pre, cstepD H db root (toCD H s) p = .error (.missing h pre) ∧ lookup db h = none) ∨
    cstepD H db root (toCD H s) p = .ok ((cstep t s p).map (toCD H)) :=
  cstepD_sim H hlen db root t hroot (fun _ h => h) (reads_partial H hlen db) ⟨hc, hst⟩ s p (hcache p)

/-- a property of nodes that passes to children holds of every node a traversal reaches -/
theorem traverseT_closed {P : Node → Prop} (hb : P .blank) (hext : ∀ q c, P (.ext q c) → P c)
    (hbr : ∀ ch v i, P (.branch ch v) → P (ch i)) (t : Node) (p : Path) (ht : P t) : P (traverseT t p).1 := by
  induction t generalizing p with
  | blank => cases p <;> exact ht
  | leaf q v =>
    cases p with
    | nil => exact ht
    | cons a r =>
      rw [traverseT_leaf _ _ _ (by simp)]
      split
      · exact ht
      · exact hb
  | ext q c ih =>
    cases p with
    | nil => exact ht
    | cons a r =>
      rw [traverseT_ext _ _ _ (by simp)]
      split
      · exact ih _ (hext q c ht)
      · split
        · exact ht
        · exact hb
  | branch ch v ih =>
    cases p with
    | nil => exact ht
    | cons a r => exact ih a r (hbr ch v a ht)

theorem canon_partial_traverseT (db : Db) (t : Node) (p : Path) (ht : Canon t ∧ PartialD H db t) :
    Canon (traverseT t p).1 ∧ PartialD H db (traverseT t p).1 :=
  traverseT_closed (P := fun n => Canon n ∧ PartialD H db n) ⟨trivial, trivial⟩
    (fun _ _ h => ⟨h.1.2.2, h.2.2⟩) (fun _ _ i h => ⟨h.1.1 i, (h.2 i).2⟩) t p ht

theorem canon_partial_simulate (db : Db) (n : Node) (tail : Path) (d : Ann) (hc : Canon n) (hs : PartialD H db n)
    (h : simulate (annotate n) tail = some d) : Canon d.raw ∧ PartialD H db d.raw := by
  rcases simulate_annotate h with ⟨q, v, rfl, _, rfl⟩ | ⟨q, c, rfl, hpre, hlen, rfl⟩
  · exact ⟨hc, trivial⟩
  · refine ⟨⟨fun hnil => ?_, hc.2.1, hc.2.2⟩, hs⟩
    have : q.length - tail.length = 0 := by simpa using congrArg List.length hnil
    have := hpre.length_le
    omega

theorem canon_partial_desc (db : Db) (v : Node) (hc : Canon v) (hs : PartialD H db v) (p : Path) (d : Ann)
    (h : (traverseOut v p).desc = some d) : Canon d.raw ∧ PartialD H db d.raw := by
  rw [desc_eq] at h
  obtain ⟨h1, h2⟩ := canon_partial_traverseT H db v p ⟨hc, hs⟩
  unfold descOf at h
  split at h
  · cases h
    rw [annotate_raw]
    exact ⟨h1, h2⟩
  · exact canon_partial_simulate H db _ _ d h1 h2 h

end PyTrie.HexD
