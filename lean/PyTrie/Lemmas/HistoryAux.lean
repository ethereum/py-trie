import PyTrie.Lemmas.PruneBodies
import PyTrie.Props.C05
/-! World-level bookkeeping used by the assembly of whole histories (`Lemmas/FreeHistory.lean`): what `World.setDel` and
    `World.batchEnd` leave in each field of the world, on the success path and when a direct call raises; a complete
    database holds every live hash as a key. -/
namespace PyTrie.HexW
open PyTrie.Hex hiding get set
open PyTrie.Hex.Node

variable (Hs : Hashing) (blankRootHash : Hash)

/-! ### the fields of the world after a successful `setDel` -/

theorem World.noteRoot_fields (w : World) (T : TrieSt) :
    (w.noteRoot T).base = w.base ∧ (w.noteRoot T).failAfter = w.failAfter ∧ (w.noteRoot T).tries = w.tries ∧
    (w.noteRoot T).counts = w.counts ∧ (w.noteRoot T).batch = w.batch := by
  unfold World.noteRoot
  split <;> exact ⟨rfl, rfl, rfl, rfl, rfl⟩

theorem World.setDel_trie_ok (w : World) (i : Nat) (key : Bytes) (val : Option Bytes) (T' : TrieSt)
    (hok : (opSetDel Hs blankRootHash w.tries[i]! key val (w.opSt i)).2 = .ok T') :
    (w.setDel Hs blankRootHash (.trie i) key val).1 = .ok () ∧
    (w.setDel Hs blankRootHash (.trie i) key val).2.base =
      (opSetDel Hs blankRootHash w.tries[i]! key val (w.opSt i)).1.store.base ∧
    (w.setDel Hs blankRootHash (.trie i) key val).2.failAfter =
      (opSetDel Hs blankRootHash w.tries[i]! key val (w.opSt i)).1.store.failAfter ∧
    (w.setDel Hs blankRootHash (.trie i) key val).2.tries = w.tries.set! i T' ∧
    (w.setDel Hs blankRootHash (.trie i) key val).2.counts =
      w.counts.set! i (opSetDel Hs blankRootHash w.tries[i]! key val (w.opSt i)).1.counts ∧
    (w.setDel Hs blankRootHash (.trie i) key val).2.batch = w.batch := by
  simp only [World.setDel]
  generalize opSetDel Hs blankRootHash w.tries[i]! key val (w.opSt i) = q at hok ⊢
  obtain ⟨st', r⟩ := q
  subst hok
  exact ⟨rfl, World.noteRoot_fields _ T'⟩

theorem World.setDel_batch_ok (w : World) (b : Batch) (hb : w.batch = some b) (key : Bytes) (val : Option Bytes)
    (T' : TrieSt) (hok : (opSetDel Hs blankRootHash b.trie key val (w.batchOpSt b)).2 = .ok T') :
    (w.setDel Hs blankRootHash .batch key val).1 = .ok () ∧
    (w.setDel Hs blankRootHash .batch key val).2.base = w.base ∧
    (w.setDel Hs blankRootHash .batch key val).2.failAfter = w.failAfter ∧
    (w.setDel Hs blankRootHash .batch key val).2.tries = w.tries ∧
    (w.setDel Hs blankRootHash .batch key val).2.counts = w.counts ∧
    ∃ b', (w.setDel Hs blankRootHash .batch key val).2.batch = some b' ∧ b'.outer = b.outer ∧ b'.trie = T' ∧
      (w.setDel Hs blankRootHash .batch key val).2.batchOpSt b' =
        (opSetDel Hs blankRootHash b.trie key val (w.batchOpSt b)).1 := by
  -- through the block's `ScratchDB` the wrapped database and the fault counter are never touched
  have hsb := Props.C05.opSetDel_base Hs blankRootHash b.trie key val (w.batchOpSt b) rfl
  have hpend : (opSetDel Hs blankRootHash b.trie key val (w.batchOpSt b)).1.pending = [] := rfl
  simp only [World.setDel, hb]
  generalize opSetDel Hs blankRootHash b.trie key val (w.batchOpSt b) = q at hok hsb hpend ⊢
  obtain ⟨⟨⟨sb, sc, sf⟩, cn, pd⟩, r⟩ := q
  obtain ⟨e1, e2, hsome⟩ := hsb
  obtain ⟨c, hc⟩ := Option.isSome_iff_exists.1 hsome
  simp only [World.batchOpSt] at e1 e2 hc hpend hok
  subst hok hc hpend e1 e2
  obtain ⟨h1, h2, h3, h4, h5⟩ := World.noteRoot_fields
    ({ w with batch := some { b with cache := c, counts := cn, trie := T' } } : World) T'
  refine ⟨rfl, h1, h2, h3, h4, _, h5, rfl, rfl, ?_⟩
  simp only [World.batchOpSt, Option.getD_some] at h1 h2 ⊢
  rw [h1, h2]

theorem World.setDel_trie_error_eq (w : World) (i : Nat) (key : Bytes) (val : Option Bytes) (e : Exn)
    (h : (w.setDel Hs blankRootHash (.trie i) key val).1 = .error e) :
    (opSetDel Hs blankRootHash w.tries[i]! key val (w.opSt i)).2 = .error e ∧
    (w.setDel Hs blankRootHash (.trie i) key val).2 =
      { w with base := (opSetDel Hs blankRootHash w.tries[i]! key val (w.opSt i)).1.store.base,
               failAfter := (opSetDel Hs blankRootHash w.tries[i]! key val (w.opSt i)).1.store.failAfter,
               counts := w.counts.set! i (opSetDel Hs blankRootHash w.tries[i]! key val (w.opSt i)).1.counts } := by
  simp only [World.setDel] at h ⊢
  generalize opSetDel Hs blankRootHash w.tries[i]! key val (w.opSt i) = q at h ⊢
  obtain ⟨st', r⟩ := q
  cases r with
  | ok T' => simp at h
  | error x =>
    cases h
    exact ⟨rfl, rfl⟩

/-! ### the commit loop without write faults -/

theorem World.batchEnd_false_eq (w : World) (b : Batch) (hb : w.batch = some b) (hfa : w.failAfter = none) :
    w.batchEnd false =
      (.ok (), { w with base := (commitLoop (w.tries[b.outer]!).prune b.cache w.base none).2.1,
                        failAfter := none, batch := none,
                        tries := w.tries.set! b.outer
                          { tree := b.trie.tree, root := b.trie.root, prune := (w.tries[b.outer]!).prune },
                        counts := if (w.tries[b.outer]!).prune then w.counts.set! b.outer b.counts else w.counts }) := by
  obtain ⟨h1, h2⟩ := commitLoop_none (w.tries[b.outer]!).prune b.cache w.base
  simp only [World.batchEnd, hb, Bool.false_eq_true, ↓reduceIte, hfa]
  generalize commitLoop (w.tries[b.outer]!).prune b.cache w.base none = q at h1 h2 ⊢
  obtain ⟨ok, base', fa'⟩ := q
  simp only at h1 h2
  subst h1 h2
  simp only [↓reduceIte]

theorem World.batchEnd_true_eq (w : World) (b : Batch) (hb : w.batch = some b) :
    w.batchEnd true = (.ok (), { w with batch := none }) := by
  simp [World.batchEnd, hb]

/-! ### a complete database holds every live hash as a key -/

theorem sumCh_pos' {f : Nib → Nat} (h : 0 < sumCh f) : ∃ i, 0 < f i :=
  Classical.byContradiction fun hn => by
    have : f = fun _ => 0 := funext fun i => by
      have : ¬ 0 < f i := fun hi => hn ⟨i, hi⟩
      omega
    rw [this, sumCh_zero] at h
    exact absurd h (by decide)

theorem storedBelow_occ_contains (d : Dict Bytes) (t : Node) (hr : StoredBelow Hs d t) (h : Hash)
    (hp : 0 < occProper Hs t h) : Dict.contains d h = true := by
  -- a referenced child is stored itself when its own hash is `h`, and stores what is below it otherwise
  have hchild : ∀ c, (StoredBelow Hs d c → 0 < occProper Hs c h → Dict.contains d h = true) → Ref Hs d c →
      0 < occ Hs c h → Dict.contains d h = true := by
    intro c ih hc hpc
    rw [occ_eq] at hpc
    by_cases hs : 0 < self Hs c h
    · unfold self at hs
      split at hs
      · next hh => rw [← hh.2]; exact contains_of_get? (hc.1 hh.1)
      · cases hs
    · exact ih hc.2 (by omega)
  induction t with
  | blank => cases hp
  | leaf p v => cases hp
  | ext p c ih => exact hchild c ih hr hp
  | branch ch v ih =>
    obtain ⟨i, hi⟩ := sumCh_pos' (f := fun i => occ Hs (ch i) h) hp
    exact hchild (ch i) (ih i) (hr i) hi

theorem complete_keys' (d : Dict Bytes) (T : TrieSt) (hc : Complete Hs blankRootHash d T) (h : Hash)
    (hp : 0 < occRoot Hs T.tree h) : Dict.contains d h = true := by
  unfold occRoot at hp
  by_cases hpp : 0 < occProper Hs T.tree h
  · exact storedBelow_occ_contains Hs d T.tree hc.2 h hpp
  · split at hp
    · next hb =>
      have h1 := hc.1
      simp only [hb.1, Bool.false_eq_true, ↓reduceIte] at h1
      rw [← hb.2, ← h1.1]
      exact contains_of_get? h1.2.2
    · omega

end PyTrie.HexW
