import PyTrie.Lemmas.FreeView
import PyTrie.Lemmas.HistoryAux
/-! **Whole histories with `squash_changes` blocks: the tree-free world and the tree-carrying world stay in lockstep.**
    A history is a list of direct `set` / `delete` calls and of blocks (`with trie.squash_changes() as b:` — a list of calls
    on the batch trie, left normally or by an exception). `runW` runs it in the tree-carrying `World`
    (`Model/HexWorld.lean`), `runF` in the tree-free `FWorld` (`Model/HexFree.lean`: root hashes, a `ScratchDB` view, the
    raw-level `_set` / `_delete`). `Good` collects the run-level premises of every call executed along the run (no hash
    collision among the data the run touches; the two physical side conditions; the call succeeds). Under `Good`, both runs
    return the same outcomes call by call and end in `Sim`-related worlds: same database, same root, same reference
    counts. Everything proved about `World` histories is thereby a statement about the tree-free transcription.
    `Tracks` says of a step, and of a run, all at once: the between-steps invariant holds again, what became of the outer
    tree, and that the tree-free world follows. It is proved per kind of step (`op_outer`, `op_batch`, `inner_run` underneath)
    and composed along the run; the histories with failing steps (`Props/HistoryFailCommit.lean`, `Props/HistoryFailOp.lean`)
    add their kinds of step and compose again. -/
namespace PyTrie.HexFree
open PyTrie PyTrie.Hex PyTrie.HexD PyTrie.HexW PyTrie.HexRaw PyTrie.HexRawT

variable (H : Bytes → Bytes)

inductive HStep where
  | op (key : Bytes) (val : Option Bytes)
  | block (inner : List (Bytes × Option Bytes)) (raised : Bool)

/-- the calls of a block on the batch trie, in order; outcomes collected -/
def innerW (w : World) : List (Bytes × Option Bytes) → List (Except Exn Unit) × World
  | [] => ([], w)
  | (k, v) :: rest =>
    let (r, w') := w.setDel (stdHashing H) (blankRoot H) .batch k v
    let (rs, w'') := innerW w' rest
    (r :: rs, w'')

def innerF (fw : FWorld) : List (Bytes × Option Bytes) → List (Except Exn Unit) × FWorld
  | [] => ([], fw)
  | (k, v) :: rest =>
    let (r, fw') := fw.setDel H true k v
    let (rs, fw'') := innerF fw' rest
    (r :: rs, fw'')

def stepW (w : World) : HStep → List (Except Exn Unit) × World
  | .op k v => let (r, w') := w.setDel (stdHashing H) (blankRoot H) (.trie 0) k v; ([r], w')
  | .block inner raised =>
    let (rs, w1) := innerW H (w.batchBegin 0) inner
    let (r, w2) := w1.batchEnd raised
    (rs ++ [r], w2)

def stepF (fw : FWorld) : HStep → List (Except Exn Unit) × FWorld
  | .op k v => let (r, fw') := fw.setDel H false k v; ([r], fw')
  | .block inner raised =>
    let (rs, f1) := innerF H fw.batchBegin inner
    let (r, f2) := f1.batchEnd raised
    (rs ++ [r], f2)

def runW (w : World) : List HStep → List (Except Exn Unit) × World
  | [] => ([], w)
  | s :: rest => let (a, w') := stepW H w s; let (b, w'') := runW w' rest; (a ++ b, w'')

def runF (fw : FWorld) : List HStep → List (Except Exn Unit) × FWorld
  | [] => ([], fw)
  | s :: rest => let (a, f') := stepF H fw s; let (b, f'') := runF f' rest; (a ++ b, f'')

/-- run-level premises of one `set` / `delete` call on trie `T` in operation state `s` (it reads through `s.store`): no collision among the data it
    touches, the two physical side conditions on what it reads, and it returns normally -/
def GoodCall (T : TrieSt) (s : OpSt) (k : Bytes) (v : Option Bytes) : Prop :=
  RefSound (stdHashing H) T.tree (nibs k) ∧
  (isBlank (opTree (stdHashing H) T k v).1 = false → hashOf H (opTree (stdHashing H) T k v).1 ≠ blankRoot H) ∧
  NoClobber (storeDb s.store) (opWrites (stdHashing H) T k v) ∧
  Dict.get? (storeDb s.store) (blankRoot H) = none ∧
  (∀ h b, Dict.get? (storeDb s.store) h = some b → b.length < 2 ^ 64) ∧
  ∃ T', (opSetDel (stdHashing H) (blankRoot H) T k v s).2 = .ok T'

/-- the premises of every call of a block, along the block -/
def GoodInner : World → List (Bytes × Option Bytes) → Prop
  | _, [] => True
  | w, (k, v) :: rest =>
    (match w.batch with
     | some b => GoodCall H b.trie (w.batchOpSt b) k v
     | none => False) ∧
    GoodInner (w.setDel (stdHashing H) (blankRoot H) .batch k v).2 rest

/-- the premises of every call of a history, along the run of the tree-carrying world -/
def Good : World → List HStep → Prop
  | _, [] => True
  | w, .op k v :: rest =>
    GoodCall H w.tries[0]! (w.opSt 0) k v ∧ Good (stepW H w (.op k v)).2 rest
  | w, .block inner raised :: rest =>
    GoodInner H (w.batchBegin 0) inner ∧ Good (stepW H w (.block inner raised)).2 rest

/-- the fresh tree-carrying world with one trie -/
def freshW (prune : Bool) : World := ((({} : World).newTrie (blankRoot H) prune).1)

/-! ### the invariant of the tree-carrying world between steps, and inside an open block -/

/-- between steps (no block open): one trie over a plain dict without injected faults, canonical tree, database complete
    for its root, and — for a pruning trie — the exact-pruning invariant -/
structure WInv (prune : Bool) (w : World) : Prop where
  tsz : w.tries.size = 1
  csz : w.counts.size = 1
  nb : w.batch = none
  fa : w.failAfter = none
  pr : (w.tries[0]!).prune = prune
  canon : Canon (w.tries[0]!).tree
  comp : Complete (stdHashing H) (blankRoot H) w.base (w.tries[0]!)
  pinv : prune = true → PruneInv (stdHashing H) (blankRoot H) (w.tries[0]!) (w.opSt 0)

/-- inside a block opened on the world `w0`: the outer part is as in `w0`; the batch trie is canonical, its view is
    complete for its root, and the block invariant of the outer trie's mode holds -/
structure BInv (prune : Bool) (w0 w : World) : Prop where
  base : w.base = w0.base
  fa : w.failAfter = none
  tries : w.tries = w0.tries
  counts : w.counts = w0.counts
  blk : ∃ b, w.batch = some b ∧ b.outer = 0 ∧ Canon b.trie.tree ∧
    Complete (stdHashing H) (blankRoot H) (storeDb (w.batchOpSt b).store) b.trie ∧
    (prune = true → PruneInvV (stdHashing H) (blankRoot H) b.trie (w.batchOpSt b)) ∧
    (prune = false → BatchInvNP (stdHashing H) (blankRoot H) w0.base b.trie (w.batchOpSt b) ∧
      CacheConsistent (w.batchOpSt b).store)

/-- the tree-level effect of one call (`set k b""` deletes, as in `HexaryTrie.set`) -/
def opNode (t : Node) (kv : Bytes × Option Bytes) : Node :=
  match kv.2 with
  | some v => if v = [] then Hex.delete t (nibs kv.1) else Hex.set t (nibs kv.1) v
  | none => Hex.delete t (nibs kv.1)

/-- the tree-level effect of one step: a direct call, a committed block (its calls), an aborted block (nothing) -/
def stepNode (t : Node) : HStep → Node
  | .op k v => opNode t (k, v)
  | .block inner false => inner.foldl opNode t
  | .block _ true => t

theorem outcome_eq (a b : Except Exn Unit)
    (h : match a, b with
      | .ok _, .ok _ => True
      | .error e, .error e' => e = e'
      | _, _ => False) : a = b := by
  cases a with
  | ok x => cases b with
    | ok y => rfl
    | error e => exact h.elim
  | error e => cases b with
    | ok y => exact h.elim
    | error e' => simp only at h; rw [h]

theorem snoc_congr {α} {a b : List α} {x y : α} (h₁ : a = b) (h₂ : x = y) : a ++ [x] = b ++ [y] := h₁ ▸ h₂ ▸ rfl

theorem canon_opNode (t : Node) (kv : Bytes × Option Bytes) (hc : Canon t) : Canon (opNode t kv) := by
  unfold opNode
  split
  · split
    · exact canon_delete _ _ hc
    · next hne => exact canon_set _ _ _ hne hc
  · exact canon_delete _ _ hc

theorem opSt_eq (w : World) (s : OpSt) (hb : w.base = s.store.base) (hf : w.failAfter = s.store.failAfter)
    (hc : w.counts[0]! = s.counts) (hcache : s.store.cache = none) (hp : s.pending = []) : w.opSt 0 = s := by
  obtain ⟨⟨sb, sc, sf⟩, cn, pd⟩ := s
  simp only at hb hf hc hcache hp
  subst hcache hp
  unfold World.opSt
  rw [hb, hf, hc]

theorem winv_fresh (prune : Bool) : WInv H prune (freshW H prune) := by
  refine ⟨rfl, rfl, rfl, rfl, rfl, trivial, ⟨by simp [freshW, World.newTrie, isBlank], trivial⟩, ?_⟩
  intro hp
  subst hp
  exact pruneInv_init (stdHashing H) (blankRoot H)

theorem sim_fresh (prune : Bool) : Sim (FWorld.init H prune) (freshW H prune) :=
  ⟨rfl, rfl, rfl, rfl, rfl, rfl, trivial⟩

/-- **a direct `set` / `delete` whose writes collide with nothing** returns normally, keeps the between-steps invariant,
    applies the tree-level operation to the outer tree and, on a non-pruning trie, loses no binding of the database -/
theorem op_outer (prune : Bool) (w : World) (hinv : WInv H prune w) (k : Bytes) (v : Option Bytes)
    (hrs : RefSound (stdHashing H) (w.tries[0]!).tree (nibs k))
    (hbl : isBlank (opTree (stdHashing H) w.tries[0]! k v).1 = false →
      hashOf H (opTree (stdHashing H) w.tries[0]! k v).1 ≠ blankRoot H)
    (hnc : NoClobber w.base (opWrites (stdHashing H) w.tries[0]! k v)) :
    (∃ T', (opSetDel (stdHashing H) (blankRoot H) w.tries[0]! k v (w.opSt 0)).2 = .ok T') ∧
    (w.setDel (stdHashing H) (blankRoot H) (.trie 0) k v).1 = .ok () ∧
    WInv H prune (w.setDel (stdHashing H) (blankRoot H) (.trie 0) k v).2 ∧
    ((w.setDel (stdHashing H) (blankRoot H) (.trie 0) k v).2.tries[0]!).tree = opNode (w.tries[0]!).tree (k, v) ∧
    (prune = false → Preserved w.base (w.setDel (stdHashing H) (blankRoot H) (.trie 0) k v).2.base) := by
  have hfa0 : (w.opSt 0).store.failAfter = none := hinv.fa
  have hfa' := failAfter_none_preserved (stdHashing H) (blankRoot H) w.tries[0]! k v (w.opSt 0) hfa0
  have hset := World.setDel_trie_ok (stdHashing H) (blankRoot H) w 0 k v
  generalize hq : opSetDel (stdHashing H) (blankRoot H) w.tries[0]! k v (w.opSt 0) = q at hfa' hset ⊢
  -- the operation itself, from the invariant of the trie's mode
  obtain ⟨T', hok, htree, hpr, hcomp, hpi, hpres⟩ : ∃ T', q.2 = .ok T' ∧ T'.tree = opNode (w.tries[0]!).tree (k, v) ∧
      T'.prune = prune ∧ Complete (stdHashing H) (blankRoot H) q.1.store.base T' ∧
      (prune = true → PruneInv (stdHashing H) (blankRoot H) T' q.1) ∧
      (prune = false → Preserved w.base q.1.store.base) := by
    subst hq
    cases prune with
    | false =>
      obtain ⟨T', hok, htree, hpr, hpres, hcomp⟩ := opSetDel_complete (stdHashing H) (blankRoot H) w.tries[0]! hinv.pr
        hinv.canon k v (w.opSt 0) rfl hfa0 hinv.comp hrs hnc hbl
      exact ⟨T', hok, by cases v <;> exact htree, hpr, hcomp, nofun, fun _ => hpres⟩
    | true =>
      obtain ⟨T', hok, htree, hpi⟩ := opSetDel_pruneInv (stdHashing H) (blankRoot H) w.tries[0]! hinv.canon k v
        (w.opSt 0) hfa0 (hinv.pinv rfl) hrs hbl
      exact ⟨T', hok, by cases v <;> exact htree, hpi.prune, opSetDel_prune_complete (stdHashing H) (blankRoot H)
        w.tries[0]! hinv.canon k v (w.opSt 0) hfa0 (hinv.pinv rfl) hinv.comp hrs hnc hbl T' hok, fun _ => hpi, nofun⟩
  obtain ⟨hout, hbase, hfa, htries, hcounts, hbatch⟩ := hset T' hok
  generalize (w.setDel (stdHashing H) (blankRoot H) (.trie 0) k v).2 = w' at hbase hfa htries hcounts hbatch ⊢
  obtain ⟨hts, ht0⟩ := array_set!_zero w.tries T' hinv.tsz
  obtain ⟨hcs, hc0⟩ := array_set!_zero w.counts q.1.counts hinv.csz
  rw [← htries] at hts ht0
  rw [← hcounts] at hcs hc0
  refine ⟨⟨T', hok⟩, hout, ⟨hts, hcs, hbatch.trans hinv.nb, hfa.trans hfa', ?_, ?_, ?_, fun hp => ?_⟩, by rw [ht0, htree],
    fun hp => hbase ▸ hpres hp⟩
  · rw [ht0]; exact hpr
  · rw [ht0, htree]; exact canon_opNode _ _ hinv.canon
  · rw [ht0, hbase]; exact hcomp
  · rw [ht0, opSt_eq w' _ hbase hfa hc0 (hpi hp).plain (hpi hp).pending]; exact hpi hp

theorem binv_begin (prune : Bool) (w : World) (hinv : WInv H prune w) : BInv H prune w (w.batchBegin 0) := by
  refine ⟨rfl, hinv.fa, rfl, rfl, _, rfl, rfl, hinv.canon, ?_, ?_, ?_⟩
  · show Complete (stdHashing H) (blankRoot H) w.base _
    exact hinv.comp
  · intro hp
    obtain ⟨b, hb, _, _, hpv⟩ := batchBegin_pruneInvV (stdHashing H) (blankRoot H) w 0 (by rw [hinv.tsz]; decide) hinv.nb
      (hinv.pinv hp)
    simp only [World.batchBegin, Option.some.injEq] at hb
    subst hb
    exact hpv
  · intro hp
    have hpr : (w.tries[0]!).prune = false := hinv.pr.trans hp
    have h1 := batchInvNP_begin (stdHashing H) (blankRoot H) w.base w.tries[0]!
      (complete_root (stdHashing H) (blankRoot H) w.base _ hinv.comp)
      (complete_keys' (stdHashing H) (blankRoot H) w.base _ hinv.comp) w.failAfter
    have h2 := cacheConsistent_begin w.base w.failAfter
    simp only [World.batchBegin, World.batchOpSt, hpr, Bool.false_eq_true, if_false]
    exact ⟨h1, h2⟩

theorem BInv.view {prune : Bool} {w0 w : World} (hinv : BInv H prune w0 w) (b : Batch) (hb : w.batch = some b) :
    Canon b.trie.tree ∧ Complete (stdHashing H) (blankRoot H) (storeDb (w.batchOpSt b).store) b.trie ∧
    NoDupKeys b.cache := by
  obtain ⟨b0, hb0, _, hcan, hcomp, hpv, hnp⟩ := hinv.blk
  rw [hb] at hb0
  cases hb0
  refine ⟨hcan, hcomp, ?_⟩
  cases prune with
  | true => exact (hpv rfl).cacheNoDup b.cache rfl
  | false =>
    obtain ⟨c, hc, hn⟩ := (hnp rfl).1.cached
    simp only [World.batchOpSt, Option.some.injEq] at hc
    exact hc ▸ hn

/-- **a `set` / `delete` on the batch trie whose writes collide with nothing** returns normally, keeps the block invariant
    and applies the tree-level operation to the batch tree -/
theorem op_batch (prune : Bool) (w0 w : World) (hinv : BInv H prune w0 w) (b : Batch) (hb : w.batch = some b)
    (k : Bytes) (v : Option Bytes)
    (hrs : RefSound (stdHashing H) b.trie.tree (nibs k))
    (hbl : isBlank (opTree (stdHashing H) b.trie k v).1 = false →
      hashOf H (opTree (stdHashing H) b.trie k v).1 ≠ blankRoot H)
    (hnc : NoClobber (storeDb (w.batchOpSt b).store) (opWrites (stdHashing H) b.trie k v)) :
    (∃ T', (opSetDel (stdHashing H) (blankRoot H) b.trie k v (w.batchOpSt b)).2 = .ok T') ∧
    (w.setDel (stdHashing H) (blankRoot H) .batch k v).1 = .ok () ∧
    BInv H prune w0 (w.setDel (stdHashing H) (blankRoot H) .batch k v).2 ∧
    ∃ b', (w.setDel (stdHashing H) (blankRoot H) .batch k v).2.batch = some b' ∧
      b'.trie.tree = opNode b.trie.tree (k, v) := by
  obtain ⟨hbase0, hfa0, htries0, hcounts0, b0, hb0, hbo, hcan, hcomp, hpv, hnp⟩ := hinv
  rw [hb] at hb0
  cases hb0
  have hfas : (w.batchOpSt b).store.failAfter = none := hfa0
  have hset := World.setDel_batch_ok (stdHashing H) (blankRoot H) w b hb k v
  generalize hq : opSetDel (stdHashing H) (blankRoot H) b.trie k v (w.batchOpSt b) = q at hset ⊢
  -- the operation itself, from the block invariant of the outer trie's mode
  obtain ⟨T', hok, htree, hcomp', hpv', hnp'⟩ : ∃ T', q.2 = .ok T' ∧ T'.tree = opNode b.trie.tree (k, v) ∧
      Complete (stdHashing H) (blankRoot H) (storeDb q.1.store) T' ∧
      (prune = true → PruneInvV (stdHashing H) (blankRoot H) T' q.1) ∧
      (prune = false → BatchInvNP (stdHashing H) (blankRoot H) w0.base T' q.1 ∧ CacheConsistent q.1.store) := by
    subst hq
    have htree : (opTree (stdHashing H) b.trie k v).1 = opNode b.trie.tree (k, v) := by
      rw [opTree_fst_p (stdHashing H) b.trie hcan k v hrs]; rfl
    cases prune with
    | true =>
      obtain ⟨T', hok, ht, hpi, _⟩ := opSetDel_pruneInvV (stdHashing H) (blankRoot H) b.trie hcan k v (w.batchOpSt b) hfas
        (hpv rfl) hrs hbl
      exact ⟨T', hok, ht.trans htree, opSetDel_prune_complete_view (stdHashing H) (blankRoot H) b.trie hcan k v
        (w.batchOpSt b) hfas (hpv rfl) hcomp hrs hnc hbl T' hok, fun _ => hpi, nofun⟩
    | false =>
      obtain ⟨T', hok, ht, hpi⟩ := opSetDel_batchInvNP (stdHashing H) (blankRoot H) w0.base b.trie hcan k v
        (w.batchOpSt b) (hnp rfl).1 hrs hbl
      obtain ⟨hc', hcons'⟩ := opSetDel_np_complete_view (stdHashing H) (blankRoot H) w0.base b.trie hcan k v
        (w.batchOpSt b) (hnp rfl).1 (hnp rfl).2 hcomp hrs hnc hbl T' hok
      exact ⟨T', hok, ht.trans htree, hc', nofun, fun _ => ⟨hpi, hcons'⟩⟩
  obtain ⟨hout, hbase, hfa, htries, hcounts, b', hb', hbo', hbt', hop'⟩ := hset T' hok
  rw [← hop', ← hbt'] at hcomp' hpv' hnp'
  refine ⟨⟨T', hok⟩, hout, ⟨hbase.trans hbase0, hfa.trans hfa0, htries.trans htries0, hcounts.trans hcounts0, b', hb',
    hbo'.trans hbo, ?_, hcomp', hpv', hnp'⟩, b', hb', by rw [hbt', htree]⟩
  rw [hbt', htree]
  exact canon_opNode _ _ hcan

/-- the between-steps invariant survives a change of the database that loses no binding — for a pruning trie, that
    changes nothing — and leaves the trie and its counts alone -/
theorem winv_congr (prune : Bool) (w w' : World) (h : WInv H prune w) (ht : w'.tries = w.tries)
    (hc : w'.counts = w.counts) (hn : w'.batch = none) (hf : w'.failAfter = none)
    (hp : Preserved w.base w'.base) (hb : prune = true → w'.base = w.base) : WInv H prune w' := by
  refine ⟨ht ▸ h.tsz, hc ▸ h.csz, hn, hf, ht ▸ h.pr, ht ▸ h.canon,
    ht ▸ complete_mono (stdHashing H) (blankRoot H) _ _ hp _ h.comp, fun hpt => ?_⟩
  have hop : w'.opSt 0 = w.opSt 0 := by unfold World.opSt; rw [hb hpt, hf, h.fa, hc]
  rw [ht, hop]
  exact h.pinv hpt

theorem winv_end (prune : Bool) (w0 w : World) (h0 : WInv H prune w0) (hinv : BInv H prune w0 w) (raised : Bool) :
    WInv H prune (w.batchEnd raised).2 ∧ (prune = false → Preserved w0.base (w.batchEnd raised).2.base) := by
  obtain ⟨hbase0, hfa0, htries0, hcounts0, b, hb, hbo, hcan, hcomp, hpv, hnp⟩ := hinv
  cases raised with
  | true =>
    rw [World.batchEnd_true_eq w b hb]
    have hp : Preserved w0.base w.base := hbase0 ▸ fun _ _ h => h
    exact ⟨winv_congr H prune w0 _ h0 htries0 hcounts0 rfl hfa0 hp fun _ => hbase0, fun _ => hp⟩
  | false =>
    obtain ⟨bo, bc, bt, bn⟩ := b
    simp only at hbo
    subst hbo
    have hts : w.tries.size = 1 := htries0 ▸ h0.tsz
    have hcs : w.counts.size = 1 := hcounts0 ▸ h0.csz
    have hpr : (w.tries[0]!).prune = prune := by rw [htries0]; exact h0.pr
    have hT := array_set!_zero w.tries ⟨bt.tree, bt.root, prune⟩ hts
    have heq := World.batchEnd_false_eq w _ hb hfa0
    simp only [hpr] at heq
    cases prune with
    | true =>
      have hi : 0 < w.tries.size := by rw [hts]; exact Nat.zero_lt_one
      have hic : 0 < w.counts.size := by rw [hcs]; exact Nat.zero_lt_one
      obtain ⟨_, _, _, _, hpi⟩ := batchEnd_pruneInv (stdHashing H) (blankRoot H) w _ hb hi hic hpr hfa0 (hpv rfl)
      have h2 := batchEnd_complete (stdHashing H) (blankRoot H) w _ hb hi hpr hfa0 (hpv rfl) hcomp
      rw [heq] at hpi h2 ⊢
      exact ⟨⟨hT.1, (array_set!_zero _ _ hcs).1, rfl, rfl, hpi.prune, by rw [hT.2]; exact hcan, h2, fun _ => hpi⟩, nofun⟩
    | false =>
      obtain ⟨hc1, hc2⟩ := commit_np_complete (stdHashing H) (blankRoot H) w0.base bt (w.batchOpSt ⟨0, bc, bt, bn⟩)
        (hnp rfl).1 (hnp rfl).2 bc rfl hcomp
      rw [heq]
      refine ⟨⟨hT.1, hcs, rfl, rfl, ?_, ?_, ?_, nofun⟩, fun _ => hbase0 ▸ hc2⟩
      · show ((w.tries.set! 0 _)[0]!).prune = false
        rw [hT.2]
      · show Canon ((w.tries.set! 0 _)[0]!).tree
        rw [hT.2]; exact hcan
      · show Complete _ _ _ ((w.tries.set! 0 _)[0]!)
        rw [hT.2, hbase0]; exact hc1

theorem tree_end (prune : Bool) (w0 w : World) (h0 : WInv H prune w0) (hinv : BInv H prune w0 w) (b : Batch)
    (hb : w.batch = some b) (raised : Bool) :
    ((w.batchEnd raised).2.tries[0]!).tree = if raised then (w0.tries[0]!).tree else b.trie.tree := by
  obtain ⟨hbase0, hfa0, htries0, hcounts0, b0, hb0, hbo, _⟩ := hinv
  rw [hb] at hb0
  cases hb0
  cases raised with
  | true =>
    rw [World.batchEnd_true_eq w b hb]
    simp only [if_true]
    rw [htries0]
  | false =>
    have hts : w.tries.size = 1 := by rw [htries0]; exact h0.tsz
    rw [World.batchEnd_false_eq w b hb hfa0]
    simp only [Bool.false_eq_true, if_false, hbo]
    rw [(array_set!_zero _ _ hts).2]

theorem innerW_cons (w : World) (k : Bytes) (v : Option Bytes) (rest : List (Bytes × Option Bytes)) :
    innerW H w ((k, v) :: rest) =
      ((w.setDel (stdHashing H) (blankRoot H) .batch k v).1 ::
        (innerW H (w.setDel (stdHashing H) (blankRoot H) .batch k v).2 rest).1,
       (innerW H (w.setDel (stdHashing H) (blankRoot H) .batch k v).2 rest).2) := by
  simp only [innerW]

theorem innerF_cons (fw : FWorld) (k : Bytes) (v : Option Bytes) (rest : List (Bytes × Option Bytes)) :
    innerF H fw ((k, v) :: rest) =
      ((fw.setDel H true k v).1 :: (innerF H (fw.setDel H true k v).2 rest).1,
       (innerF H (fw.setDel H true k v).2 rest).2) := by
  simp only [innerF]

theorem stepW_op (w : World) (k : Bytes) (v : Option Bytes) :
    stepW H w (.op k v) = ([(w.setDel (stdHashing H) (blankRoot H) (.trie 0) k v).1],
      (w.setDel (stdHashing H) (blankRoot H) (.trie 0) k v).2) := by
  simp only [stepW]

theorem stepF_op (fw : FWorld) (k : Bytes) (v : Option Bytes) :
    stepF H fw (.op k v) = ([(fw.setDel H false k v).1], (fw.setDel H false k v).2) := by
  simp only [stepF]

theorem stepW_block (w : World) (inner : List (Bytes × Option Bytes)) (raised : Bool) :
    stepW H w (.block inner raised) =
      ((innerW H (w.batchBegin 0) inner).1 ++ [((innerW H (w.batchBegin 0) inner).2.batchEnd raised).1],
       ((innerW H (w.batchBegin 0) inner).2.batchEnd raised).2) := by
  simp only [stepW]

theorem stepF_block (fw : FWorld) (inner : List (Bytes × Option Bytes)) (raised : Bool) :
    stepF H fw (.block inner raised) =
      ((innerF H fw.batchBegin inner).1 ++ [((innerF H fw.batchBegin inner).2.batchEnd raised).1],
       ((innerF H fw.batchBegin inner).2.batchEnd raised).2) := by
  simp only [stepF]

theorem runW_cons (w : World) (s : HStep) (rest : List HStep) :
    runW H w (s :: rest) = ((stepW H w s).1 ++ (runW H (stepW H w s).2 rest).1, (runW H (stepW H w s).2 rest).2) := by
  simp only [runW]

theorem runF_cons (fw : FWorld) (s : HStep) (rest : List HStep) :
    runF H fw (s :: rest) = ((stepF H fw s).1 ++ (runF H (stepF H fw s).2 rest).1, (runF H (stepF H fw s).2 rest).2) := by
  simp only [runF]

/-! ### what a run does, in both worlds -/

/-- `rW` — outcomes and final world of some steps run from `w` — and `rF` — the same steps in the tree-free world — act as
    `f` on the outer tree: the between-steps invariant holds again, the outer tree is `f` of the outer tree of `w`, and (for a
    hash of 32 bytes) the tree-free world, started `Sim`-related to `w`, returns the same outcomes and ends `Sim`-related -/
structure Tracks (prune : Bool) (w : World) (f : Node → Node) (rW : List (Except Exn Unit) × World)
    (rF : FWorld → List (Except Exn Unit) × FWorld) : Prop where
  inv : WInv H prune rW.2
  tree : (rW.2.tries[0]!).tree = f (w.tries[0]!).tree
  sim : (∀ b, (H b).length = 32) → ∀ fw, Sim fw w → (rF fw).1 = rW.1 ∧ Sim (rF fw).2 rW.2

variable {H}

theorem Tracks.refl {prune : Bool} {w : World} (h : WInv H prune w) :
    Tracks H prune w (fun t => t) ([], w) (fun fw => ([], fw)) :=
  ⟨h, rfl, fun _ _ hs => ⟨rfl, hs⟩⟩

theorem Tracks.comp {prune : Bool} {w : World} {f₁ f₂ : Node → Node} {r₁ r₂ : List (Except Exn Unit) × World}
    {g₁ g₂ : FWorld → List (Except Exn Unit) × FWorld}
    (h₁ : Tracks H prune w f₁ r₁ g₁) (h₂ : Tracks H prune r₁.2 f₂ r₂ g₂) :
    Tracks H prune w (fun t => f₂ (f₁ t)) (r₁.1 ++ r₂.1, r₂.2)
      (fun fw => ((g₁ fw).1 ++ (g₂ (g₁ fw).2).1, (g₂ (g₁ fw).2).2)) := by
  refine ⟨h₂.inv, by rw [h₂.tree, h₁.tree], fun hlen fw hs => ?_⟩
  obtain ⟨a, b⟩ := h₁.sim hlen fw hs
  obtain ⟨c, d⟩ := h₂.sim hlen _ b
  exact ⟨by rw [a, c], d⟩

theorem Tracks.congr {prune : Bool} {w : World} {f f' : Node → Node} {rW : List (Except Exn Unit) × World}
    {rF : FWorld → List (Except Exn Unit) × FWorld} (h : Tracks H prune w f rW rF) (hf : ∀ t, f t = f' t) :
    Tracks H prune w f' rW rF :=
  (funext hf : f = f') ▸ h

variable (H)

theorem inner_run (prune : Bool) (w0 : World) (inner : List (Bytes × Option Bytes)) :
    ∀ (w : World) (b : Batch), BInv H prune w0 w → w.batch = some b → GoodInner H w inner →
      BInv H prune w0 (innerW H w inner).2 ∧
      (∃ b', (innerW H w inner).2.batch = some b' ∧ b'.trie.tree = inner.foldl opNode b.trie.tree) ∧
      ((∀ x, (H x).length = 32) → ∀ fw, Sim fw w →
        (innerF H fw inner).1 = (innerW H w inner).1 ∧ Sim (innerF H fw inner).2 (innerW H w inner).2) := by
  induction inner with
  | nil => intro w b hb hwb _; exact ⟨hb, ⟨b, hwb, rfl⟩, fun _ _ hs => ⟨rfl, hs⟩⟩
  | cons kv rest ih =>
    obtain ⟨k, v⟩ := kv
    intro w b hb hwb hg
    obtain ⟨hg1, hg2⟩ := hg
    rw [hwb] at hg1
    simp only at hg1
    obtain ⟨_, _, hb', b1, hwb1, ht1⟩ := op_batch H prune w0 w hb b hwb k v hg1.1 hg1.2.1 hg1.2.2.1
    obtain ⟨i1, ⟨b2, i2, i3⟩, i4⟩ := ih _ b1 hb' hwb1 hg2
    rw [innerW_cons]
    refine ⟨i1, ⟨b2, i2, by rw [i3, ht1]; rfl⟩, fun hlen fw hs => ?_⟩
    obtain ⟨hcan, hcomp, hnd⟩ := hb.view H b hwb
    obtain ⟨ho, hs'⟩ := sim_setDel_batch H hlen fw w hs b hwb hnd k v hcan hcomp hg1.2.2.2.1 hg1.2.2.2.2.1
    obtain ⟨j1, j2⟩ := i4 hlen _ hs'
    rw [innerF_cons]
    exact ⟨by rw [outcome_eq _ _ ho, j1], j2⟩

theorem stepW_tracks (prune : Bool) (w : World) (hinv : WInv H prune w) (s : HStep) (rest : List HStep)
    (hg : Good H w (s :: rest)) :
    Good H (stepW H w s).2 rest ∧
    Tracks H prune w (fun t => stepNode t s) (stepW H w s) (fun fw => stepF H fw s) := by
  cases s with
  | op k v =>
    obtain ⟨hg1, hg2⟩ := hg
    obtain ⟨_, _, hw, ht, _⟩ := op_outer H prune w hinv k v hg1.1 hg1.2.1 hg1.2.2.1
    simp only [stepW_op, stepF_op] at hg2 ⊢
    refine ⟨hg2, hw, ht, fun hlen fw hs => ?_⟩
    obtain ⟨ho, hs'⟩ := sim_setDel_outer H hlen fw w hs k v hinv.canon hinv.comp hg1.2.2.2.1 hg1.2.2.2.2.1
    exact ⟨congrArg (fun x => [x]) (outcome_eq _ _ ho), hs'⟩
  | block inner raised =>
    obtain ⟨hg1, hg2⟩ := hg
    obtain ⟨i1, ⟨b', i2, i3⟩, i4⟩ := inner_run H prune w inner _ _ (binv_begin H prune w hinv) rfl hg1
    simp only [stepW_block, stepF_block] at hg2 ⊢
    refine ⟨hg2, (winv_end H prune w _ hinv i1 raised).1, ?_, fun hlen fw hs => ?_⟩
    · rw [tree_end H prune w _ hinv i1 b' i2 raised, i3]
      cases raised <;> rfl
    · obtain ⟨j1, j2⟩ := i4 hlen _ (sim_batchBegin fw w hs hinv.nb)
      obtain ⟨e1, e2⟩ := sim_batchEnd _ _ j2 raised
      exact ⟨snoc_congr j1 e1, e2⟩

theorem runW_tracks (prune : Bool) (steps : List HStep) :
    ∀ w : World, WInv H prune w → Good H w steps →
      Tracks H prune w (fun t => steps.foldl stepNode t) (runW H w steps) (fun fw => runF H fw steps) := by
  induction steps with
  | nil => exact fun w h _ => .refl h
  | cons s rest ih =>
    intro w hinv hg
    obtain ⟨hg', h1⟩ := stepW_tracks H prune w hinv s rest hg
    exact h1.comp (ih _ h1.inv hg')

/-- **lockstep over whole histories with blocks, pruning on or off** -/
theorem lockstep_history (hlen : ∀ b, (H b).length = 32) (prune : Bool) (steps : List HStep)
    (hgood : Good H (freshW H prune) steps) :
    (runF H (FWorld.init H prune) steps).1 = (runW H (freshW H prune) steps).1 ∧
    Sim (runF H (FWorld.init H prune) steps).2 (runW H (freshW H prune) steps).2 :=
  (runW_tracks H prune steps _ (winv_fresh H prune) hgood).sim hlen _ (sim_fresh H prune)

end PyTrie.HexFree
