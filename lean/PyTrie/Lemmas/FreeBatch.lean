import PyTrie.Model.HexFree
import PyTrie.Props.C05
/-! C05 for the tree-free world (`Model/HexFree.lean` `FWorld` — the transcription of `squash_changes` that is run against
    the code), first half: a `set` / `delete` over a `ScratchDB` never touches the wrapped database or the fault counter,
    whatever it does. No run-level hypothesis. The statements about blocks are in `Props/FreeBatch.lean`. -/
namespace PyTrie.HexFree
open PyTrie PyTrie.Hex PyTrie.HexW PyTrie.HexRaw PyTrie.Props.C05

variable (H : Bytes → Bytes)

/-- every step of `freeCore` leaves the store alone, performs one write or (pruning) one delete: a predicate on stores
    that survives these holds at every exit -/
theorem freeCore_store_inv {P : Store → Prop} (hw : ∀ st st' h b, P st → st.write h b = some st' → P st')
    (hd : ∀ st st' h, P st → st.del h = some st' → P st') (F : Free) (key : Bytes) (val : Option Bytes) (s : OpSt)
    (hs : P s.store) : P (freeCore H F key val s).1.store := by
  unfold freeCore
  split
  · exact hs
  · exact hs
  · next rootNode _ =>
    have h1 := runEvs_store_inv F.prune F.root key (bodyT H (storeDb s.store) rootNode key val).1.evs
      (fun st st' h b _ => hw st st' h b) s hs
    dsimp only
    split
    · next he => rw [he] at h1; exact h1
    · next s1 he =>
      rw [he] at h1
      have h2 : P (schedOldRootF H F rootNode s1).store := by unfold schedOldRootF; split <;> exact h1
      split
      · exact h1
      · exact h1
      · split
        · exact h2
        · next s3 newRoot hr =>
          have h3 : P s3.store := by
            unfold writeRootF at hr
            split at hr
            · cases hr; exact h2
            · split at hr
              · next h' => cases hr; exact hw _ _ _ _ h2 (setDbValue_store h')
              · cases hr
          have h4 : P (if F.prune then completePruning s3 s3.pending else (s3, none)).1.store := by
            split
            · exact completePruning_store_inv hd _ s3 h3
            · exact h3
          split
          · next hf => rw [hf] at h4; exact h4
          · next hf => rw [hf] at h4; exact h4

/-- while the block is open the wrapped database is never written, whatever the operation does -/
theorem freeSetDel_base (F : Free) (key : Bytes) (val : Option Bytes) (s : OpSt) (hs : s.store.cache.isSome) :
    Props.C05.SameBase s (freeSetDel H F key val s).1 :=
  freeCore_store_inv H (fun _ _ _ _ hp => sameBase_write hp) (fun _ _ _ hp => sameBase_del hp) F key val
    { s with pending := [] } ⟨rfl, rfl, hs⟩

/-- a sequence of `set` / `delete` calls on the batch trie of the open block, whatever each returns or raises -/
def FWorld.batchRun (w : FWorld) (ops : List (Bytes × Option Bytes)) : FWorld :=
  ops.foldl (fun w o => (w.setDel H true o.1 o.2).2) w

end PyTrie.HexFree
