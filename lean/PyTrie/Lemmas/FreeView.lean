import PyTrie.Lemmas.FreeExec
import PyTrie.Lemmas.StoreView
import PyTrie.Lemmas.CacheNoDupPres
/-! **The tree-free world in lockstep with the tree-carrying one.** `storeDb st` is what a trie can read through its
    database object: the buffered writes of a `ScratchDB` in front of the wrapped dict. When that view is complete for
    the root of the operated trie, the tree-free `set` / `delete` returns exactly the exit state, root and exception of
    the tree-carrying executor (`freeSetDel_of_complete`); so the tree-free world (`FWorld`: one outer trie, one open
    block) moves in lockstep with the tree-carrying `World` through `setDel`, `batchBegin` and `batchEnd`. -/
namespace PyTrie.HexFree
open PyTrie PyTrie.Hex PyTrie.HexD PyTrie.HexW PyTrie.HexRaw PyTrie.HexRawT

variable (H : Bytes → Bytes)

/-- the tree-free world and the tree-carrying world describe the same situation: same database, one outer trie with the
    same root / prune flag / counts, and the same open block (cache, batch root, batch counts) -/
def Sim (fw : FWorld) (w : World) : Prop :=
  fw.base = w.base ∧ fw.failAfter = w.failAfter ∧ w.tries.size = 1 ∧ w.counts.size = 1 ∧ fw.outer = toFree w.tries[0]! ∧
  fw.counts = w.counts[0]! ∧
  (match fw.batch, w.batch with
   | none, none => True
   | some fb, some b => b.outer = 0 ∧ fb.cache = b.cache ∧ fb.trie = toFree b.trie ∧ fb.counts = b.counts
   | _, _ => False)

theorem sim_batchBegin (fw : FWorld) (w : World) (h : Sim fw w) (hb : w.batch = none) :
    Sim fw.batchBegin (w.batchBegin 0) := by
  have _ := hb
  obtain ⟨hbase, hfa, hsz, hcsz, hout, hcnt, _⟩ := h
  refine ⟨hbase, hfa, hsz, hcsz, hout, hcnt, ?_⟩
  simp only [FWorld.batchBegin, World.batchBegin]
  rw [hout, hcnt]
  exact ⟨trivial, trivial, rfl, rfl⟩

theorem sim_batchEnd (fw : FWorld) (w : World) (h : Sim fw w) (raised : Bool) :
    (fw.batchEnd raised).1 = (w.batchEnd raised).1 ∧ Sim (fw.batchEnd raised).2 (w.batchEnd raised).2 := by
  obtain ⟨hbase, hfa, hsz, hcsz, hout, hcnt, hbt⟩ := h
  unfold FWorld.batchEnd World.batchEnd
  rcases hfb : fw.batch with _ | fb <;> rcases hwb : w.batch with _ | b <;> rw [hfb, hwb] at hbt
  · exact ⟨rfl, hbase, hfa, hsz, hcsz, hout, hcnt, by simp only [hfb, hwb]⟩
  · exact hbt.elim
  · exact hbt.elim
  · obtain ⟨hbo, hbc, hbtr, hbcn⟩ := hbt
    cases raised with
    | true => exact ⟨rfl, hbase, hfa, hsz, hcsz, hout, hcnt, trivial⟩
    | false =>
      simp only [Bool.false_eq_true, if_false]
      have hpr : fw.outer.prune = w.tries[b.outer]!.prune := by rw [hbo, hout]; rfl
      rw [hpr, hbc, hbase, hfa]
      rcases hcl : commitLoop w.tries[b.outer]!.prune b.cache w.base w.failAfter with ⟨_ | _, base', fa'⟩
      · exact ⟨rfl, rfl, rfl, hsz, hcsz, hout, hcnt, trivial⟩
      · simp only [if_true, hbo]
        refine ⟨trivial, rfl, rfl, (array_set!_zero _ _ hsz).1, ?_, ?_, ?_, trivial⟩
        · split
          · exact (array_set!_zero _ _ hcsz).1
          · exact hcsz
        · rw [(array_set!_zero _ _ hsz).2, hbtr]; rfl
        · split
          · rw [(array_set!_zero _ _ hcsz).2, hbcn]
          · exact hcnt

theorem sim_noteRoot (fw : FWorld) (w : World) (T : TrieSt) (h : Sim fw w) : Sim fw (w.noteRoot T) := by
  unfold World.noteRoot
  split
  · exact h
  · exact h

theorem sim_setDel_outer (hlen : ∀ b, (H b).length = 32) (fw : FWorld) (w : World) (h : Sim fw w) (key : Bytes)
    (val : Option Bytes)
    (hc : Canon w.tries[0]!.tree)
    (hcomp : Complete (stdHashing H) (blankRoot H) (storeDb (w.opSt 0).store) w.tries[0]!)
    (hbk : Dict.get? (storeDb (w.opSt 0).store) (blankRoot H) = none)
    (hsm : ∀ x b, Dict.get? (storeDb (w.opSt 0).store) x = some b → b.length < 2 ^ 64) :
    (match (fw.setDel H false key val).1, (w.setDel (stdHashing H) (blankRoot H) (.trie 0) key val).1 with
     | .ok _, .ok _ => True
     | .error e, .error e' => e = e'
     | _, _ => False) ∧
    Sim (fw.setDel H false key val).2 (w.setDel (stdHashing H) (blankRoot H) (.trie 0) key val).2 := by
  obtain ⟨hbase, hfa, hsz, hcsz, hout, hcnt, hbt⟩ := h
  have hop : fw.opSt = w.opSt 0 := by
    unfold FWorld.opSt World.opSt; rw [hbase, hfa, hcnt]
  have hone := freeSetDel_of_complete H hlen w.tries[0]! hc key val (w.opSt 0)
    (Store.cacheNoDup_plain _ rfl) hcomp hbk hsm
  unfold FWorld.setDel World.setDel
  simp only [Bool.not_false, if_true]
  rw [hout, hop, hone]
  rcases hr : opSetDel (stdHashing H) (blankRoot H) w.tries[0]! key val (w.opSt 0) with ⟨s', e | T'⟩
  · simp only []
    refine ⟨by trivial, rfl, rfl, hsz, (array_set!_zero _ _ hcsz).1, rfl, (array_set!_zero _ _ hcsz).2.symm, hbt⟩
  · simp only []
    refine ⟨by trivial, sim_noteRoot _ _ _ ?_⟩
    exact ⟨rfl, rfl, (array_set!_zero _ _ hsz).1, (array_set!_zero _ _ hcsz).1,
      congrArg toFree (array_set!_zero _ _ hsz).2.symm, (array_set!_zero _ _ hcsz).2.symm, hbt⟩

theorem sim_setDel_batch (hlen : ∀ b, (H b).length = 32) (fw : FWorld) (w : World) (h : Sim fw w) (b : Batch)
    (hwb : w.batch = some b) (hnd : NoDupKeys b.cache) (key : Bytes) (val : Option Bytes)
    (hc : Canon b.trie.tree)
    (hcomp : Complete (stdHashing H) (blankRoot H) (storeDb (w.batchOpSt b).store) b.trie)
    (hbk : Dict.get? (storeDb (w.batchOpSt b).store) (blankRoot H) = none)
    (hsm : ∀ x b', Dict.get? (storeDb (w.batchOpSt b).store) x = some b' → b'.length < 2 ^ 64) :
    (match (fw.setDel H true key val).1, (w.setDel (stdHashing H) (blankRoot H) .batch key val).1 with
     | .ok _, .ok _ => True
     | .error e, .error e' => e = e'
     | _, _ => False) ∧
    Sim (fw.setDel H true key val).2 (w.setDel (stdHashing H) (blankRoot H) .batch key val).2 := by
  obtain ⟨hbase, hfa, hsz, hcsz, hout, hcnt, hbt⟩ := h
  cases hfb : fw.batch with
  | none => rw [hfb, hwb] at hbt; exact hbt.elim
  | some fb =>
    rw [hfb, hwb] at hbt
    obtain ⟨hbo, hbc, hbtr, hbcn⟩ := hbt
    have hop : fw.batchOpSt fb = w.batchOpSt b := by
      unfold FWorld.batchOpSt World.batchOpSt; rw [hbase, hfa, hbc, hbcn]
    have hnd' : (w.batchOpSt b).store.CacheNoDup := by
      intro c hcc
      simp only [World.batchOpSt, Option.some.injEq] at hcc
      exact hcc ▸ hnd
    have hone := freeSetDel_of_complete H hlen b.trie hc key val (w.batchOpSt b) hnd' hcomp hbk hsm
    unfold FWorld.setDel World.setDel
    simp only [Bool.not_true, Bool.false_eq_true, if_false, hfb, hwb]
    rw [hbtr, hop, hone]
    rcases hr : opSetDel (stdHashing H) (blankRoot H) b.trie key val (w.batchOpSt b) with ⟨s', e | T'⟩
    · simp only []
      refine ⟨by trivial, rfl, rfl, hsz, hcsz, hout, hcnt, ?_⟩
      exact ⟨hbo, rfl, rfl, rfl⟩
    · simp only []
      refine ⟨by trivial, sim_noteRoot _ _ _ ?_⟩
      refine ⟨rfl, rfl, hsz, hcsz, hout, hcnt, ?_⟩
      exact ⟨hbo, rfl, rfl, rfl⟩

/-- an operation on the outer trie (block open or not) or on the batch trie keeps the two worlds in step, provided the view
    the operated trie reads is complete for its root (and the two physical side conditions), and — for the batch trie —
    the `ScratchDB` cache has unique keys (`hnd`; from `World.BatchNoDup`, which `batchBegin` establishes and every
    `setDel` keeps: `Lemmas/CacheNoDupPres.lean`) -/
theorem sim_setDel (hlen : ∀ b, (H b).length = 32) (fw : FWorld) (w : World) (h : Sim fw w) (inBatch : Bool) (key : Bytes)
    (val : Option Bytes)
    (hopen : inBatch = true → w.batch.isSome)
    (hnd : inBatch = true → ∀ b, w.batch = some b → NoDupKeys b.cache)
    (hc : Canon (w.trieOf (if inBatch then .batch else .trie 0)).tree)
    (hcomp : Complete (stdHashing H) (blankRoot H)
      (storeDb (if inBatch then (w.batchOpSt (w.batch.getD ⟨0, [], default, []⟩)).store else (w.opSt 0).store))
      (w.trieOf (if inBatch then .batch else .trie 0)))
    (hbk : Dict.get? (storeDb (if inBatch then (w.batchOpSt (w.batch.getD ⟨0, [], default, []⟩)).store else (w.opSt 0).store))
      (blankRoot H) = none)
    (hsm : ∀ x b, Dict.get? (storeDb (if inBatch then (w.batchOpSt (w.batch.getD ⟨0, [], default, []⟩)).store else (w.opSt 0).store))
      x = some b → b.length < 2 ^ 64) :
    (match (fw.setDel H inBatch key val).1, (w.setDel (stdHashing H) (blankRoot H) (if inBatch then .batch else .trie 0) key val).1 with
     | .ok _, .ok _ => True
     | .error e, .error e' => e = e'
     | _, _ => False) ∧
    Sim (fw.setDel H inBatch key val).2 (w.setDel (stdHashing H) (blankRoot H) (if inBatch then .batch else .trie 0) key val).2 := by
  cases inBatch with
  | false =>
    simp only [Bool.false_eq_true, if_false] at hc hcomp hbk hsm ⊢
    exact sim_setDel_outer H hlen fw w h key val hc hcomp hbk hsm
  | true =>
    simp only [if_true] at hc hcomp hbk hsm ⊢
    cases hwb : w.batch with
    | none => have := hopen rfl; rw [hwb] at this; cases this
    | some b =>
      simp only [hwb, Option.getD_some, World.trieOf] at hc hcomp hbk hsm
      exact sim_setDel_batch H hlen fw w h b hwb (hnd rfl b hwb) key val hc hcomp hbk hsm

end PyTrie.HexFree
