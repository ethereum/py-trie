import PyTrie.Lemmas.WalkDRefines
/-! The fog-guided walk as callers run it, at raw level (`Model/WalkD.lean`: `cstepDR`, `crunDR`): root hash, database of
    encoded bodies — changing between steps —, a `TrieFrontierCache` of raw node bodies, and the caller's reaction to a stale
    cache entry (drop it, traverse from the root). Proved here: over databases that are complete for the version current at
    each step, the walk never raises; each step is the tree-level step `cstep` (after dropping the entry when the stale
    parent no longer resolves); hence it finds every stable key and meets nothing that was never stored. -/
namespace PyTrie.HexD
open PyTrie PyTrie.Hex PyTrie.Fog PyTrie.HexRaw PyTrie.Walk

variable (H : Bytes → Bytes)

theorem storedD_partialD (db : Db) (t : Node) (hs : StoredD H db t) : PartialD H db t := by
  have hc : ∀ c : Node, (isHashed H c = true → hashOf H c ≠ blankRoot H ∧ lookup db (hashOf H c) = some (enc H c) ∧
      rlpDecode (enc H c) = some (toItem H c)) → PartialC H db c := by
    intro c h hh
    obtain ⟨h1, h2, h3⟩ := h hh
    refine ⟨h1, fun b hb => ?_, h3⟩
    rw [h2] at hb
    injection hb with hb
    exact hb.symm
  induction t with
  | blank => trivial
  | leaf p v => trivial
  | ext p c ih => exact ⟨hc c hs.1, ih hs.2⟩
  | branch ch v ih => exact fun i => ⟨hc (ch i) (hs i).1, ih i (hs i).2⟩

/-- on a database that stores the current version, a step from the root (no cache entry for the prefix) never raises -/
theorem cstepD_root_complete (hlen : ∀ b, (H b).length = 32) (db : Db) (root : Hash) (t : Node) (hc : Canon t)
    (hroot : RootPartial H db root t) (hrootIn : isBlank t = false → (lookup db root).isSome) (hst : StoredD H db t)
    (s : CState) (p : Path) (hmiss : Frontier.get s.cache p = none) :
    cstepD H db root (toCD H s) p = .ok ((cstep t s p).map (toCD H)) :=
  (cstepD_sim H hlen db root t hroot (fun hb hl => by simpa [hl] using hrootIn hb) (reads_stored H hlen db)
    ⟨hc, hst⟩ s p (fun _ _ hg => by rw [hmiss] at hg; cases hg)).resolve_left fun ⟨_, _, _, h⟩ => h

theorem toCD_delete (s : CState) (p : Path) :
    ({ toCD H s with cache := Frontier.delete (toCD H s).cache p } : CStateD) =
      toCD H { s with cache := Frontier.delete s.cache p } := by
  simp only [toCD]
  exact congrArg (fun c => CStateD.mk s.fog c s.met) (mapC_delete H s.cache p)

theorem frontier_get_delete_self {α : Type} (c : Frontier α) (p : Path) :
    Frontier.get (Frontier.delete c p) p = none := by
  unfold Frontier.delete
  rw [frontier_get_erase_eq]
  simp

theorem cstepDR_complete (hlen : ∀ b, (H b).length = 32) (db : Db) (root : Hash) (t : Node) (hc : Canon t)
    (hroot : RootPartial H db root t) (hrootIn : isBlank t = false → (lookup db root).isSome) (hst : StoredD H db t)
    (s : CState) (hcache : CacheOkD H db s.cache) (p : Path) :
    ∃ s0 : CState, (s0 = s ∨ s0 = { s with cache := Frontier.delete s.cache p }) ∧
      cstepDR H db root (toCD H s) p = .ok ((cstep t s0 p).map (toCD H)) := by
  have hpd : PartialD H db t := storedD_partialD H db t hst
  unfold cstepDR
  rcases cstepD_refines H hlen db root t hc hroot hpd s hcache p with ⟨h, pre, he, _⟩ | hok
  · rw [he]
    simp only
    cases hg : Frontier.get s.cache p with
    | none =>
      have := cstepD_root_complete H hlen db root t hc hroot hrootIn hst s p hg
      rw [he] at this
      cases this
    | some e =>
      have hg' : Frontier.get (toCD H s).cache p = some (toItem H e.1, e.2) := by
        simp only [toCD, frontier_get_map, hg, Option.map_some]
      rw [hg']
      simp only
      refine ⟨{ s with cache := Frontier.delete s.cache p }, Or.inr rfl, ?_⟩
      rw [toCD_delete]
      exact cstepD_root_complete H hlen db root t hc hroot hrootIn hst _ p (frontier_get_delete_self _ p)
  · rw [hok]
    exact ⟨s, Or.inl rfl, rfl⟩

/-- a step of a schedule together with the tree the database stores at that moment -/
structure StepT where
  db : Db
  root : Hash
  t : Node
  p : Path

def StepT.toD (e : StepT) : StepD := ⟨e.db, e.root, e.p⟩

/-- the hypotheses on a schedule: each step's database is complete for the version current at that step, and stays
    partially consistent with every EARLIER version of the schedule (what `C09.earlier_versions_consistent` provides
    along every history of the executor) -/
def SchedOk (sched : List StepT) : Prop :=
  (∀ e ∈ sched, Canon e.t ∧ RootPartial H e.db e.root e.t ∧ (isBlank e.t = false → (lookup e.db e.root).isSome) ∧
      StoredD H e.db e.t) ∧
  (∀ i j (hi : i ≤ j) (hj : j < sched.length), PartialD H (sched[j]).db (sched[i]'(by omega)).t)

/-- `SchedOk` in the form that composes over `++` and passes to tails -/
def SchedOk' (sched : List StepT) : Prop :=
  (∀ e ∈ sched, Canon e.t ∧ RootPartial H e.db e.root e.t ∧ (isBlank e.t = false → (lookup e.db e.root).isSome) ∧
      StoredD H e.db e.t) ∧
  sched.Pairwise (fun e e' => PartialD H e'.db e.t)

theorem schedOk_of' (sched : List StepT) (h : SchedOk' H sched) : SchedOk H sched := by
  obtain ⟨h1, h2⟩ := h
  refine ⟨h1, ?_⟩
  intro i j hi hj
  rcases Nat.lt_or_eq_of_le hi with hlt | rfl
  · exact (List.pairwise_iff_getElem.1 h2) i j (by omega) hj hlt
  · exact storedD_partialD H _ _ (h1 _ (List.getElem_mem hj)).2.2.2

theorem schedOk'_of (sched : List StepT) (h : SchedOk H sched) : SchedOk' H sched :=
  ⟨h.1, List.pairwise_iff_getElem.2 fun i j _ hj hij => h.2 i j (by omega) hj⟩

/-- the invariant of a run at state `s` with the steps `rest` still to come, `V` being the versions of the steps already
    taken: every cached parent is canonical, partially consistent with every remaining database, and describes a
    version of `V` -/
structure RunInv (V : List Node) (rest : List StepT) (s : CState) : Prop where
  sched : SchedOk' H rest
  cacheD : CacheAll (fun _ n _ => Canon n ∧ ∀ e ∈ rest, PartialD H e.db n) s.cache
  cacheV : CacheOkV V s.cache

/-- **one step of the run**: it does not raise; it is the tree-level step on `s0` — `s` with the entry for the prefix
    possibly dropped —, hence an abstract step on a version seen; and the invariant is kept -/
theorem crunDR_step (hlen : ∀ b, (H b).length = 32) {V : List Node} {e : StepT} {rest : List StepT} {s : CState}
    (hinv : RunInv H V (e :: rest) s) :
    ∃ s0 : CState, s0.fog = s.fog ∧ CacheOkV (e.t :: V) s0.cache ∧ Canon e.t ∧
      cstepDR H e.db e.root (toCD H s) e.p = .ok ((cstep e.t s0 e.p).map (toCD H)) ∧
      ∀ s1, cstep e.t s0 e.p = some s1 →
        RunInv H (e.t :: V) rest s1 ∧ ∃ v ∈ e.t :: V, wstep (toW s) v e.p = some (toW s1) := by
  obtain ⟨hct, hroot, hrootIn, hst⟩ := hinv.sched.1 e List.mem_cons_self
  obtain ⟨hpw1, hpw2⟩ := List.pairwise_cons.1 hinv.sched.2
  obtain ⟨s0, hs0, hstep⟩ := cstepDR_complete H hlen e.db e.root e.t hct hroot hrootIn hst s
    (cacheAll_imp (fun _ _ _ h => ⟨h.1, h.2 e List.mem_cons_self⟩) hinv.cacheD) e.p
  have hW : toW s0 = toW s := by rcases hs0 with rfl | rfl <;> rfl
  have hkeep : ∀ {P : Path → Node → Path → Prop}, CacheAll P s.cache → CacheAll P s0.cache := by
    rcases hs0 with rfl | rfl
    · exact id
    · exact fun h => cacheAll_erase h e.p
  have hcD0 := hkeep hinv.cacheD
  have hcV0 : CacheOkV (e.t :: V) s0.cache :=
    cacheOkV_sub (fun v hv => List.mem_cons_of_mem _ hv) (hkeep hinv.cacheV)
  refine ⟨s0, congrArg WState.fog hW, hcV0, hct, hstep, fun s1 hcs => ?_⟩
  obtain ⟨hw, hcV1⟩ := cstep_is_wstep (e.t :: V) e.t List.mem_cons_self hct s0 hcV0 e.p s1 hcs
  refine ⟨⟨⟨fun e' he' => hinv.sched.1 e' (List.mem_cons_of_mem _ he'), hpw2⟩, ?_, hcV1⟩, hW ▸ hw⟩
  -- the new entries come from the current version or a cached parent, consistent with `e.db` and every later database
  have ht : Canon e.t ∧ ∀ e' ∈ e :: rest, PartialD H e'.db e.t := by
    refine ⟨hct, fun e' he' => ?_⟩
    rcases List.mem_cons.1 he' with rfl | he'
    · exact storedD_partialD H _ _ hst
    · exact hpw1 e' he'
  refine cacheAll_imp (fun _ _ _ h => ⟨h.1, fun e' he' => h.2 e' (List.mem_cons_of_mem _ he')⟩)
    (cstep_cacheAll hcD0 hcs fun d hd _ _ => ?_)
  obtain ⟨v, q, hv, eq⟩ := iterOut_from ht hcD0 e.p
  have hd' := fun e' (he' : e' ∈ e :: rest) => canon_partial_desc H e'.db v hv.1 (hv.2 e' he') q d (eq ▸ hd)
  exact ⟨(hd' e List.mem_cons_self).1, fun e' he' => (hd' e' he').2⟩

/-- **the raw-level run never raises and is an abstract run of the same length** over versions seen before or during it -/
theorem crunDR_sim (hlen : ∀ b, (H b).length = 32) (rest : List StepT) :
    ∀ (V : List Node) (s : CState), RunInv H V rest s →
      (crunDR H (toCD H s) (rest.map StepT.toD) = .ok none) ∨
      ∃ s' : CState, crunDR H (toCD H s) (rest.map StepT.toD) = .ok (some (toCD H s')) ∧
        ∃ sched' : List (Node × Path), sched'.length = rest.length ∧
          (∀ x ∈ sched', x.1 ∈ V ++ rest.map StepT.t) ∧ wrun (toW s) sched' = some (toW s') := by
  induction rest with
  | nil => exact fun V s _ => Or.inr ⟨s, rfl, [], rfl, by simp, rfl⟩
  | cons e rest ih =>
    intro V s hinv
    obtain ⟨s0, _, _, _, hstep, hnext⟩ := crunDR_step H hlen hinv
    simp only [List.map_cons, crunDR, StepT.toD]
    rw [hstep]
    cases hcs : cstep e.t s0 e.p with
    | none => exact Or.inl rfl
    | some s1 =>
      obtain ⟨hinv1, v, hv, hw⟩ := hnext s1 hcs
      rcases ih (e.t :: V) s1 hinv1 with hnone | ⟨s', hrun, sched', hlen', hmem, hwr⟩
      · exact Or.inl hnone
      · refine Or.inr ⟨s', hrun, (v, e.p) :: sched', by simp [hlen'], ?_, by simpa only [wrun, hw] using hwr⟩
        have hcur : ∀ n, n ∈ (e.t :: V) ++ rest.map StepT.t → n ∈ V ++ e.t :: rest.map StepT.t := by
          simp only [List.mem_append, List.mem_cons, or_assoc, or_left_comm]
          exact fun _ h => h
        intro x hx
        rcases List.mem_cons.1 hx with rfl | hx
        · exact hcur _ (List.mem_append_left _ hv)
        · exact hcur _ (hmem x hx)

theorem runInv_start (sched : List StepT) (hok : SchedOk H sched) : RunInv H [] sched cstart :=
  ⟨schedOk'_of H sched hok, cacheAll_nil, cacheAll_nil⟩

theorem crunDR_is_wrun_len (hlen : ∀ b, (H b).length = 32) (sched : List StepT) (hok : SchedOk H sched) :
    (crunDR H cstartD (sched.map StepT.toD) = .ok none) ∨
    ∃ s' : CState, crunDR H cstartD (sched.map StepT.toD) = .ok (some (toCD H s')) ∧
      ∃ sched' : List (Node × Path), sched'.length = sched.length ∧ (∀ x ∈ sched', ∃ e0 ∈ sched, e0.t = x.1) ∧
        wrun start sched' = some (toW s') := by
  rcases crunDR_sim H hlen sched [] cstart (runInv_start H sched hok) with hnone | ⟨s', hrun, sched', hlen', hmem, hwr⟩
  · exact Or.inl hnone
  · exact Or.inr ⟨s', hrun, sched', hlen', fun x hx => List.mem_map.1 (hmem x hx), hwr⟩

/-- **the whole raw-level walk never raises, is sound and finds every stable key** -/
theorem crunDR_is_tree_run (hlen : ∀ b, (H b).length = 32) (sched : List StepT) (hok : SchedOk H sched) :
    (crunDR H cstartD (sched.map StepT.toD) = .ok none) ∨
    ∃ s' : CState, crunDR H cstartD (sched.map StepT.toD) = .ok (some (toCD H s')) ∧
      (∀ k v, (k, v) ∈ s'.met → ∃ e ∈ sched, v ≠ [] ∧ get e.t k = v) ∧
      (s'.fog = [] → ∀ k val, val ≠ [] → (∀ e ∈ sched, get e.t k = val) → (k, val) ∈ s'.met) := by
  rcases crunDR_is_wrun_len H hlen sched hok with hnone | ⟨s', hrun, sched', _, hmem, hwr⟩
  · exact Or.inl hnone
  · have hcan' := forall_versions hmem (Q := Canon) fun e he => (hok.1 e he).1
    refine Or.inr ⟨s', hrun, fun k v hm => ?_, fun hdone k val hval hstable =>
      walk_finds_stable sched' (toW s') hcan' k val hval (forall_versions hmem (Q := (get · k = val)) hstable) hwr hdone⟩
    rcases walk_sound sched' start (toW s') hcan' hwr k v hm with h | ⟨x, hx, hne, hg⟩
    · cases h
    · obtain ⟨e0, he0, h0⟩ := hmem x hx
      exact ⟨e0, he0, hne, h0 ▸ hg⟩

/-- every scheduled prefix is an unexplored prefix of the fog at that step (what `nearest_unknown` / `nearest_right` return) -/
def InFogRun : CStateD → List StepD → Prop
  | _, [] => True
  | s, e :: rest => e.p ∈ s.fog ∧ ∀ s', cstepDR H e.db e.root s e.p = .ok (some s') → InFogRun s' rest

theorem crunDR_defined_aux (hlen : ∀ b, (H b).length = 32) (rest : List StepT) :
    ∀ (V : List Node) (s : CState), RunInv H V rest s → Wf s.fog →
      InFogRun H (toCD H s) (rest.map StepT.toD) →
      ∃ s' : CState, crunDR H (toCD H s) (rest.map StepT.toD) = .ok (some (toCD H s')) := by
  induction rest with
  | nil => exact fun _ s _ _ _ => ⟨s, rfl⟩
  | cons e rest ih =>
    intro V s hinv hwf hfog
    obtain ⟨s0, hfog0, hcV0, hct, hstep, hnext⟩ := crunDR_step H hlen hinv
    simp only [List.map_cons, InFogRun, StepT.toD] at hfog
    obtain ⟨s1, hcs, hwf1⟩ := cstep_defined (e.t :: V) e.t List.mem_cons_self hct s0 hcV0
      (by rw [hfog0]; exact hwf) e.p (by rw [hfog0]; exact hfog.1)
    rw [hcs] at hstep
    simp only [List.map_cons, crunDR, StepT.toD]
    rw [hstep]
    exact ih (e.t :: V) s1 (hnext s1 hcs).1 hwf1 (hfog.2 _ hstep)

/-- **never rejected, never raises**: the whole raw-level walk runs to the end of the schedule -/
theorem crunDR_defined (hlen : ∀ b, (H b).length = 32) (sched : List StepT) (hok : SchedOk H sched)
    (hfog : InFogRun H cstartD (sched.map StepT.toD)) :
    ∃ s' : CState, crunDR H cstartD (sched.map StepT.toD) = .ok (some (toCD H s')) :=
  crunDR_defined_aux H hlen sched [] cstart (runInv_start H sched hok) wf_init hfog

end PyTrie.HexD
