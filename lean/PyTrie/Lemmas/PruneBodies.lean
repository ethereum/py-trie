import PyTrie.Model.HexFree
import PyTrie.Lemmas.WorldGet
import PyTrie.Lemmas.WorldPrune
import PyTrie.Lemmas.RawHistory
import PyTrie.Lemmas.PartialInvAux
import PyTrie.Lemmas.WorldBatchNP
import PyTrie.Lemmas.SharedDb
/-! **Bodies in a pruned database.** The pruning invariants (`PruneInv`, `Lemmas/WorldPrune.lean`; `PruneInvV` over the
    would-be-committed view of a `ScratchDB`, `Lemmas/WorldBatch.lean`) say *which keys* a pruning trie's database holds
    (exactly the hashes of live nodes) and what the reference counts are. This file says what is stored *under* those keys, for any store (`storeDb st` is
    what a trie reads through it): under the run-level no-collision predicate (`NoClobber`) the bodies read are the encodings of the live nodes — the
    view is `Complete` for the current root, exactly as for a non-pruning trie. The argument: up to the root write the
    store reads as the entry view after the operation's writes (`ReadsAs`), which is complete for the new root; pruning
    only touches hashes that are no key of the exit view (`ReadsThru`). Therefore the raw-level database reader
    (`HexD.getD`: `HexaryTrie.get` over rlp-decoded nodes fetched from that pruned database) returns the map model's
    value for every key after every history, pruning on or off. -/
namespace PyTrie.HexFree
open PyTrie PyTrie.Hex PyTrie.HexD PyTrie.HexW

theorem storeDb_plain {st : Store} (hc : st.cache = none) : storeDb st = st.base := by
  simp [storeDb, hc]

theorem get?_cacheView (c : Dict (Option Bytes)) (base : Dict Bytes) (h : Hash) (hnd : NoDupKeys c) :
    Dict.get? ((c.filterMap fun e => e.2.map fun v => (e.1, v)) ++ base) h =
      match Dict.get? c h with
      | some (some v) => some v
      | _ => Dict.get? base h := by
  induction c with
  | nil => simp [Dict.get?]
  | cons e r ih =>
    obtain ⟨k, o⟩ := e
    obtain ⟨hk0, hr⟩ := hnd.cons
    rw [Dict.get?_cons]
    cases o with
    | some v =>
      simp only [List.filterMap_cons, Option.map_some, List.cons_append]
      rw [Dict.get?_cons, ih hr]
      cases (k == h) <;> rfl
    | none =>
      simp only [List.filterMap_cons, Option.map_none]
      rw [ih hr]
      cases hk : (k == h) with
      | false => rfl
      | true =>
        -- the key of a buffered delete occurs nowhere else in the cache
        rw [← beq_iff_eq.1 hk, Dict.get?_eq_none_of_not_contains r k hk0]
        rfl

theorem lookup_storeDb (st : Store) (h : Hash) (hnd : st.CacheNoDup) : lookup (storeDb st) h = st.get? h := by
  unfold storeDb Store.get?
  cases hc : st.cache with
  | none => rfl
  | some c => exact get?_cacheView c st.base h (hnd c hc)

/-- without unique cache keys the two differ: a buffered delete in front of a buffered write of the same key -/
theorem lookup_storeDb_needs_nodup : ∃ (st : Store) (h : Hash),
    lookup (storeDb st) h ≠ st.get? h ∧ st.contains h ≠ (lookup (storeDb st) h).isSome :=
  ⟨⟨[], some [([1], none), ([1], some [7])], none⟩, [1], by decide, by decide⟩

theorem contains_eq_isSome_get? (st : Store) (h : Hash) : st.contains h = (st.get? h).isSome := by
  unfold Store.contains Store.get?
  cases st.cache with
  | none => exact Dict.contains_eq_isSome st.base h
  | some c =>
    simp only []
    cases Dict.get? c h with
    | none => exact Dict.contains_eq_isSome st.base h
    | some o =>
      cases o with
      | none => exact Dict.contains_eq_isSome st.base h
      | some v => rfl

theorem contains_storeDb (st : Store) (h : Hash) (hnd : st.CacheNoDup) :
    st.contains h = (lookup (storeDb st) h).isSome := by
  rw [lookup_storeDb st h hnd, contains_eq_isSome_get?]

end PyTrie.HexFree

namespace PyTrie.HexW
open PyTrie.Hex hiding get set
open PyTrie.Hex.Node
open PyTrie.HexFree (storeDb)
open PyTrie.Props.C01 (Op run spec applyOp)

variable (Hs : Hashing) (blankRootHash : Hash)

/-- a history (pruning on or off) with the run-level no-collision facts of every step, `NoClobber` included in both modes -/
inductive ReachOpsNC (prune : Bool) : List Op → TrieSt → OpSt → Prop where
  | init : ReachOpsNC prune [] { tree := .blank, root := blankRootHash, prune := prune }
      { store := { base := [], cache := none, failAfter := none }, counts := [], pending := [] }
  | step (ops : List Op) (T : TrieSt) (s : OpSt) (o : Op) (T' : TrieSt) :
      ReachOpsNC prune ops T s →
      RefSound Hs T.tree (nibs (opKey o)) →
      (isBlank (opTree Hs T (opKey o) (opVal o)).1 = false → Hs.hashOf (opTree Hs T (opKey o) (opVal o)).1 ≠ blankRootHash) →
      NoClobber s.store.base (opWrites Hs T (opKey o) (opVal o)) →
      (opSetDel Hs blankRootHash T (opKey o) (opVal o) s).2 = .ok T' →
      ReachOpsNC prune (ops ++ [o]) T' (opSetDel Hs blankRootHash T (opKey o) (opVal o) s).1

theorem reachOpsNC_reachOps (prune : Bool) (ops : List Op) (T : TrieSt) (s : OpSt)
    (h : ReachOpsNC Hs blankRootHash prune ops T s) : ReachOps Hs blankRootHash prune ops T s := by
  induction h with
  | init => exact ReachOps.init
  | step ops T s o T' _ hrs hbl hnc hok ih => exact ReachOps.step ops T s o T' ih hrs hbl (fun _ => hnc) hok

/-! ### completeness only depends on the bodies stored under live hashes -/

theorem ref_agree {d d' : Dict Bytes} (t : Node)
    (hk : ∀ h, 0 < occ Hs t h → Dict.get? d' h = Dict.get? d h) (hr : Ref Hs d t) : Ref Hs d' t := by
  induction t with
  | blank => exact ref_blank Hs d'
  | leaf p v => exact ⟨fun hh => by rw [hk _ (occ_pos_of_hashed Hs hh)]; exact hr.1 hh, trivial⟩
  | ext p c ih =>
    refine ⟨fun hh => by rw [hk _ (occ_pos_of_hashed Hs hh)]; exact hr.1 hh, ?_⟩
    show Ref Hs d' c
    exact ih (fun h hp => hk h (by simp only [occ]; omega)) hr.2
  | branch ch v ih =>
    refine ⟨fun hh => by rw [hk _ (occ_pos_of_hashed Hs hh)]; exact hr.1 hh, ?_⟩
    intro i
    show Ref Hs d' (ch i)
    refine ih i (fun h hp => hk h ?_) (hr.2 i)
    have := le_sumCh (fun j => occ Hs (ch j) h) i
    simp only [occ]; omega

theorem storedBelow_agree {d d' : Dict Bytes} (t : Node)
    (hk : ∀ h, 0 < occProper Hs t h → Dict.get? d' h = Dict.get? d h) (hs : StoredBelow Hs d t) :
    StoredBelow Hs d' t := by
  cases t with
  | blank => trivial
  | leaf p v => trivial
  | ext p c =>
    show Ref Hs d' c
    exact ref_agree Hs c (fun h hp => hk h hp) hs
  | branch ch v =>
    intro i
    show Ref Hs d' (ch i)
    refine ref_agree Hs (ch i) (fun h hp => hk h ?_) (hs i)
    have := le_sumCh (fun j => occ Hs (ch j) h) i
    simp only [occProper]; omega

theorem complete_agree {d d' : Dict Bytes} (T T' : TrieSt) (ht : T'.tree = T.tree) (hr : T'.root = T.root)
    (hk : ∀ h, 0 < occRoot Hs T.tree h → Dict.get? d' h = Dict.get? d h)
    (hc : Complete Hs blankRootHash d T) : Complete Hs blankRootHash d' T' := by
  obtain ⟨h1, h2⟩ := hc
  unfold Complete
  rw [ht, hr]
  refine ⟨?_, storedBelow_agree Hs _ (fun h hp => hk h (by unfold occRoot; omega)) h2⟩
  cases hb : isBlank T.tree
  · rw [hb] at h1
    simp only [Bool.false_eq_true, if_false] at h1 ⊢
    refine ⟨h1.1, h1.2.1, ?_⟩
    rw [hk _ (by rw [h1.1]; simp [occRoot, hb])]
    exact h1.2.2
  · rw [hb] at h1
    simp only [if_true] at h1 ⊢
    exact h1

theorem complete_root (d : Dict Bytes) (T : TrieSt) (hc : Complete Hs blankRootHash d T) :
    if isBlank T.tree then T.root = blankRootHash else T.root = Hs.hashOf T.tree ∧ T.root ≠ blankRootHash := by
  have h := hc.1
  split at h
  · next hb => rw [if_pos hb]; exact h
  · next hb => rw [if_neg hb]; exact ⟨h.1, h.2.1⟩

/-! ### what a store reads during an operation -/

theorem Store.write_get? (s : Store) (h : Hash) (b : Bytes) (s' : Store) (hw : s.write h b = some s') (x : Hash) :
    s'.get? x = if x = h then some b else s.get? x := by
  obtain ⟨base, cache, fa⟩ := s
  cases cache with
  | some c =>
    simp only [Store.write, Option.some.injEq] at hw
    subst hw
    simp only [Store.get?]
    by_cases hx : x = h
    · subst hx; rw [Dict.get?_insert_self']; simp
    · rw [Dict.get?_insert_other' c h x _ hx]; simp [hx]
  | none =>
    obtain ⟨hc, hb⟩ := write_plain _ rfl h b s' hw
    simp only [Store.get?, hc, hb]
    by_cases hx : x = h
    · subst hx; rw [get?_insert_self]; simp
    · rw [get?_insert_other _ _ _ _ hx]; simp [hx]

def ReadsAs (st : Store) (D : Dict Bytes) : Prop := ∀ x, st.get? x = Dict.get? D x

/-- every hash reads as in the dict `D`, or is no key of the would-be-committed view and reads through to the wrapped
    database (a delete was buffered for it, or it was erased) -/
def ReadsThru (st : Store) (D : Dict Bytes) : Prop :=
  ∀ x, st.get? x = Dict.get? D x ∨ (st.view x = false ∧ st.get? x = Dict.get? st.base x)

theorem readsAs_storeDb (st : Store) (hnd : st.CacheNoDup) : ReadsAs st (storeDb st) :=
  fun x => (PyTrie.HexFree.lookup_storeDb st x hnd).symm

theorem readsAs_write (s : Store) (h : Hash) (b : Bytes) (s' : Store) (hw : s.write h b = some s')
    (D : Dict Bytes) (hD : ReadsAs s D) : ReadsAs s' (Dict.insert D h b) := by
  intro x
  rw [Store.write_get? s h b s' hw x]
  by_cases hx : x = h
  · subst hx; rw [get?_insert_self]; simp
  · rw [get?_insert_other _ _ _ _ hx, hD x]; simp [hx]

theorem runEvs_readsAs (p : Bool) (root key : Bytes) (es : List Ev) (s s' : OpSt)
    (h : runEvs p root key s es = (s', none)) (D : Dict Bytes) (hD : ReadsAs s.store D) :
    ReadsAs s'.store (applyWrites D (writesOf es)) := by
  induction es generalizing s D with
  | nil =>
    simp only [runEvs] at h
    cases h
    exact hD
  | cons e es ih =>
    simp only [runEvs] at h
    split at h
    · next s1 h1 =>
      cases e with
      | read x => simp only [runEv] at h1; split at h1 <;> cases h1; exact ih s h D hD
      | prune x => simp only [runEv] at h1; cases h1; exact ih _ h D (by cases p <;> exact hD)
      | persist x b => exact ih s1 h _ (readsAs_write s.store x b s1.store (setDbValue_store h1) D hD)
    · cases h

theorem Store.del_readsThru (s : Store) (h : Hash) (s' : Store) (D : Dict Bytes) (hD : ReadsThru s D)
    (hd : s.del h = some s') : ReadsThru s' D := by
  obtain ⟨base, cache, fa⟩ := s
  cases cache with
  | some c =>
    simp only [Store.del, Option.some.injEq] at hd
    subst hd
    intro x
    by_cases hx : x = h
    · subst hx
      refine .inr ⟨?_, ?_⟩ <;> simp only [Store.view, Store.get?, Dict.get?_insert_self']
    · have := hD x
      simp only [Store.view, Store.get?] at this ⊢
      rw [Dict.get?_insert_other' c h x _ hx]
      exact this
  | none =>
    simp only [Store.del] at hd
    split at hd
    · simp only [Option.some.injEq] at hd
      subst hd
      intro x
      by_cases hx : x = h
      · subst hx
        exact .inr ⟨Dict.contains_erase_self _ _, rfl⟩
      · have := hD x
        simp only [Store.view, Store.get?] at this ⊢
        rw [Dict.contains_erase_other _ _ _ hx, Dict.get?_erase_other _ _ _ hx]
        exact this.imp id (fun a => ⟨a.1, trivial⟩)
    · cases hd

theorem opCore_readsThru (T : TrieSt) (key : Bytes) (val : Option Bytes) (s : OpSt) (T' : TrieSt)
    (h : (opCore Hs blankRootHash T key val s).2 = .ok T') (D : Dict Bytes) (hD : ReadsAs s.store D) :
    ReadsThru (opCore Hs blankRootHash T key val s).1.store (applyWrites D (opWrites Hs T key val)) := by
  obtain ⟨s1, s3, h1, h3, h4, _⟩ := opCore_ok_inv Hs blankRootHash T key val s T' h
  have r1 := runEvs_readsAs T.prune T.root key _ s s1 h1 D hD
  have r3 : ReadsAs s3.store (applyWrites D (opWrites Hs T key val)) := by
    have hi := (writeRoot_ok_inv Hs blankRootHash T _ _ s3 _ h3).2
    rw [schedOldRoot_store_eq] at hi
    unfold opWrites
    rw [applyWrites_append]
    cases hb : isBlank (opTree Hs T key val).1 <;> simp only [hb, Bool.false_eq_true, if_false, if_true] at hi ⊢
    · exact readsAs_write _ _ _ _ hi _ r1
    · rw [hi]; exact r1
  have h5 : ReadsThru (finishPrune T s3).1.store (applyWrites D (opWrites Hs T key val)) := by
    unfold finishPrune
    split
    · exact completePruning_store_inv (fun st st' x => Store.del_readsThru st x st' _) _ s3 (fun x => .inl (r3 x))
    · exact fun x => .inl (r3 x)
  rwa [h4] at h5

theorem complete_of_writes (T : TrieSt) (key : Bytes) (val : Option Bytes) (D D' : Dict Bytes)
    (hcomp : Complete Hs blankRootHash D T) (hnc : NoClobber D (opWrites Hs T key val))
    (hblank : isBlank (opTree Hs T key val).1 = false → Hs.hashOf (opTree Hs T key val).1 ≠ blankRootHash)
    (s : OpSt) (T' : TrieSt) (hok : (opSetDel Hs blankRootHash T key val s).2 = .ok T')
    (hag : ∀ h, 0 < occRoot Hs T'.tree h → Dict.get? D' h = Dict.get? (applyWrites D (opWrites Hs T key val)) h) :
    Complete Hs blankRootHash D' T' := by
  obtain ⟨hpres, hwr⟩ := applyWrites_noClobber _ _ hnc
  refine complete_agree Hs blankRootHash T' T' rfl rfl hag ⟨?_, ?_⟩
  all_goals rw [opSetDel_ok_shape Hs blankRootHash T key val s T' hok]
  · cases hb : isBlank (opTree Hs T key val).1
    · simp only [Bool.false_eq_true, if_false, true_and]
      exact ⟨hblank hb, hwr _ _ (root_mem_opWrites Hs T key val hb)⟩
    · simp only [if_true]
  · exact opTree_stored Hs _ T key val (storedBelow_mono Hs _ _ hpres _ hcomp.2)
      (fun h b hm => hwr h b (List.mem_append_left _ hm))

theorem opSetDel_prune_complete_view (T : TrieSt) (hc : Canon T.tree) (key : Bytes) (val : Option Bytes) (s : OpSt)
    (hfa : s.store.failAfter = none) (hinv : PruneInvV Hs blankRootHash T s)
    (hcomp : Complete Hs blankRootHash (storeDb s.store) T)
    (hrs : RefSound Hs T.tree (nibs key))
    (hnc : NoClobber (storeDb s.store) (opWrites Hs T key val))
    (hblank : isBlank (opTree Hs T key val).1 = false → Hs.hashOf (opTree Hs T key val).1 ≠ blankRootHash)
    (T' : TrieSt) (hok : (opSetDel Hs blankRootHash T key val s).2 = .ok T') :
    Complete Hs blankRootHash (storeDb (opSetDel Hs blankRootHash T key val s).1.store) T' := by
  obtain ⟨T'', hok', _, hpi, _⟩ := opSetDel_pruneInvV Hs blankRootHash T hc key val s hfa hinv hrs hblank
  rw [hok] at hok'
  cases hok'
  have hrt : ReadsThru (opSetDel Hs blankRootHash T key val s).1.store _ :=
    opCore_readsThru Hs blankRootHash T key val { s with pending := [] } T' hok (storeDb s.store)
      (readsAs_storeDb s.store hinv.cacheNoDup)
  refine complete_of_writes Hs blankRootHash T key val _ _ hcomp hnc hblank s T' hok ?_
  intro h hp
  rw [← readsAs_storeDb _ hpi.cacheNoDup h]
  -- a live hash is a key of the exit view
  rcases hrt h with e | ⟨hv, _⟩
  · exact e
  · rw [(hpi.keys h).2 hp] at hv; cases hv

theorem opSetDel_prune_complete (T : TrieSt) (hc : Canon T.tree) (key : Bytes) (val : Option Bytes) (s : OpSt)
    (hfa : s.store.failAfter = none) (hinv : PruneInv Hs blankRootHash T s)
    (hcomp : Complete Hs blankRootHash s.store.base T)
    (hrs : RefSound Hs T.tree (nibs key))
    (hnc : NoClobber s.store.base (opWrites Hs T key val))
    (hblank : isBlank (opTree Hs T key val).1 = false → Hs.hashOf (opTree Hs T key val).1 ≠ blankRootHash)
    (T' : TrieSt) (hok : (opSetDel Hs blankRootHash T key val s).2 = .ok T') :
    Complete Hs blankRootHash (opSetDel Hs blankRootHash T key val s).1.store.base T' := by
  rw [← PyTrie.HexFree.storeDb_plain hinv.plain] at hcomp hnc
  rw [← PyTrie.HexFree.storeDb_plain (opSetDel_cache Hs blankRootHash T key val s hinv.plain)]
  exact opSetDel_prune_complete_view Hs blankRootHash T hc key val s hfa (pruneInvV_of_plain Hs blankRootHash T s hinv)
    hcomp hrs hnc hblank T' hok

/-- **after every history, pruning on or off, the database is complete for the current root** -/
theorem reachOpsNC_complete (prune : Bool) (ops : List Op) (T : TrieSt) (s : OpSt)
    (h : ReachOpsNC Hs blankRootHash prune ops T s) : Complete Hs blankRootHash s.store.base T := by
  induction h with
  | init => exact complete_blank Hs blankRootHash _ _
  | step ops T s o T' hreach hrs hbl hnc hok ih =>
    obtain ⟨htree, hprune, hcache, hfa, hdb⟩ :=
      reachOps_inv Hs blankRootHash prune ops T s (reachOpsNC_reachOps Hs blankRootHash prune ops T s hreach)
    have hcanon : Canon T.tree := htree ▸ PyTrie.Props.C01.canon_run ops
    cases prune with
    | false =>
      obtain ⟨T'', hok', _, _, _, hcomp⟩ := opSetDel_complete Hs blankRootHash T hprune hcanon (opKey o) (opVal o) s
        hcache hfa ih hrs hnc hbl
      rw [hok] at hok'
      cases hok'
      exact hcomp
    | true =>
      simp only [if_true] at hdb
      exact opSetDel_prune_complete Hs blankRootHash T hcanon (opKey o) (opVal o) s hfa hdb ih hrs hnc hbl T' hok

/-! ### through a `squash_changes` block on a pruning trie

On entry the view the batch trie reads through its `ScratchDB` is the outer database; every batch operation keeps the view
complete for the batch trie's root (`opSetDel_prune_complete_view`); a successful commit leaves the outer database complete
for the new outer root. -/

theorem commitLoop_get?_of_view (cache : Dict (Option Bytes)) (base : Dict Bytes) (fa : Option Nat) (h : Hash)
    (hnd : NoDupKeys cache)
    (hv : Store.view { base := base, cache := some cache, failAfter := fa } h = true) :
    Dict.get? (commitLoop true cache base none).2.1 h =
      Store.get? { base := base, cache := some cache, failAfter := fa } h := by
  rw [commitLoop_get? true _ _ hnd]
  simp only [Store.view] at hv
  simp only [Store.get?]
  cases hg : Dict.get? cache h with
  | none => rfl
  | some o =>
    cases o with
    | none => rw [hg] at hv; cases hv
    | some v => rfl

theorem batchEnd_complete (w : World) (b : Batch) (hb : w.batch = some b)
    (hi : b.outer < w.tries.size)
    (hop : (w.tries[b.outer]!).prune = true) (hfa : w.failAfter = none)
    (hinv : PruneInvV Hs blankRootHash b.trie (w.batchOpSt b))
    (hcomp : Complete Hs blankRootHash (storeDb (w.batchOpSt b).store) b.trie) :
    Complete Hs blankRootHash (w.batchEnd false).2.base ((w.batchEnd false).2.tries[b.outer]!) := by
  have hnd : NoDupKeys b.cache := hinv.cacheNoDup b.cache rfl
  have hcl := commitLoop_view b.cache w.base hnd
  have hk := hinv.keys
  have hcnd := hinv.cacheNoDup
  simp only [World.batchOpSt, hfa] at hk hcomp hcnd
  have hg : ∀ h, 0 < occRoot Hs b.trie.tree h →
      Dict.get? (commitLoop true b.cache w.base none).2.1 h =
        Dict.get? (storeDb { base := w.base, cache := some b.cache, failAfter := none }) h := by
    intro h hp
    rw [commitLoop_get?_of_view _ _ none h hnd ((hk h).2 hp)]
    exact readsAs_storeDb _ hcnd h
  simp only [World.batchEnd, hb, Bool.false_eq_true, ↓reduceIte, hop, hfa]
  generalize commitLoop true b.cache w.base none = q at hcl hg ⊢
  obtain ⟨ok, base', fa'⟩ := q
  simp only at hcl hg
  obtain ⟨rfl, rfl, _⟩ := hcl
  simp only [↓reduceIte]
  rw [array_set!_self _ _ _ hi]
  exact complete_agree Hs blankRootHash b.trie _ rfl rfl hg hcomp

/-! ### through a `squash_changes` block on a non-pruning trie

The batch trie is a pruning trie over a `ScratchDB` whose reference counts start empty although the wrapped database
`base0` is not (the clamped-counter situation of `Lemmas/WorldBatchNP.lean`): it may buffer a delete for a node that is
still referenced. Such a node was a key of `base0`, and `ScratchDB.__getitem__` reads through a buffered delete to the
wrapped database, so the node stays readable — with the right body, because a buffered write of a key that the wrapped
database already holds carries the same body (`CacheConsistent`, maintained under the run-level no-collision predicate
over the view). Hence the view stays complete through the block and the database is complete for the new root after the
commit (which pushes no deletes). -/

/-- a buffered write of a key the wrapped database holds carries the body the wrapped database holds -/
def CacheConsistent (st : Store) : Prop :=
  ∀ c h b b', st.cache = some c → Dict.get? c h = some (some b) → Dict.get? st.base h = some b' → b = b'

theorem cacheConsistent_begin (base : Dict Bytes) (fa : Option Nat) :
    CacheConsistent { base := base, cache := some [], failAfter := fa } := by
  intro c h b b' hc hg _
  simp only [Option.some.injEq] at hc
  subst hc
  rw [Dict.get?_nil] at hg
  cases hg

theorem CacheConsistent.get?_of_base {st : Store} (hcons : CacheConsistent st) (h : Hash) (b' : Bytes)
    (hb : Dict.get? st.base h = some b') : st.get? h = some b' := by
  unfold Store.get?
  cases hc : st.cache with
  | none => exact hb
  | some c =>
    simp only []
    cases hg : Dict.get? c h with
    | none => exact hb
    | some o =>
      cases o with
      | none => exact hb
      | some b => simp only []; rw [hcons c h b b' hc hg hb]

theorem BatchInvNP.cacheNoDup {base0 : Dict Bytes} {T : TrieSt} {s : OpSt} (h : BatchInvNP Hs blankRootHash base0 T s) :
    s.store.CacheNoDup := by
  obtain ⟨c, hc, hn⟩ := h.cached
  intro c' hc'
  rw [hc] at hc'
  cases hc'
  exact hn

theorem opSetDel_np_complete_view (base0 : Dict Bytes) (T : TrieSt) (hc : Canon T.tree) (key : Bytes) (val : Option Bytes) (s : OpSt)
    (hinv : BatchInvNP Hs blankRootHash base0 T s) (hcons : CacheConsistent s.store)
    (hcomp : Complete Hs blankRootHash (storeDb s.store) T)
    (hrs : RefSound Hs T.tree (nibs key))
    (hnc : NoClobber (storeDb s.store) (opWrites Hs T key val))
    (hblank : isBlank (opTree Hs T key val).1 = false → Hs.hashOf (opTree Hs T key val).1 ≠ blankRootHash)
    (T' : TrieSt) (hok : (opSetDel Hs blankRootHash T key val s).2 = .ok T') :
    Complete Hs blankRootHash (storeDb (opSetDel Hs blankRootHash T key val s).1.store) T' ∧
    CacheConsistent (opSetDel Hs blankRootHash T key val s).1.store := by
  obtain ⟨T'', hok', _, hpi⟩ := opSetDel_batchInvNP Hs blankRootHash base0 T hc key val s hinv hrs hblank
  rw [hok] at hok'
  cases hok'
  have hnd : s.store.CacheNoDup := hinv.cacheNoDup
  have hrt : ReadsThru (opSetDel Hs blankRootHash T key val s).1.store _ :=
    opCore_readsThru Hs blankRootHash T key val { s with pending := [] } T' hok (storeDb s.store)
      (readsAs_storeDb s.store hnd)
  generalize (opSetDel Hs blankRootHash T key val s).1 = sf at hpi hrt
  -- every binding of the wrapped database is in the entry read view after the writes
  have hbase : ∀ h b', Dict.get? base0 h = some b' →
      Dict.get? (applyWrites (storeDb s.store) (opWrites Hs T key val)) h = some b' := by
    intro h b' hb
    apply (applyWrites_noClobber _ _ hnc).1
    rw [← readsAs_storeDb s.store hnd h]
    exact hcons.get?_of_base h b' (by rw [hinv.base]; exact hb)
  refine ⟨complete_of_writes Hs blankRootHash T key val _ _ hcomp hnc hblank s T' hok ?_, ?_⟩
  · -- a live hash under a buffered delete is a key of the wrapped database
    intro h hp
    rw [← readsAs_storeDb sf.store hpi.cacheNoDup h]
    rcases hrt h with e | ⟨_, e⟩
    · exact e
    · have hr := hpi.readable h hp
      rw [PyTrie.HexFree.contains_eq_isSome_get?, e, hpi.base] at hr
      rw [e, hpi.base]
      cases hg : Dict.get? base0 h with
      | none => rw [hg] at hr; cases hr
      | some b' => exact (hbase h b' hg).symm
  · intro c h b b' hcc hg hb
    rw [hpi.base] at hb
    have hget : sf.store.get? h = some b := by
      unfold Store.get?
      rw [hcc]
      simp only [hg]
    have hE := hbase h b' hb
    rcases hrt h with e | ⟨_, e⟩
    · rw [hget, hE] at e
      exact Option.some.inj e
    · rw [hget, hpi.base, hb] at e
      exact Option.some.inj e

theorem commit_np_complete (base0 : Dict Bytes) (T : TrieSt) (s : OpSt) (hinv : BatchInvNP Hs blankRootHash base0 T s)
    (hcons : CacheConsistent s.store) (c : Dict (Option Bytes)) (hcache : s.store.cache = some c)
    (hcomp : Complete Hs blankRootHash (storeDb s.store) T) :
    Complete Hs blankRootHash (commitLoop false c base0 none).2.1 { T with prune := false } ∧
    Preserved base0 (commitLoop false c base0 none).2.1 := by
  obtain ⟨c', hc', hnd⟩ := hinv.cached
  rw [hcache] at hc'
  simp only [Option.some.injEq] at hc'
  subst hc'
  have hcnd : s.store.CacheNoDup := hinv.cacheNoDup
  have hg : ∀ h, Dict.get? (commitLoop false c base0 none).2.1 h = s.store.get? h := by
    intro h
    rw [commitLoop_get? false c base0 hnd h]
    unfold Store.get?
    rw [hcache, hinv.base]
    dsimp only
    rcases Dict.get? c h with _ | _ | v <;> rfl
  refine ⟨?_, ?_⟩
  · refine complete_agree Hs blankRootHash T { T with prune := false } rfl rfl ?_ hcomp
    intro h _
    rw [hg h]
    exact readsAs_storeDb s.store hcnd h
  · intro h b hb
    rw [hg h]
    exact hcons.get?_of_base h b (by rw [hinv.base]; exact hb)

end PyTrie.HexW

namespace PyTrie.HexRaw
open PyTrie PyTrie.Hex PyTrie.HexD PyTrie.HexW
open PyTrie.Props.C01 (Op run spec)

/-- **C01 / C06 through the raw-level reader on the pruned database**: after any history on a pruning (or non-pruning)
    trie, `get` over rlp-decoded nodes fetched from the database as the executor left it returns the last value stored
    under the key (`b""` if none) — no node that is still needed has been pruned, and what is stored is what is needed -/
theorem pruned_db_get (H : Bytes → Bytes) (hlen : ∀ b, (H b).length = 32) (prune : Bool) (ops : List Op) (T : TrieSt) (s : OpSt)
    (h : ReachOpsNC (stdHashing H) (blankRoot H) prune ops T s)
    (hbk : Dict.get? s.store.base (blankRoot H) = none)
    (hsm : ∀ h b, Dict.get? s.store.base h = some b → b.length < 2 ^ 64) (key : Bytes) :
    getD H s.store.base T.root (nibs key) = .ok (spec ops key) := by
  have hcomp := reachOpsNC_complete (stdHashing H) (blankRoot H) prune ops T s h
  have htree : T.tree = run ops :=
    (reachOps_tree (stdHashing H) (blankRoot H) prune ops T s
      (reachOpsNC_reachOps (stdHashing H) (blankRoot H) prune ops T s h)).1
  have hcanon : Canon T.tree := htree ▸ PyTrie.Props.C01.canon_run ops
  have hag : DbAgrees s.store.base s.store.base := fun _ => rfl
  rw [getD_of_complete H hlen T hcanon s.store.base hcomp hbk hsm s.store.base hag (nibs key), htree,
    PyTrie.Props.C01.run_get]

end PyTrie.HexRaw
