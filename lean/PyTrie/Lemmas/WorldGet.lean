import PyTrie.Lemmas.WorldComplete
import PyTrie.Lemmas.WorldPrune
import PyTrie.Props.C01
/-! Towards C01 at world level (`Props/C01World.lean`): after any history of `set` / `delete` through the executor
    (`opSetDel`: database traffic, pruning bookkeeping, root pointer) on an initially empty database, the tree is the
    tree-level run and every node the lookup `opGet` fetches (root fetch, `_traverse_from`'s fetches) is in the
    database — pruning on or off. Run-level hypotheses: the per-step no-collision predicates (`RefSound`, `NoClobber`,
    no node hashing to the blank root). -/
namespace PyTrie.HexW
open PyTrie.Hex hiding get set
open PyTrie.Props.C01 (Op run spec applyOp)

variable (Hs : Hashing) (blankRootHash : Hash)

def opKey : Op → Bytes
  | .set k _ => k
  | .delete k => k

def opVal : Op → Option Bytes
  | .set _ v => some v
  | .delete _ => none

/-- the world reached by applying a history to a fresh trie (`prune` on or off) over an empty plain dict,
    together with the run-level no-collision facts of every step -/
inductive ReachOps (prune : Bool) : List Op → TrieSt → OpSt → Prop where
  | init : ReachOps prune [] { tree := .blank, root := blankRootHash, prune := prune }
      { store := { base := [], cache := none, failAfter := none }, counts := [], pending := [] }
  | step (ops : List Op) (T : TrieSt) (s : OpSt) (o : Op) (T' : TrieSt) :
      ReachOps prune ops T s →
      RefSound Hs T.tree (nibs (opKey o)) →
      (isBlank (opTree Hs T (opKey o) (opVal o)).1 = false → Hs.hashOf (opTree Hs T (opKey o) (opVal o)).1 ≠ blankRootHash) →
      (prune = false → NoClobber s.store.base (opWrites Hs T (opKey o) (opVal o))) →
      (opSetDel Hs blankRootHash T (opKey o) (opVal o) s).2 = .ok T' →
      ReachOps prune (ops ++ [o]) T' (opSetDel Hs blankRootHash T (opKey o) (opVal o) s).1

/-! ### nodes on a path are stored / counted -/

theorem ref_nodeAt (d : Dict Bytes) (t : Node) (q : Path) (n : Node) (hr : Ref Hs d t)
    (hn : nodeAt t q = some n) (hh : Hs.hashed n = true) : Dict.contains d (Hs.hashOf n) = true := by
  fun_induction nodeAt t q with
  | case1 => cases hn; exact contains_of_get? (hr.1 hh)  -- path empty: the node itself
  | case2 | case3 | case5 => cases hn  -- blank, leaf, extension off the path: no node there
  | case4 _ _ _ _ _ ih => exact ih hr.2 hn
  | case6 _ _ a _ ih => exact ih (hr.2 a) hn

theorem storedBelow_nodeAt (d : Dict Bytes) (t : Node) (q : Path) (n : Node) (hs : StoredBelow Hs d t)
    (hn : nodeAt t q = some n) (hq : q ≠ []) (hh : Hs.hashed n = true) :
    Dict.contains d (Hs.hashOf n) = true := by
  fun_induction nodeAt t q with
  | case1 => exact absurd rfl hq
  | case2 | case3 | case5 => cases hn
  | case4 => exact ref_nodeAt Hs d _ _ n hs hn hh
  | case6 _ _ a _ => exact ref_nodeAt Hs d _ _ n (hs a) hn hh

theorem occ_nodeAt (t : Node) (q : Path) (n : Node)
    (hn : nodeAt t q = some n) (hh : Hs.hashed n = true) : 0 < occ Hs t (Hs.hashOf n) := by
  fun_induction nodeAt t q with
  | case1 => cases hn; exact occ_pos_of_hashed Hs hh
  | case2 | case3 | case5 => cases hn
  | case4 _ _ _ _ _ ih => have := ih hn; simp only [occ]; omega
  | case6 ch _ a _ ih =>
    have h1 := ih hn
    have h2 := le_sumCh (fun i => occ Hs (ch i) (Hs.hashOf n)) a
    simp only [occ]; omega

theorem occProper_nodeAt (t : Node) (q : Path) (n : Node)
    (hn : nodeAt t q = some n) (hq : q ≠ []) (hh : Hs.hashed n = true) :
    0 < occProper Hs t (Hs.hashOf n) := by
  fun_induction nodeAt t q with
  | case1 => exact absurd rfl hq
  | case2 | case3 | case5 => cases hn
  | case4 => exact occ_nodeAt Hs _ _ n hn hh
  | case6 ch _ a _ =>
    have h1 := occ_nodeAt Hs (ch a) _ n hn hh
    have h2 := le_sumCh (fun i => occ Hs (ch i) (Hs.hashOf n)) a
    simp only [occProper]; omega

/-! ### the invariant of a history -/

/-- what holds of the world after a history: the tree is the tree-level run, the database is a plain dict
    without injected faults, and the database invariant of the trie's mode holds -/
def Inv (prune : Bool) (ops : List Op) (T : TrieSt) (s : OpSt) : Prop :=
  T.tree = run ops ∧ T.prune = prune ∧ s.store.cache = none ∧ s.store.failAfter = none ∧
  (if prune = true then PruneInv Hs blankRootHash T s else Complete Hs blankRootHash s.store.base T)

theorem run_snoc (ops : List Op) (o : Op) : run (ops ++ [o]) = applyOp (run ops) o := by
  simp [run, List.foldl_append]

theorem inv_init (prune : Bool) :
    Inv Hs blankRootHash prune [] { tree := .blank, root := blankRootHash, prune := prune }
      { store := { base := [], cache := none, failAfter := none }, counts := [], pending := [] } := by
  refine ⟨rfl, rfl, rfl, rfl, ?_⟩
  cases prune
  · exact ⟨by simp [isBlank], trivial⟩
  · exact pruneInv_init Hs blankRootHash

theorem inv_step (prune : Bool) (ops : List Op) (T : TrieSt) (s : OpSt)
    (hinv : Inv Hs blankRootHash prune ops T s) (o : Op)
    (hrs : RefSound Hs T.tree (nibs (opKey o)))
    (hbl : isBlank (opTree Hs T (opKey o) (opVal o)).1 = false → Hs.hashOf (opTree Hs T (opKey o) (opVal o)).1 ≠ blankRootHash)
    (hnc : prune = false → NoClobber s.store.base (opWrites Hs T (opKey o) (opVal o))) :
    ∃ T', (opSetDel Hs blankRootHash T (opKey o) (opVal o) s).2 = .ok T' ∧
      Inv Hs blankRootHash prune (ops ++ [o]) T' (opSetDel Hs blankRootHash T (opKey o) (opVal o) s).1 := by
  obtain ⟨htree, hprune, hcache, hfa, hdb⟩ := hinv
  have hcanon : Canon T.tree := htree ▸ PyTrie.Props.C01.canon_run ops
  have hfa' := failAfter_none_preserved Hs blankRootHash T (opKey o) (opVal o) s hfa
  cases prune with
  | false =>
    simp only [Bool.false_eq_true, if_false] at hdb
    obtain ⟨T', hok, ht, hp', _, hcomp⟩ := opSetDel_complete Hs blankRootHash T hprune hcanon (opKey o) (opVal o) s
      hcache hfa hdb hrs (hnc rfl) hbl
    have hc' := (opSetDel_plain Hs blankRootHash T hprune (opKey o) (opVal o) s hcache _ fun _ h => h).1
    refine ⟨T', hok, ?_, hp', hc', hfa', ?_⟩
    · have ht' : T'.tree = applyOp T.tree o := by cases o <;> exact ht
      rw [ht', run_snoc, htree]
    · exact hcomp
  | true =>
    simp only [if_true] at hdb
    obtain ⟨T', hok, ht, hpi⟩ := opSetDel_pruneInv Hs blankRootHash T hcanon (opKey o) (opVal o) s hfa hdb hrs hbl
    refine ⟨T', hok, ?_, hpi.prune, hpi.plain, hfa', ?_⟩
    · have ht' : T'.tree = applyOp T.tree o := by cases o <;> exact ht
      rw [ht', run_snoc, htree]
    · exact hpi

theorem reachOps_inv (prune : Bool) (ops : List Op) (T : TrieSt) (s : OpSt)
    (h : ReachOps Hs blankRootHash prune ops T s) : Inv Hs blankRootHash prune ops T s := by
  induction h with
  | init => exact inv_init Hs blankRootHash prune
  | step ops T s o T' _ hrs hbl hnc hok ih =>
    obtain ⟨T'', hok', hinv⟩ := inv_step Hs blankRootHash prune ops T s ih o hrs hbl hnc
    rw [hok] at hok'
    cases hok'
    exact hinv

theorem inv_reads_present (prune : Bool) (ops : List Op) (T : TrieSt) (s : OpSt)
    (hinv : Inv Hs blankRootHash prune ops T s) (q : Path) (n : Node)
    (hn : nodeAt T.tree q = some n) (hq : q ≠ []) (hh : Hs.hashed n = true) :
    s.store.contains (Hs.hashOf n) = true := by
  obtain ⟨_, _, hcache, _, hdb⟩ := hinv
  rw [Store.contains_plain _ hcache]
  cases prune with
  | false =>
    simp only [Bool.false_eq_true, if_false] at hdb
    exact storedBelow_nodeAt Hs _ _ q n hdb.2 hn hq hh
  | true =>
    simp only [if_true] at hdb
    rw [hdb.keys]
    have := occProper_nodeAt Hs _ q n hn hq hh
    unfold occRoot; omega

theorem inv_root_present (prune : Bool) (ops : List Op) (T : TrieSt) (s : OpSt)
    (hinv : Inv Hs blankRootHash prune ops T s) :
    (T.root != blankRootHash && !(s.store.contains T.root)) = false := by
  obtain ⟨_, _, hcache, _, hdb⟩ := hinv
  cases prune with
  | false => exact complete_root_present Hs blankRootHash T s.store hcache (by simpa using hdb)
  | true =>
    simp only [if_true] at hdb
    rw [Store.contains_plain _ hcache]
    have h1 := hdb.root
    cases hb : isBlank T.tree
    · rw [hb] at h1
      simp only [Bool.false_eq_true, if_false] at h1
      have : Dict.contains s.store.base T.root = true := by
        rw [hdb.keys, h1.1]; simp [occRoot, hb]
      simp [this]
    · rw [hb] at h1
      simp only [if_true] at h1
      simp [h1]

theorem reachOps_tree (prune : Bool) (ops : List Op) (T : TrieSt) (s : OpSt)
    (h : ReachOps Hs blankRootHash prune ops T s) : T.tree = run ops ∧ T.prune = prune := by
  have hi := reachOps_inv Hs blankRootHash prune ops T s h
  exact ⟨hi.1, hi.2.1⟩

end PyTrie.HexW
