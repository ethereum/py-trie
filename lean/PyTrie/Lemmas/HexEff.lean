import PyTrie.Lemmas.HexCanon
import PyTrie.Model.HexEff
/-! The effect-instrumented `setE` / `deleteE` compute `set` / `delete`, and their event lists balance the
    reference counts: every hash gains as many references as are persisted and loses as many as are pruned.
    For every hashing; for `deleteE`, on runs whose reference comparisons are sound (`RefSound`), and
    `deleteE_fst` on canonical trees (`Canon`). -/
namespace PyTrie.Hex
open Node
variable (Hs : Hashing)

theorem setE_fst (t : Node) (k : Path) (v : Bytes) : (setE Hs t k v).1 = set t k v := by
  induction t generalizing k with
  | blank => rfl
  | leaf p pv =>
    simp only [setE, set]
    generalize List.drop (cpl p k) p = pr; generalize List.drop (cpl p k) k = kr
    cases pr <;> cases kr <;> rfl
  | ext p c ih =>
    simp only [setE, set]
    generalize List.drop (cpl p k) p = pr; generalize List.drop (cpl p k) k = kr
    cases pr <;> cases kr <;> simp [ih]
  | branch ch bv ih => cases k <;> simp [setE, set, ih]

def cntPrune (evs : List Ev) (h : Hash) : Nat := evs.count (Ev.prune h)
def isPersistOf (h : Hash) : Ev → Bool
  | .persist h' _ => h' == h
  | _ => false
def cntPersist (evs : List Ev) (h : Hash) : Nat := evs.countP (isPersistOf h)

def self (n : Node) (h : Hash) : Nat := if Hs.hashed n ∧ Hs.hashOf n = h then 1 else 0

def sumCh (f : Nib → Nat) : Nat := ((List.finRange 16).map f).sum

/-- number of hashed subtrees (including the node itself) whose hash is `h` -/
def occ : Node → Hash → Nat
  | blank, _ => 0
  | leaf p v, h => self Hs (leaf p v) h
  | ext p c, h => self Hs (ext p c) h + occ c h
  | branch ch v, h => self Hs (branch ch v) h + sumCh (fun i => occ (ch i) h)

def occProper : Node → Hash → Nat
  | blank, _ => 0
  | leaf _ _, _ => 0
  | ext _ c, h => occ Hs c h
  | branch ch _, h => sumCh (fun i => occ Hs (ch i) h)

theorem occ_eq (n : Node) (h : Hash) : occ Hs n h = self Hs n h + occProper Hs n h := by
  cases n <;> simp [occ, occProper, self, Hs.hashed_blank]

theorem sum_map_upd_aux (l : List Nib) (g : Nib → Nat) (i : Nib) (a : Nat) (hn : l.Nodup) :
    (l.map (fun j => if j = i then a else g j)).sum + (if i ∈ l then g i else 0) =
    (l.map g).sum + (if i ∈ l then a else 0) := by
  induction l with
  | nil => simp
  | cons x xs ih =>
    have hx : x ∉ xs := (List.nodup_cons.1 hn).1
    have := ih (List.nodup_cons.1 hn).2
    simp only [List.map_cons, List.sum_cons, List.mem_cons]
    by_cases hxi : x = i
    · subst hxi
      simp only [↓reduceIte, true_or, hx] at *
      omega
    · have hix : ¬ i = x := fun h => hxi h.symm
      simp only [hxi, hix, ↓reduceIte, false_or] at *
      omega

theorem sumCh_upd (g : Nib → Nat) (i : Nib) (a : Nat) :
    sumCh (fun j => if j = i then a else g j) + g i = sumCh g + a := by
  have := sum_map_upd_aux (List.finRange 16) g i a (List.nodup_finRange 16)
  simpa [sumCh, List.mem_finRange] using this

theorem sumCh_occ_upd (ch : Nib → Node) (i : Nib) (x : Node) (h : Hash) :
    sumCh (fun j => occ Hs (upd ch i x j) h) + occ Hs (ch i) h =
    sumCh (fun j => occ Hs (ch j) h) + occ Hs x h := by
  have := sumCh_upd (fun j => occ Hs (ch j) h) i (occ Hs x h)
  have e : (fun j => occ Hs (upd ch i x j) h) = (fun j => if j = i then occ Hs x h else occ Hs (ch j) h) := by
    funext j; unfold upd; split <;> rfl
  rw [e]; exact this

theorem sum_map_zero {α} (l : List α) : (l.map (fun _ => 0)).sum = 0 := by
  induction l <;> simp_all
theorem sumCh_zero : sumCh (fun _ => 0) = 0 := sum_map_zero _

@[simp] theorem cntPrune_append (a b : List Ev) (h : Hash) :
    cntPrune (a ++ b) h = cntPrune a h + cntPrune b h := by simp [cntPrune]
@[simp] theorem cntPersist_append (a b : List Ev) (h : Hash) :
    cntPersist (a ++ b) h = cntPersist a h + cntPersist b h := by simp [cntPersist]
@[simp] theorem cntPrune_nil (h : Hash) : cntPrune [] h = 0 := rfl
@[simp] theorem cntPersist_nil (h : Hash) : cntPersist [] h = 0 := rfl
@[simp] theorem cnt_pruneEv (n : Node) (h : Hash) :
    cntPrune (pruneEv Hs n) h = self Hs n h ∧ cntPersist (pruneEv Hs n) h = 0 := by
  unfold pruneEv self; split <;> simp [cntPrune, cntPersist, isPersistOf, List.count_cons, *]
@[simp] theorem cnt_persistEv (n : Node) (h : Hash) :
    cntPrune (persistEv Hs n) h = 0 ∧ cntPersist (persistEv Hs n) h = self Hs n h := by
  unfold persistEv self; split <;> simp [cntPrune, cntPersist, isPersistOf, *]
@[simp] theorem cnt_readEv (n : Node) (h : Hash) :
    cntPrune (readEv Hs n) h = 0 ∧ cntPersist (readEv Hs n) h = 0 := by
  unfold readEv cntPrune cntPersist; split <;> simp [isPersistOf]

/-- a write-back that happens only below a non-empty path segment -/
@[simp] theorem cnt_ite_persistEv (c : Prop) [Decidable c] (n : Node) (h : Hash) :
    cntPrune (if c then [] else persistEv Hs n) h = 0 ∧
    cntPersist (if c then [] else persistEv Hs n) h = if c then 0 else self Hs n h := by
  split <;> simp

theorem occ_wrap (c : Path) (n : Node) (h : Hash) :
    occ Hs (wrap c n) h = (if c = [] then 0 else self Hs (ext c n) h) + occ Hs n h := by
  unfold wrap; split <;> simp [occ]

theorem occ_wrap_self (c : Path) (n : Node) (h : Hash) :
    occ Hs (wrap c n) h = occ Hs n h + if c = [] then 0 else self Hs (wrap c n) h := by
  unfold wrap; split <;> simp [occ]; omega

theorem occProper_wrap (c : Path) (n : Node) (h : Hash) :
    occProper Hs (wrap c n) h = occProper Hs n h + if c = [] then 0 else self Hs n h := by
  unfold wrap; split
  · simp
  · simp only [occProper, occ_eq Hs n, *]; omega

theorem wrap_nil (n : Node) : wrap [] n = n := rfl

theorem sumCh_single (x : Node) (i : Nib) (h : Hash) :
    sumCh (fun j => occ Hs (upd emptyCh i x j) h) = occ Hs x h := by
  have := sumCh_occ_upd Hs emptyCh i x h
  rw [show sumCh (fun j => occ Hs (emptyCh j) h) = 0 from sumCh_zero] at this
  simpa [emptyCh, occ] using this

theorem sumCh_pair (x y : Node) (i j : Nib) (hij : i ≠ j) (h : Hash) :
    sumCh (fun l => occ Hs (upd (upd emptyCh i x) j y l) h) = occ Hs x h + occ Hs y h := by
  have := sumCh_occ_upd Hs (upd emptyCh i x) j y h
  rw [sumCh_single, upd_ne _ _ _ _ hij.symm] at this
  simpa [emptyCh, occ] using this

theorem setE_balance (t : Node) (k : Path) (v : Bytes) (h : Hash) :
    occProper Hs (setE Hs t k v).1 h + cntPrune (setE Hs t k v).2 h =
    occ Hs t h + cntPersist (setE Hs t k v).2 h := by
  induction t generalizing k with
  | blank => simp [setE, occ, occProper]
  | leaf p pv =>
    have hne := cpl_head_ne p k
    simp only [setE]
    generalize List.take (cpl p k) p = cm
    split <;> simp only [occProper_wrap]
    · simp [occ, occProper]
    · simp [occ, occProper, sumCh_single]; omega
    · simp [occ, occProper, sumCh_single]; omega
    · next h1 h2 => simp [occ, occProper, sumCh_pair Hs _ _ _ _ (hne _ _ _ _ h1 h2)]; omega
  | ext p c ih =>
    have hne := cpl_head_ne p k
    simp only [setE]
    generalize List.take (cpl p k) p = cm
    split <;> simp only [occProper_wrap]
    · have := ih (k.drop (cpl p k))
      simp [occ, occProper]
      rw [occ_eq Hs (setE Hs c _ v).1]
      omega
    · simp [occ, occProper, sumCh_single, occ_wrap_self]; omega
    · next h1 h2 => simp [occ, occProper, sumCh_pair Hs _ _ _ _ (hne _ _ _ _ h1 h2), occ_wrap_self]; omega
  | branch ch bv ih =>
    cases k with
    | nil => simp [setE, occ, occProper]; omega
    | cons n k =>
      have := ih n k
      have hs := sumCh_occ_upd Hs ch n (setE Hs (ch n) k v).1 h
      rw [occ_eq Hs (setE Hs (ch n) k v).1] at hs
      simp [setE, occProper, occ]
      omega

/-! ### `deleteE` and `normalizeE` -/

theorem normalizeE_fst (ch : Nib → Node) (v : Bytes) : (normalizeE Hs ch v).1 = normalize ch v := by
  unfold normalizeE normalize
  generalize liveIdx ch = l
  match l, v with
  | [], [] => rfl
  | [], _ :: _ => rfl
  | [i], [] => simp only []; cases ch i <;> rfl
  | [i], _ :: _ => rfl
  | _ :: _ :: _, _ => rfl

theorem occ_of_isBlank {n : Node} (hb : isBlank n = true) (h : Hash) : occ Hs n h = 0 := by
  rw [(isBlank_iff n).1 hb]; rfl
theorem occProper_of_isBlank {n : Node} (hb : isBlank n = true) (h : Hash) : occProper Hs n h = 0 := by
  rw [(isBlank_iff n).1 hb]; rfl

theorem sumCh_occ_live (ch : Nib → Node) (h : Hash) :
    sumCh (fun j => occ Hs (ch j) h) = ((liveIdx ch).map fun j => occ Hs (ch j) h).sum := by
  unfold sumCh liveIdx
  induction List.finRange 16 with
  | nil => rfl
  | cons x xs ih =>
    cases hb : isBlank (ch x) with
    | false => simp [hb, ih]
    | true => simp [hb, ih, occ_of_isBlank Hs hb]

/-- balance of normalisation: the merged child loses its own reference, nothing else changes -/
theorem normalizeE_balance (ch : Nib → Node) (v : Bytes) (h : Hash) :
    occProper Hs (normalizeE Hs ch v).1 h + cntPrune (normalizeE Hs ch v).2 h =
      sumCh (fun j => occ Hs (ch j) h) ∧ cntPersist (normalizeE Hs ch v).2 h = 0 := by
  rw [sumCh_occ_live]
  unfold normalizeE
  generalize hl : liveIdx ch = l
  match l, v with
  | [], [] => simp [occProper]
  | [], _ :: _ => simp [occProper]
  | [i], [] =>
    simp only []
    split
    · next p lv e => simp [occProper, e, occ]
    · next p c e => simp [occProper, e, occ]; omega
    · simp [occProper]
  | [i], _ :: _ => simp [occProper, sumCh_occ_live, hl]
  | _ :: _ :: _, _ => simp [occProper, sumCh_occ_live, hl]

theorem self_blank (h : Hash) : self Hs blank h = 0 := by simp [self, Hs.hashed_blank]

/-- The two "reference unchanged" short-circuits of `_delete_kv_node` / `_delete_branch_node` met on
    the way down to `k` are sound: an unchanged reference means an unchanged subtree. This is a
    statement about one run; it can fail only if that very run exhibits a hash collision. -/
def RefSound : Node → Path → Prop
  | ext p c, k => p <+: k → RefSound c (k.drop p.length) ∧
      (Hs.refEq (deleteE Hs c (k.drop p.length)).1 c = true → (deleteE Hs c (k.drop p.length)).1 = c)
  | branch ch _, n :: k => RefSound (ch n) k ∧
      (Hs.refEq (deleteE Hs (ch n) k).1 (ch n) = true → (deleteE Hs (ch n) k).1 = ch n)
  | _, _ => True

theorem refSound_of_sound (hre : ∀ a b, Hs.refEq a b = true → a = b) (t : Node) (k : Path) :
    RefSound Hs t k := by
  induction t generalizing k with
  | blank => simp [RefSound]
  | leaf p v => simp [RefSound]
  | ext p c ih => simp only [RefSound]; intro _; exact ⟨ih _, hre _ _⟩
  | branch ch v ih =>
    cases k with
    | nil => simp [RefSound]
    | cons n k => simp only [RefSound]; exact ⟨ih n k, hre _ _⟩

/-- Reference-count balance for delete, for every hashing, on every run whose reference
    comparisons are sound. -/
theorem deleteE_balance (t : Node) (k : Path) (hrs : RefSound Hs t k) (h : Hash) :
    occProper Hs (deleteE Hs t k).1 h + cntPrune (deleteE Hs t k).2 h =
    occ Hs t h + cntPersist (deleteE Hs t k).2 h := by
  induction t generalizing k with
  | blank => simp [deleteE, occ, occProper]
  | leaf p v => simp only [deleteE]; split <;> simp [occ, occProper]
  | ext p c ih =>
    simp only [deleteE]
    split
    · next hpk =>
      obtain ⟨hrs1, hrs2⟩ := hrs hpk
      have IH := ih _ hrs1
      generalize deleteE Hs c (k.drop p.length) = r at IH hrs2
      obtain ⟨r1, r2⟩ := r
      dsimp only at IH hrs2 ⊢
      split
      · next hr =>
        obtain rfl : r1 = c := hrs2 hr
        rw [occ_eq] at IH
        simp [occ, occProper]
        omega
      · cases r1 <;> simp [occ, occProper, self_blank] at IH ⊢ <;> omega
    · simp [occ, occProper]; omega
  | branch ch v ih =>
    cases k with
    | nil =>
      have := normalizeE_balance Hs ch [] h
      simp [deleteE, occ]
      omega
    | cons n k =>
      have IH := ih n k hrs.1
      have hrs2 := hrs.2
      simp only [deleteE]
      generalize deleteE Hs (ch n) k = r at IH hrs2
      obtain ⟨r1, r2⟩ := r
      dsimp only at IH hrs2 ⊢
      have hs := sumCh_occ_upd Hs ch n r1 h
      split
      · next hr =>
        obtain rfl : r1 = ch n := hrs2 hr
        rw [occ_eq] at IH
        simp [occ, occProper]
        omega
      · split
        · next hb =>
          obtain rfl := (isBlank_iff _).1 hb
          have nb := normalizeE_balance Hs (upd ch n blank) v h
          simp [occ, occProper, self_blank] at IH hs nb ⊢
          omega
        · rw [occ_eq Hs r1] at hs
          simp [occ, occProper]
          omega

theorem upd_self_eq (ch : Nib → Node) (n : Nib) : upd ch n (ch n) = ch := by
  funext j; unfold upd; split
  · next h => rw [h]
  · rfl

theorem normalize_of_weight {ch : Nib → Node} {v : Bytes} (hw : 2 ≤ weight ch v) :
    normalize ch v = branch ch v := by
  unfold normalize
  split
  -- the first three alternatives have weight below 2
  iterate 3 simp [weight, *] at hw
  rfl

theorem deleteE_fst (t : Node) (k : Path) (hrs : RefSound Hs t k) (hc : Canon t) :
    (deleteE Hs t k).1 = delete t k := by
  induction t generalizing k with
  | blank => rfl
  | leaf p v => simp only [deleteE, delete]
  | ext p c ih =>
    simp only [deleteE, delete]
    split
    · next hpk =>
      obtain ⟨hrs1, hrs2⟩ := hrs hpk
      rw [← ih _ hrs1 hc.2.2]
      generalize deleteE Hs c (k.drop p.length) = r at hrs2
      split
      · next hr =>
        rw [hrs2 hr]
        match c, hc.2.1 with
        | branch ch v, _ => rfl
      · cases r.1 <;> rfl
    · rfl
  | branch ch v ih =>
    cases k with
    | nil => simp only [deleteE, delete, normalizeE_fst]
    | cons n k =>
      simp only [deleteE, delete]
      rw [← ih n k hrs.1 (hc.1 n)]
      have hrs2 := hrs.2
      generalize deleteE Hs (ch n) k = r at hrs2
      split
      · next hr =>
        rw [hrs2 hr, upd_self_eq]
        split
        · exact (normalize_of_weight hc.2).symm
        · rfl
      · split
        · simp only [normalizeE_fst]
        · rfl

end PyTrie.Hex
