import PyTrie.Lemmas.BinProofs
/-! Tree-level helpers for C13 (`BranchProofs.lean`): the list of nodes `_get` reads (`pathNodes`),
    unfoldings of `getWitness`, and inclusions between `pathNodes`, `getBranch`, `getWitness`, `trieNodes`. -/
namespace PyTrie.Bin
open BNode

theorem except_map_ok {ε α β : Type} (f : α → β) (x : Except ε α) (y : β) :
    x.map f = .ok y ↔ ∃ a, x = .ok a ∧ f a = y := by
  cases x <;> simp [Except.map]

theorem except_map_error {ε α β : Type} (f : α → β) (x : Except ε α) (e : ε) :
    x.map f = .error e ↔ x = .error e := by
  cases x <;> simp [Except.map]

theorem length_drop_lt {p k : Bits} (hp : p ≠ []) (hk : k ≠ []) : (k.drop p.length).length < k.length := by
  have := List.length_pos_iff.2 hp
  have := List.length_pos_iff.2 hk
  rw [List.length_drop]
  omega

theorem bcanon_child {l r : BNode} (hc : BCanon (branch l r)) : ∀ b : Bool, BCanon (if b = false then l else r)
  | false => hc.1
  | true => hc.2

/-- the nodes `_get` reads for key `k` -/
def pathNodes : BNode → Bits → List BNode
  | leaf v, _ => [leaf v]
  | kv p c, k => if k = [] then [kv p c] else if p <+: k then kv p c :: pathNodes c (k.drop p.length) else [kv p c]
  | branch l r, [] => [branch l r]
  | branch l r, b :: k => branch l r :: (if b = false then pathNodes l k else pathNodes r k)

theorem pathNodes_leaf (v : Bytes) (k : Bits) : pathNodes (leaf v) k = [leaf v] := rfl
theorem pathNodes_kv (p : Bits) (c : BNode) (k : Bits) : pathNodes (kv p c) k =
    if k = [] then [kv p c] else if p <+: k then kv p c :: pathNodes c (k.drop p.length) else [kv p c] := rfl
theorem pathNodes_branch_nil (l r : BNode) : pathNodes (branch l r) [] = [branch l r] := rfl
theorem pathNodes_branch_cons (l r : BNode) (b : Bool) (k : Bits) :
    pathNodes (branch l r) (b :: k) = branch l r :: pathNodes (if b = false then l else r) k := by
  cases b <;> rfl

theorem pathNodes_kv_subset (p : Bits) (c : BNode) (k : Bits) :
    pathNodes (kv p c) k ⊆ kv p c :: pathNodes c (k.drop p.length) := by
  rw [pathNodes_kv]
  split
  · simp
  · split <;> simp

theorem pathNodes_head (t : BNode) (k : Bits) : (pathNodes t k).head? = some t := by
  cases t with
  | leaf v => rfl
  | kv p c =>
    rw [pathNodes_kv]
    split
    · rfl
    · split <;> rfl
  | branch l r => cases k <;> rfl

theorem self_mem_pathNodes (t : BNode) (k : Bits) : t ∈ pathNodes t k :=
  List.mem_of_head? (pathNodes_head t k)

theorem pathNodes_sub_trieNodes (t : BNode) (k : Bits) : ∀ x ∈ pathNodes t k, x ∈ trieNodes t := by
  show pathNodes t k ⊆ trieNodes t
  induction t generalizing k with
  | leaf v => exact List.Subset.refl _
  | kv p c ih => exact (pathNodes_kv_subset p c k).trans (List.cons_subset_cons _ (ih _))
  | branch l r ihl ihr =>
    cases k with
    | nil => exact List.cons_subset_cons _ (List.nil_subset _)
    | cons b k =>
      rw [pathNodes_branch_cons]
      refine List.cons_subset.2 ⟨self_mem_trieNodes _, .trans ?_ (trieNodes_child_subset l r b)⟩
      cases b
      · exact ihl k
      · exact ihr k

theorem getBranch_ok_eq (t : BNode) (k : Bits) (l : List BNode) (h : getBranch t k = .ok l) :
    l = pathNodes t k := by
  fun_induction getBranch t k generalizing l with
  | case1 v => cases h; rfl
  | case2 v k hk => cases h
  | case3 p c => cases h
  | case4 p c k hk hp ih =>
    obtain ⟨l', h1, rfl⟩ := (except_map_ok ..).1 h
    rw [pathNodes_kv, if_neg hk, if_pos hp, ih l' h1]
  | case5 p c k hk hp => cases h; rw [pathNodes_kv, if_neg hk, if_neg hp]
  | case6 l r => cases h
  | case7 l r k ih =>
    obtain ⟨l', h1, rfl⟩ := (except_map_ok ..).1 h
    rw [ih l' h1]; rfl
  | case8 l r b k hb ih =>
    obtain ⟨l', h1, rfl⟩ := (except_map_ok ..).1 h
    rw [ih l' h1, pathNodes_branch_cons, if_neg hb]

theorem getWitness_leaf (v : Bytes) (k : Bits) :
    getWitness (leaf v) k = if k = [] then .ok [leaf v] else .error .tooLong := rfl

theorem getWitness_kv (p : Bits) (c : BNode) (k : Bits) : getWitness (kv p c) k =
    if k.length < p.length ∧ k <+: p then .ok ((if k = [] then trieNodes (kv p c) else []) ++ kv p c :: trieNodes c)
    else if p <+: k then
      (getWitness c (k.drop p.length)).map (fun w => (if k = [] then trieNodes (kv p c) else []) ++ kv p c :: w)
    else .ok ((if k = [] then trieNodes (kv p c) else []) ++ [kv p c]) := rfl

theorem getWitness_branch_nil (l r : BNode) : getWitness (branch l r) [] =
    (getWitness r []).map (fun w => trieNodes (branch l r) ++ branch l r :: w) := rfl

theorem getWitness_branch_cons (l r : BNode) (b : Bool) (k : Bits) : getWitness (branch l r) (b :: k) =
    if b = false then (getWitness l k).map (fun w => branch l r :: w)
    else (getWitness r k).map (fun w => branch l r :: w) := rfl

/-- below the root every witness has this shape: `n` itself, preceded by all nodes under `n` when the prefix is
    used up, followed by nodes of a child -/
theorem witness_cons_subset {n : BNode} {w : List BNode} (k : Bits) (hw : w ⊆ trieNodes n) :
    (if k = [] then trieNodes n else []) ++ n :: w ⊆ trieNodes n := by
  refine List.append_subset.2 ⟨?_, List.cons_subset.2 ⟨self_mem_trieNodes n, hw⟩⟩
  split
  · exact List.Subset.refl _
  · exact List.nil_subset _

theorem getWitness_subset (t : BNode) (p : Bits) (w : List BNode) (h : getWitness t p = .ok w) :
    w ⊆ trieNodes t := by
  fun_induction getWitness t p generalizing w with
  | case1 v => cases h; exact List.Subset.refl _
  | case2 v p hp => cases h
  | case3 q c p _ h1 => cases h; exact witness_cons_subset p (List.subset_cons_self _ _)
  | case4 q c p _ h1 hqp ih =>
    obtain ⟨w', h2, rfl⟩ := (except_map_ok ..).1 h
    exact witness_cons_subset p (List.subset_cons_of_subset _ (ih w' h2))
  | case5 q c p _ h1 hqp => cases h; exact witness_cons_subset p (List.nil_subset _)
  | case6 l r _ ih =>
    obtain ⟨w', h1, rfl⟩ := (except_map_ok ..).1 h
    exact witness_cons_subset [] ((ih w' h1).trans (trieNodes_child_subset l r true))
  | case7 l r p' _ ih =>
    obtain ⟨w', h1, rfl⟩ := (except_map_ok ..).1 h
    exact witness_cons_subset (false :: p') ((ih w' h1).trans (trieNodes_child_subset l r false))
  | case8 l r b p' hb _ ih =>
    obtain ⟨w', h1, rfl⟩ := (except_map_ok ..).1 h
    exact witness_cons_subset (b :: p') ((ih w' h1).trans (trieNodes_child_subset l r true))

theorem prefix_drop_of_prefix {p k : Bits} (n : Nat) (h : p <+: k) : p.drop n <+: k.drop n := by
  obtain ⟨s, rfl⟩ := h
  rw [List.drop_append]
  exact List.prefix_append _ _

theorem pathNodes_sub_getWitness (t : BNode) (p : Bits) (w : List BNode) (h : getWitness t p = .ok w)
    (k : Bits) (hpk : p <+: k) : pathNodes t k ⊆ w := by
  fun_induction getWitness t p generalizing w k with
  | case1 v => cases h; exact List.Subset.refl _
  | case2 v p hp => cases h
  | case3 q c p _ h1 =>
    cases h
    exact List.subset_append_of_subset_right _ (pathNodes_sub_trieNodes (kv q c) k)
  | case4 q c p _ h1 hqp ih =>
    obtain ⟨w', h2, rfl⟩ := (except_map_ok ..).1 h
    exact List.subset_append_of_subset_right _ ((pathNodes_kv_subset q c k).trans
      (List.cons_subset_cons _ (ih w' h2 _ (prefix_drop_of_prefix _ hpk))))
  | case5 q c p _ h1 hqp =>
    cases h
    apply List.subset_append_of_subset_right
    rw [pathNodes_kv]
    split
    · exact List.Subset.refl _
    · rw [if_neg]
      · exact List.Subset.refl _
      · intro hqk
        -- `p` and `q` are prefixes of `k`, hence comparable; both ways are excluded
        rcases List.prefix_or_prefix_of_prefix hpk hqk with h5 | h5
        · have : ¬ p.length < q.length := fun hlt => h1 ⟨hlt, h5⟩
          exact hqp (h5.eq_of_length_le (by omega) ▸ List.prefix_refl _)
        · exact hqp h5
  | case6 l r _ ih =>
    obtain ⟨w', h1, rfl⟩ := (except_map_ok ..).1 h
    exact List.subset_append_of_subset_left _ (pathNodes_sub_trieNodes _ k)
  | case7 l r p' _ ih =>
    obtain ⟨w', h1, rfl⟩ := (except_map_ok ..).1 h
    obtain ⟨s, rfl⟩ := hpk
    exact List.cons_subset_cons _ (ih w' h1 _ (List.prefix_append _ _))
  | case8 l r b p' hb _ ih =>
    obtain ⟨w', h1, rfl⟩ := (except_map_ok ..).1 h
    obtain ⟨s, rfl⟩ := hpk
    rw [List.cons_append, pathNodes_branch_cons, if_neg hb]
    exact List.cons_subset_cons _ (ih w' h1 _ (List.prefix_append _ _))

end PyTrie.Bin
