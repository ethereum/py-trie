import PyTrie.Lemmas.BinBasic
/-! `bsetS`, by the same cases as `bset`: where `_set` does not recurse it returns `bset`'s result and an
    explicit save list, where it does it is `saveNew` of the recursive call. Hence: the first component is
    `bset`, nothing is saved on raise, and the saves are complete. -/
namespace PyTrie.Bin
open BNode

/-- the nodes `_set_kv_node` hands to `_hash_and_save` when it builds `splitNode`, in call order -/
def splitSaves (cm : Bits) (kb : Bool) (pt : Bits) (c : BNode) (kt : Bits) (v : Bytes) : List BNode :=
  leaf v :: (if kt = [] then [] else [kv kt (leaf v)]) ++ (if pt = [] then [] else [kv pt c]) ++
    splitNode [] kb pt c kt v :: (if cm = [] then [] else [kv cm (splitNode [] kb pt c kt v)])

/-- how `_set_kv_node` / `_set_branch_node` pass on the outcome of the recursive call: an exception passes
    through; otherwise the parent is rebuilt (`f`) and, unless it has become blank, saved -/
def saveNew (f : Option BNode → Option BNode) :
    Except Err (Option BNode) × List BNode → Except Err (Option BNode) × List BNode
  | (.error e, s) => (.error e, s)
  | (.ok o, s) => (.ok (f o), s ++ (f o).toList)

theorem saveNew_fst (f : Option BNode → Option BNode) (x : Except Err (Option BNode) × List BNode) :
    (saveNew f x).1 = x.1.map f := by
  rcases x with ⟨_ | _, _⟩ <;> rfl

theorem saveNew_error {f : Option BNode → Option BNode} {x : Except Err (Option BNode) × List BNode}
    {e : Err} (h : (saveNew f x).1 = .error e) : x.1 = .error e ∧ (saveNew f x).2 = x.2 := by
  rcases x with ⟨_ | _, _⟩
  · exact ⟨h, rfl⟩
  · cases h

theorem saveNew_ok {f : Option BNode → Option BNode} {x : Except Err (Option BNode) × List BNode}
    {n' : BNode} (h : (saveNew f x).1 = .ok (some n')) :
    ∃ o, x.1 = .ok o ∧ f o = some n' ∧ (saveNew f x).2 = x.2 ++ [n'] := by
  rcases x with ⟨_ | o, s⟩
  · cases h
  · have h : f o = some n' := by injection h
    exact ⟨o, rfl, h, by simp [saveNew, h]⟩

theorem bsetS_leaf (x : Bytes) (k : Bits) (v : Bytes) (sub : Bool) :
    bsetS (leaf x) k v sub =
      (bset (leaf x) k v sub, if k = [] ∧ ¬ (v = [] ∨ sub) then [leaf v] else []) := by
  by_cases hk : k = [] <;> cases sub <;> by_cases hv : v = [] <;> simp [bsetS, bset, hk, hv]

theorem bsetS_kv_nil (p : Bits) (c : BNode) (v : Bytes) (sub : Bool) :
    bsetS (kv p c) [] v sub = (bset (kv p c) [] v sub, []) := by
  cases sub <;> rfl

theorem bsetS_kv_prefix {p : Bits} {c : BNode} {k : Bits} {v : Bytes} {sub : Bool}
    (hk : k ≠ []) (h : k <+: p) (hne : k ≠ p) :
    bsetS (kv p c) k v sub = (bset (kv p c) k v sub, []) := by
  obtain ⟨hlt, hp⟩ := proper_prefix h hne
  simp only [bsetS, bset, if_neg hk, hlt, h, and_true, if_neg hp, if_pos ((prefix_iff_cpl p k).1 h)]
  cases sub <;> by_cases hv : v = [] <;> simp [hv]

theorem bsetS_kv_append {p : Bits} {c : BNode} {kr : Bits} {v : Bytes} {sub : Bool} (h : p ++ kr ≠ []) :
    bsetS (kv p c) (p ++ kr) v sub = saveNew (Option.map (mkKv p)) (bsetS c kr v sub) := by
  have hlt : ¬ (p ++ kr).length < p.length := by simp
  rw [bsetS, if_neg h, if_neg (fun h' => hlt h'.2.1), if_pos (List.prefix_append ..), List.drop_left]
  rcases bsetS c kr v sub with ⟨_ | _ | _, s⟩ <;> simp [saveNew]

theorem bsetS_kv_diverge {cm pt kt : Bits} {pb kb : Bool} {c : BNode} {v : Bytes} {sub : Bool}
    (h : pb ≠ kb) :
    bsetS (kv (cm ++ pb :: pt) c) (cm ++ kb :: kt) v sub =
      (bset (kv (cm ++ pb :: pt) c) (cm ++ kb :: kt) v sub,
        if v = [] ∨ sub then [] else splitSaves cm kb pt c kt v) := by
  have hlen : ¬ cm.length + (kt.length + 1) ≤ cm.length := by omega
  have hval : (if kt = [] then [leaf v] else [leaf v, kv kt (leaf v)]) =
      leaf v :: (if kt = [] then [] else [kv kt (leaf v)]) := by split <;> rfl
  rw [bset_kv_diverge h]
  simp only [bsetS, cpl_append_cons cm pb kb pt kt h, List.drop_length_add_append, List.drop_succ_cons,
    List.drop_zero]
  by_cases hv : v = [] ∨ sub <;> by_cases hcm : cm = [] <;>
    simp [hv, hcm, hval, splitSaves, splitNode, optKv, List.prefix_append_right_inj, h, Ne.symm h, hlen]

theorem bsetS_branch_nil (l r : BNode) (v : Bytes) (sub : Bool) :
    bsetS (branch l r) [] v sub = (bset (branch l r) [] v sub, []) := by
  cases sub <;> rfl

theorem bsetS_branch_cons (l r : BNode) (b : Bool) (k : Bits) (v : Bytes) (sub : Bool) :
    bsetS (branch l r) (b :: k) v sub =
      saveNew (fun o => some (rebranch l r b o)) (bsetS (if b = false then l else r) k v sub) := by
  cases b
  · show _ = saveNew _ (bsetS l k v sub)
    rw [bsetS, if_pos rfl]
    rcases bsetS l k v sub with ⟨_ | _ | _, s⟩ <;> rfl
  · show _ = saveNew _ (bsetS r k v sub)
    rw [bsetS, if_neg nofun]
    rcases bsetS r k v sub with ⟨_ | _ | _, s⟩ <;> rfl

theorem bsetS_fst (n : BNode) (k : Bits) (v : Bytes) (sub : Bool) :
    (bsetS n k v sub).1 = bset n k v sub := by
  induction n, k using walk_induct with
  | leaf x k => rw [bsetS_leaf]
  | kv_nil p c => rw [bsetS_kv_nil]
  | kv_prefix p c k hk hp hne => rw [bsetS_kv_prefix hk hp hne]
  | kv_append p c kr hne ih =>
    rw [bsetS_kv_append hne, bset_kv_append hne, saveNew_fst, ih]
  | kv_diverge cm pb pt kb kt c hne => rw [bsetS_kv_diverge hne]
  | branch_nil l r => rw [bsetS_branch_nil]
  | branch_cons l r b k ih => rw [bsetS_branch_cons, bset_branch_cons, saveNew_fst, ih]

theorem bsetS_raise (n : BNode) (k : Bits) (v : Bytes) (sub : Bool) (e : Err)
    (h : (bsetS n k v sub).1 = .error e) : (bsetS n k v sub).2 = [] := by
  induction n, k using walk_induct with
  | leaf x k =>
    rw [bsetS_leaf, bset_leaf] at *
    split at h
    · cases h
    · next hk => exact if_neg fun h' => hk h'.1
  | kv_nil p c => rw [bsetS_kv_nil]
  | kv_prefix p c k hk hp hne => rw [bsetS_kv_prefix hk hp hne]
  | kv_append p c kr hne ih =>
    rw [bsetS_kv_append hne] at *
    obtain ⟨h1, h2⟩ := saveNew_error h
    rw [h2, ih h1]
  | kv_diverge cm pb pt kb kt c hne =>
    rw [bsetS_kv_diverge hne, bset_kv_diverge hne] at h
    cases h
  | branch_nil l r => rw [bsetS_branch_nil]
  | branch_cons l r b k ih =>
    rw [bsetS_branch_cons] at *
    obtain ⟨h1, h2⟩ := saveNew_error h
    rw [h2, ih h1]

theorem self_mem_trieNodes (n : BNode) : n ∈ trieNodes n := by
  cases n <;> simp [trieNodes]

theorem mem_trieNodes_mkKv (p : Bits) (s x : BNode) (h : x ∈ trieNodes (mkKv p s)) :
    x = mkKv p s ∨ x ∈ trieNodes s := by
  cases s with
  | leaf v => simpa [mkKv, trieNodes] using h
  | branch l r => simpa [mkKv, trieNodes] using h
  | kv p2 c2 =>
    simp only [mkKv, trieNodes, List.mem_cons] at h ⊢
    rcases h with h | h
    · exact .inl h
    · exact .inr (.inr h)

theorem trieNodes_child_subset (l r : BNode) (b : Bool) :
    trieNodes (if b = false then l else r) ⊆ trieNodes (branch l r) := by
  cases b
  · exact List.subset_cons_of_subset _ (List.subset_append_left _ _)
  · exact List.subset_cons_of_subset _ (List.subset_append_right _ _)

theorem mem_trieNodes_rebranch (l r : BNode) (b : Bool) (o : Option BNode) (x : BNode)
    (hx : x ∈ trieNodes (rebranch l r b o)) :
    x = rebranch l r b o ∨ (∃ s, o = some s ∧ x ∈ trieNodes s) ∨ x ∈ trieNodes (branch l r) := by
  cases o with
  | none =>
    refine (mem_trieNodes_mkKv _ _ x hx).imp_right fun h => .inr (List.mem_cons_of_mem _ ?_)
    cases b
    · exact List.mem_append_right _ h
    · exact List.mem_append_left _ h
  | some s =>
    cases b <;> rcases List.mem_cons.1 hx with hx | hx
    · exact .inl hx
    · exact (List.mem_append.1 hx).elim (fun h => .inr (.inl ⟨s, rfl, h⟩))
        fun h => .inr (.inr (List.mem_cons_of_mem _ (List.mem_append_right _ h)))
    · exact .inl hx
    · exact (List.mem_append.1 hx).elim (fun h => .inr (.inr (List.mem_cons_of_mem _ (List.mem_append_left _ h))))
        fun h => .inr (.inl ⟨s, rfl, h⟩)

theorem mem_trieNodes_optKv (p : Bits) (c x : BNode) :
    x ∈ trieNodes (optKv p c) ↔ x ∈ (if p = [] then [] else [kv p c]) ∨ x ∈ trieNodes c := by
  unfold optKv
  split <;> simp [trieNodes]

theorem mem_trieNodes_ite_branch (b : Bool) (l r x : BNode) :
    x ∈ trieNodes (if b = true then branch l r else branch r l) →
      x = (if b = true then branch l r else branch r l) ∨ x ∈ trieNodes l ∨ x ∈ trieNodes r := by
  cases b
  · exact fun h => (List.mem_cons.1 h).imp_right fun h => (List.mem_append.1 h).symm
  · exact fun h => (List.mem_cons.1 h).imp_right List.mem_append.1

theorem mem_trieNodes_splitNode (cm : Bits) (kb : Bool) (pt : Bits) (c : BNode) (kt : Bits) (v : Bytes)
    (x : BNode) (hx : x ∈ trieNodes (splitNode cm kb pt c kt v)) :
    x ∈ splitSaves cm kb pt c kt v ∨ x ∈ trieNodes c := by
  rw [show splitNode cm kb pt c kt v = optKv cm (splitNode [] kb pt c kt v) from rfl, mem_trieNodes_optKv] at hx
  simp only [splitSaves, List.mem_append, List.mem_cons]
  rcases hx with h | h
  · exact .inl (.inr (.inr h))
  · have := mem_trieNodes_ite_branch kb _ _ x h
    simp only [mem_trieNodes_optKv, trieNodes, List.mem_singleton] at this
    rcases this with h | (h | h) | h | h
    · exact .inl (.inr (.inl h))
    · exact .inl (.inl (.inr h))
    · exact .inr h
    · exact .inl (.inl (.inl (.inr h)))
    · exact .inl (.inl (.inl (.inl h)))

theorem bsetS_complete (n : BNode) (k : Bits) (v : Bytes) (sub : Bool) (n' : BNode)
    (h : (bsetS n k v sub).1 = .ok (some n')) (x : BNode) (hx : x ∈ trieNodes n') :
    x ∈ (bsetS n k v sub).2 ∨ x ∈ trieNodes n := by
  induction n, k using walk_induct generalizing n' x with
  | leaf y k =>
    rw [bsetS_leaf, bset_leaf] at *
    split at h
    · next hk =>
      injection h with h
      split at h <;> cases h
      next hv => exact .inl (by simpa [hk, hv, trieNodes] using hx)
    · cases h
  | kv_nil p c => rw [bsetS_kv_nil, bset_kv_nil] at h; split at h <;> cases h
  | kv_prefix p c k hk hp hne =>
    rw [bsetS_kv_prefix hk hp hne, bset_kv_prefix hk hp hne] at h
    split at h
    · cases h
    · split at h <;> cases h
      exact .inr hx
  | kv_append p c kr hne ih =>
    rw [bsetS_kv_append hne] at *
    obtain ⟨_ | s, h1, h2, h3⟩ := saveNew_ok h <;> cases h2
    rw [h3, List.mem_append, List.mem_singleton]
    rcases mem_trieNodes_mkKv p s x hx with hx | hx
    · exact .inl (.inr hx)
    · exact (ih s h1 x hx).imp .inl (List.mem_cons_of_mem _)
  | kv_diverge cm pb pt kb kt c hne =>
    rw [bsetS_kv_diverge hne, bset_kv_diverge hne] at *
    cases h
    split at hx
    · exact .inr hx
    · next hv =>
      exact (mem_trieNodes_splitNode cm kb pt c kt v x hx).imp (by simp [hv]) (List.mem_cons_of_mem _)
  | branch_nil l r => rw [bsetS_branch_nil, bset_branch_nil] at h; split at h <;> cases h
  | branch_cons l r b k ih =>
    rw [bsetS_branch_cons] at *
    obtain ⟨o, h1, h2, h3⟩ := saveNew_ok h
    cases h2
    rw [h3, List.mem_append, List.mem_singleton]
    rcases mem_trieNodes_rebranch l r b o x hx with e | ⟨s, rfl, hs⟩ | hold
    · exact .inl (.inr e)
    · exact (ih s h1 x hs).imp .inl fun h => trieNodes_child_subset l r b h
    · exact .inr hold

end PyTrie.Bin
