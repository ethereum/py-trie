import PyTrie.Lemmas.MissingProofs
/-! C07: the node a failing `set` / `delete` reports lies on the requested path — for `delete`, "on the
    path" includes the one sibling `_normalize_branch_node` must read to collapse a branch on that path.

    What `setE` / `deleteE` fetch (`Ev.read`) is described by `Fetch`: hashed children met while walking the
    old tree along the key and, for `deleteE`, hashed children of a branch met on the way. Each is the hash
    of a hashed proper subtree of the old tree. -/
namespace PyTrie.HexW
open PyTrie.Hex hiding get set
open PyTrie.Hex.Node

variable (Hs : Hashing)

/-- `h` is the hash of a hashed child met while walking `t` along `k`; with `sib`, also of a hashed child of a
    branch met on the way -/
inductive Fetch (sib : Prop) : Node → Path → Hash → Prop
  | ext_child {p c} (r) : Hs.hashed c = true → Fetch sib (ext p c) (p ++ r) (Hs.hashOf c)
  | ext_below {p c r h} : Fetch sib c r h → Fetch sib (ext p c) (p ++ r) h
  | branch_child {ch} (v) {a} (r) : Hs.hashed (ch a) = true → Fetch sib (branch ch v) (a :: r) (Hs.hashOf (ch a))
  | branch_below {ch} (v) {a r h} : Fetch sib (ch a) r h → Fetch sib (branch ch v) (a :: r) h
  | sibling {ch} (v k) {i} : sib → Hs.hashed (ch i) = true → Fetch sib (branch ch v) k (Hs.hashOf (ch i))

theorem setE_reads_fetch (t : Node) (k : Path) (v : Bytes) (h : Hash) (hm : Ev.read h ∈ (setE Hs t k v).2) :
    Fetch Hs False t k h := by
  induction t generalizing k with
  | blank => simp [setE] at hm
  | leaf p pv => exact absurd hm (not_mem_of_noRead (setE_leaf_noRead Hs p pv k v) h)
  | ext p c ih =>
    simp only [setE] at hm
    split at hm
    · next _ _ hd =>
      obtain ⟨r, rfl⟩ := (cpl_drop_left_nil_iff p k).1 hd
      simp only [cpl_append_left, List.drop_left, List.mem_append, mem_readEv, read_mem_pruneEv,
        read_mem_persistEv, or_false, false_or] at hm
      rcases hm with ⟨hh, rfl⟩ | h2
      · exact .ext_child r hh
      · exact .ext_below (ih r h2)
    · refine absurd hm (not_mem_of_noRead ?_ h); simp
    · refine absurd hm (not_mem_of_noRead ?_ h); simp
  | branch ch bv ih =>
    cases k with
    | nil => simp [setE] at hm
    | cons n k =>
      simp only [setE, List.mem_append, mem_readEv, read_mem_pruneEv, read_mem_persistEv, or_false, false_or] at hm
      rcases hm with ⟨hh, rfl⟩ | h2
      · exact .branch_child bv k hh
      · exact .branch_below bv (ih n k h2)

theorem deleteE_reads_fetch (t : Node) (k : Path) (h : Hash) (hm : Ev.read h ∈ (deleteE Hs t k).2) :
    Fetch Hs True t k h := by
  induction t generalizing k with
  | blank => simp [deleteE] at hm
  | leaf p v => simp [deleteE] at hm
  | ext p c ih =>
    by_cases hpk : p <+: k
    · obtain ⟨tl, he, htl, _⟩ := deleteE_ext_evs Hs p c k hpk
      obtain ⟨r, rfl⟩ := hpk
      simp only [he, List.drop_left, List.mem_append, mem_readEv, read_mem_pruneEv, read_mem_persistEv, or_false,
        false_or] at hm
      rcases hm with (⟨hh, rfl⟩ | h2) | h3
      · exact .ext_child r hh
      · exact .ext_below (ih r h2)
      · exact absurd h3 (not_mem_of_noRead htl h)
    · simp [deleteE, hpk] at hm
  | branch ch v ih =>
    cases k with
    | nil =>
      simp only [deleteE, List.mem_append, read_mem_pruneEv, false_or] at hm
      obtain ⟨i, hh, rfl⟩ := normalizeE_reads_child Hs ch [] h hm
      exact .sibling v [] trivial hh
    | cons n k =>
      obtain ⟨tl, he, htl, _⟩ := deleteE_branch_evs Hs ch v n k
      simp only [he, List.mem_append, mem_readEv, read_mem_pruneEv, read_mem_persistEv, or_false, false_or] at hm
      rcases hm with (⟨hh, rfl⟩ | h2) | h3
      · exact .branch_child v k hh
      · exact .branch_below v (ih n k h2)
      · rcases htl with rfl | ⟨_, rfl⟩
        · cases h3
        · obtain ⟨i, hh, rfl⟩ := normalizeE_reads_child Hs _ v h h3
          by_cases hin : i = n
          · simp [upd, hin, Hs.hashed_blank] at hh
          · simp only [upd, hin, ↓reduceIte] at hh ⊢
            exact .sibling v _ trivial hh

theorem occ_pos_of_hashed {n : Node} (hh : Hs.hashed n = true) : 0 < occ Hs n (Hs.hashOf n) := by
  rw [occ_eq]; simp [self, hh]; omega

theorem le_sumCh (g : Nib → Nat) (i : Nib) : g i ≤ sumCh g := by
  have : ∀ l : List Nib, i ∈ l → g i ≤ (l.map g).sum := by
    intro l hi
    induction l with
    | nil => cases hi
    | cons x xs ih =>
      simp only [List.map_cons, List.sum_cons]
      rcases List.mem_cons.1 hi with rfl | h1
      · omega
      · have := ih h1; omega
  exact this _ (List.mem_finRange i)

theorem Fetch.occProper_pos {sib : Prop} {t : Node} {k : Path} {h : Hash} (hf : Fetch Hs sib t k h) : 0 < occProper Hs t h := by
  have below : ∀ n h, 0 < occProper Hs n h → 0 < occ Hs n h := fun n h hn => by rw [occ_eq]; omega
  have child : ∀ (ch : Nib → Node) (v : Bytes) (i : Nib) h, 0 < occ Hs (ch i) h → 0 < occProper Hs (branch ch v) h :=
    fun ch v i h hi => Nat.lt_of_lt_of_le hi (le_sumCh (fun j => occ Hs (ch j) h) i)
  induction hf with
  | ext_child _ hh => exact occ_pos_of_hashed Hs hh
  | ext_below _ ih => exact below _ _ ih
  | branch_child v _ hh => exact child _ v _ _ (occ_pos_of_hashed Hs hh)
  | branch_below v _ ih => exact child _ v _ _ (below _ _ ih)
  | sibling v _ _ hh => exact child _ v _ _ (occ_pos_of_hashed Hs hh)

theorem setE_reads_occ (t : Node) (k : Path) (v : Bytes) (h : Hash) (hm : Ev.read h ∈ (setE Hs t k v).2) :
    0 < occProper Hs t h :=
  (setE_reads_fetch Hs t k v h hm).occProper_pos

theorem deleteE_reads_occ (t : Node) (k : Path) (h : Hash) (hm : Ev.read h ∈ (deleteE Hs t k).2) :
    0 < occProper Hs t h :=
  (deleteE_reads_fetch Hs t k h hm).occProper_pos

/-- `h` is the hash of a hashed subtree of `t` sitting at a non-empty prefix of `k` -/
def OnPath (t : Node) (k : Path) (h : Hash) : Prop :=
  ∃ q n, q <+: k ∧ q ≠ [] ∧ nodeAt t q = some n ∧ Hs.hashed n = true ∧ Hs.hashOf n = h

/-- `h` is the hash of a hashed child of a branch node of `t` that sits on the path of `k`
    (the sibling read by `_normalize_branch_node`) -/
def SiblingOnPath (t : Node) (k : Path) (h : Hash) : Prop :=
  ∃ q ch v i, q <+: k ∧ nodeAt t q = some (branch ch v) ∧ Hs.hashed (ch i) = true ∧ Hs.hashOf (ch i) = h

/-- on a canonical tree, what is fetched sits on the key's path, or (with `sib`) is a child of a branch there -/
theorem Fetch.onPath {sib : Prop} {t : Node} {k : Path} {h : Hash} (hf : Fetch Hs sib t k h) (hc : Canon t) :
    OnPath Hs t k h ∨ sib ∧ SiblingOnPath Hs t k h := by
  induction hf with
  | @ext_child p c r hh =>
    exact .inl ⟨p, c, List.prefix_append _ _, hc.1, by simpa using nodeAt_ext_append p c [] c (by simp [nodeAt]) hc.1, hh, rfl⟩
  | @ext_below p c r h _ ih =>
    have hq : ∀ q, q <+: r → p ++ q <+: p ++ r := fun q => (List.prefix_append_right_inj p).2
    rcases ih hc.2.2 with ⟨q, n, hqr, _, hn, hh⟩ | ⟨hs, q, ch, v, i, hqr, hn, hh⟩
    · exact .inl ⟨p ++ q, n, hq q hqr, by simp [hc.1], nodeAt_ext_append p c q n hn hc.1, hh⟩
    · exact .inr ⟨hs, p ++ q, ch, v, i, hq q hqr, nodeAt_ext_append p c q _ hn hc.1, hh⟩
  | @branch_child ch v a r hh => exact .inl ⟨[a], ch a, by simp, by simp, by simp [nodeAt], hh, rfl⟩
  | @branch_below ch v a r h _ ih =>
    rcases ih (hc.1 a) with ⟨q, n, hqr, _, hn, hh⟩ | ⟨hs, q, ch', v', i, hqr, hn, hh⟩
    · exact .inl ⟨a :: q, n, by simpa using hqr, by simp, hn, hh⟩
    · exact .inr ⟨hs, a :: q, ch', v', i, by simpa using hqr, hn, hh⟩
  | @sibling ch v k i hs hh => exact .inr ⟨hs, [], ch, v, i, List.nil_prefix, rfl, hh, rfl⟩

theorem setE_reads_on_path (t : Node) (hc : Canon t) (k : Path) (v : Bytes) (h : Hash)
    (hm : Ev.read h ∈ (setE Hs t k v).2) : OnPath Hs t k h :=
  ((setE_reads_fetch Hs t k v h hm).onPath Hs hc).resolve_right (·.1)

theorem deleteE_reads_on_path (t : Node) (hc : Canon t) (k : Path) (h : Hash)
    (hm : Ev.read h ∈ (deleteE Hs t k).2) : OnPath Hs t k h ∨ SiblingOnPath Hs t k h :=
  ((deleteE_reads_fetch Hs t k h hm).onPath Hs hc).imp_right (·.2)

theorem opTree_reads_on_path (T : TrieSt) (hc : Canon T.tree) (key : Bytes) (val : Option Bytes) (h : Hash)
    (hm : Ev.read h ∈ (opTree Hs T key val).2) :
    OnPath Hs T.tree (nibs key) h ∨ SiblingOnPath Hs T.tree (nibs key) h := by
  unfold opTree at hm
  split at hm
  · split at hm
    · exact deleteE_reads_on_path Hs _ hc _ _ hm
    · exact .inl (setE_reads_on_path Hs _ hc _ _ _ hm)
  · exact deleteE_reads_on_path Hs _ hc _ _ hm

variable (blankRootHash : Hash)

theorem opSetDel_missing_on_path (T : TrieSt) (hc : Canon T.tree) (key : Bytes) (val : Option Bytes) (s : OpSt)
    (h root rk : Bytes) (pre : Option Path)
    (he : (opSetDel Hs blankRootHash T key val s).2 = .error (.missingTrieNode h root rk pre)) :
    h = T.root ∨ OnPath Hs T.tree (nibs key) h ∨ SiblingOnPath Hs T.tree (nibs key) h := by
  unfold opSetDel at he
  rcases (opCore_missing Hs blankRootHash T key val _ h root rk pre _ rfl he).2.2.2.2.2 with hr | hm
  · exact .inl hr.2
  · exact .inr (opTree_reads_on_path Hs T hc key val h hm)

/-- the fetches still outstanding for a `set` / `delete`: its reads that are absent from the store -/
def outstandingOp (T : TrieSt) (key : Bytes) (val : Option Bytes) (st : Store) : List Hash :=
  ((opTree Hs T key val).2.filterMap (fun e => match e with | .read h => some h | _ => none)).filter
    (fun h => !(st.contains h))

end PyTrie.HexW
