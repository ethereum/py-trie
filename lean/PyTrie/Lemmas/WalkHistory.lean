import PyTrie.Lemmas.WalkDRun
import PyTrie.Lemmas.NodesLoopD
import PyTrie.Lemmas.VersionsConsistent
/-! A fog-guided walk interleaved with a history of `set` / `delete` calls of the executor (pruning on or off): the steps
    of the walk see the executor's database and root as they are at that moment. The premise `SchedOk` of the raw-level
    walk theorems is discharged from the run-level premise `ReachVersions` of the history; hence the walk over the
    executor's own databases never raises, is sound, and finds every stable key. -/
namespace PyTrie.HexFree
open PyTrie PyTrie.Hex PyTrie.HexD PyTrie.HexW PyTrie.HexRaw PyTrie.Fog PyTrie.Walk
open PyTrie.Props.C01 (Op run spec applyOp)

variable (H : Bytes → Bytes)

/-- an event of the interleaving: a mutation of the trie, or a step of the walk at a prefix -/
inductive WEv where
  | op (o : Op)
  | step (p : Path)

def opsOf : List WEv → List Op
  | [] => []
  | .op o :: r => o :: opsOf r
  | .step _ :: r => opsOf r

/-- the steps of the walk with what the executor's state is at each of them (a call that raises leaves the trie as it was) -/
def schedOf : TrieSt → OpSt → List WEv → List StepT
  | _, _, [] => []
  | T, s, .step p :: r => ⟨s.store.base, T.root, T.tree, p⟩ :: schedOf T s r
  | T, s, .op o :: r =>
    match opSetDel (stdHashing H) (blankRoot H) T (opKey o) (opVal o) s with
    | (s', .ok T') => schedOf T' s' r
    | (s', .error _) => schedOf T s' r

def initT (prune : Bool) : TrieSt := { tree := .blank, root := blankRoot H, prune := prune }
def initS : OpSt := { store := { base := [], cache := none, failAfter := none }, counts := [], pending := [] }

/-- the executor's state after the events (same recursion as `schedOf`) -/
def stateOf : TrieSt → OpSt → List WEv → TrieSt × OpSt
  | T, s, [] => (T, s)
  | T, s, .step _ :: r => stateOf T s r
  | T, s, .op o :: r =>
    match opSetDel (stdHashing H) (blankRoot H) T (opKey o) (opVal o) s with
    | (s', .ok T') => stateOf T' s' r
    | (s', .error _) => stateOf T s' r

theorem opsOf_append (a b : List WEv) : opsOf (a ++ b) = opsOf a ++ opsOf b := by
  induction a with
  | nil => rfl
  | cons e a ih => cases e <;> simp only [List.cons_append, opsOf, ih]

theorem schedOf_append (a b : List WEv) : ∀ (T : TrieSt) (s : OpSt),
    schedOf H T s (a ++ b) = schedOf H T s a ++ schedOf H (stateOf H T s a).1 (stateOf H T s a).2 b := by
  induction a with
  | nil => intro T s; rfl
  | cons e a ih =>
    intro T s
    cases e with
    | step p => simp only [List.cons_append, schedOf, stateOf, ih]
    | op o =>
      simp only [List.cons_append, schedOf, stateOf]
      rcases opSetDel (stdHashing H) (blankRoot H) T (opKey o) (opVal o) s with ⟨s', _ | _⟩ <;> simp only [ih]

theorem stateOf_append (a b : List WEv) : ∀ (T : TrieSt) (s : OpSt),
    stateOf H T s (a ++ b) = stateOf H (stateOf H T s a).1 (stateOf H T s a).2 b := by
  induction a with
  | nil => intro T s; rfl
  | cons e a ih =>
    intro T s
    cases e with
    | step p => simp only [List.cons_append, stateOf, ih]
    | op o =>
      simp only [List.cons_append, stateOf]
      rcases opSetDel (stdHashing H) (blankRoot H) T (opKey o) (opVal o) s with ⟨s', _ | _⟩ <;> simp only [ih]

theorem reachVersions_side (prune : Bool) (ops : List Op) (T : TrieSt) (s : OpSt)
    (h : ReachVersions H prune ops T s) :
    Dict.get? s.store.base (blankRoot H) = none ∧
    (∀ h b, Dict.get? s.store.base h = some b → b.length < 2 ^ 64) := by
  cases h with
  | init => exact ⟨rfl, fun h b hg => by cases hg⟩
  | step ops T s o T' _ _ _ _ _ hbk hsm _ => exact ⟨hbk, hsm⟩

theorem reachVersions_snoc_inv (prune : Bool) (ops : List Op) (o : Op) (T' : TrieSt) (s' : OpSt)
    (h : ReachVersions H prune (ops ++ [o]) T' s') :
    ∃ T s, ReachVersions H prune ops T s ∧
      s' = (opSetDel (stdHashing H) (blankRoot H) T (opKey o) (opVal o) s).1 ∧
      (opSetDel (stdHashing H) (blankRoot H) T (opKey o) (opVal o) s).2 = .ok T' := by
  generalize hq : ops ++ [o] = l at h
  cases h with
  | init => simp at hq
  | step ops0 T s o0 T' hr _ _ _ _ _ _ hok =>
    obtain ⟨h1, h2⟩ := List.append_inj' hq rfl
    cases h2
    subst h1
    exact ⟨T, s, hr, rfl, hok⟩

theorem step_facts (prune : Bool) (ops : List Op) (T : TrieSt) (s : OpSt)
    (h : ReachVersions H prune ops T s) :
    T.tree = run ops ∧ Canon T.tree ∧ RootPartial H s.store.base T.root T.tree ∧
    (isBlank T.tree = false → (lookup s.store.base T.root).isSome) ∧ StoredD H s.store.base T.tree := by
  have hnc := reachVersions_nc H prune ops T s h
  obtain ⟨hbk, hsm⟩ := reachVersions_side H prune ops T s h
  have hcomp := reachOpsNC_complete (stdHashing H) (blankRoot H) prune ops T s hnc
  have htree : T.tree = run ops :=
    (reachOps_tree (stdHashing H) (blankRoot H) prune ops T s
      (reachOpsNC_reachOps (stdHashing H) (blankRoot H) prune ops T s hnc)).1
  obtain ⟨hroot, hrootIn, hst⟩ := stored_of_complete H T s.store.base hcomp hbk hsm
  exact ⟨htree, htree ▸ PyTrie.Props.C01.canon_run ops, hroot, hrootIn, hst⟩

/-- the whole invariant, by snoc induction on the events (stated for the reversed list) -/
theorem history_inv (prune : Bool) (rev : List WEv) : ∀ (T : TrieSt) (s : OpSt),
    ReachVersions H prune (opsOf rev.reverse) T s →
    stateOf H (initT H prune) initS rev.reverse = (T, s) ∧
    SchedOk' H (schedOf H (initT H prune) initS rev.reverse) ∧
    (∀ e ∈ schedOf H (initT H prune) initS rev.reverse,
      ∃ i, i ≤ (opsOf rev.reverse).length ∧ e.t = run ((opsOf rev.reverse).take i)) := by
  induction rev with
  | nil =>
    intro T s h
    simp only [List.reverse_nil, opsOf] at h
    generalize hq : ([] : List Op) = l at h
    cases h with
    | init =>
      refine ⟨rfl, ⟨?_, List.Pairwise.nil⟩, ?_⟩
      · intro e he; cases he
      · intro e he; cases he
    | step ops T s o T' _ _ _ _ _ _ _ _ => simp at hq
  | cons ev rev ih =>
    intro T s h
    simp only [List.reverse_cons] at h ⊢
    rw [opsOf_append] at h ⊢
    rw [schedOf_append, stateOf_append]
    cases ev with
    | step p =>
      simp only [opsOf, List.append_nil] at h ⊢
      obtain ⟨hst, ⟨hok1, hok2⟩, hver⟩ := ih T s h
      rw [hst]
      simp only [stateOf, schedOf]
      obtain ⟨htree, hcanon, hroot, hrootIn, hstored⟩ := step_facts H prune _ T s h
      refine ⟨trivial, ⟨?_, ?_⟩, ?_⟩
      · rw [List.forall_mem_append, List.forall_mem_singleton]
        exact ⟨hok1, hcanon, hroot, hrootIn, hstored⟩
      · rw [List.pairwise_append]
        refine ⟨hok2, List.pairwise_singleton _ _, ?_⟩
        intro a ha b hb
        cases List.mem_singleton.1 hb
        obtain ⟨i, hi, hta⟩ := hver a ha
        exact hta ▸ (all_versions_consistent H prune _ T s h i hi).2
      · rw [List.forall_mem_append, List.forall_mem_singleton]
        exact ⟨hver, _, Nat.le_refl _, by rw [List.take_length]; exact htree⟩
    | op o =>
      simp only [opsOf] at h ⊢
      obtain ⟨T0, s0, hr, hs', hok⟩ := reachVersions_snoc_inv H prune _ o T s h
      obtain ⟨hst, hok', hver⟩ := ih T0 s0 hr
      rw [hst]
      have hq : opSetDel (stdHashing H) (blankRoot H) T0 (opKey o) (opVal o) s0 = (s, .ok T) := by
        rw [hs', ← hok]
      simp only [stateOf, schedOf, hq, List.append_nil]
      refine ⟨trivial, hok', ?_⟩
      intro e he
      obtain ⟨i, hi, hte⟩ := hver e he
      refine ⟨i, by simp only [List.length_append]; omega, ?_⟩
      rw [List.take_append_of_le_length hi]
      exact hte

/-- along every executor history the schedule satisfies `SchedOk'`, and every version a step of the schedule sees is
    the tree of a prefix of the history -/
theorem history_facts (prune : Bool) (evs : List WEv) (T : TrieSt) (s : OpSt)
    (h : ReachVersions H prune (opsOf evs) T s) :
    SchedOk' H (schedOf H (initT H prune) initS evs) ∧
    ∀ e ∈ schedOf H (initT H prune) initS evs, ∃ i, i ≤ (opsOf evs).length ∧ e.t = run ((opsOf evs).take i) := by
  have := history_inv H prune evs.reverse T s (by rwa [List.reverse_reverse])
  rw [List.reverse_reverse] at this
  exact this.2

set_option linter.unusedVariables false in
theorem schedOk_of_history (hlen : ∀ b, (H b).length = 32) (prune : Bool) (evs : List WEv) (T : TrieSt) (s : OpSt)
    (h : ReachVersions H prune (opsOf evs) T s) :
    SchedOk H (schedOf H (initT H prune) initS evs) :=
  schedOk_of' H _ (history_facts H prune evs T s h).1

theorem walk_over_history (hlen : ∀ b, (H b).length = 32) (prune : Bool) (evs : List WEv) (T : TrieSt) (s : OpSt)
    (h : ReachVersions H prune (opsOf evs) T s) :
    let sched := schedOf H (initT H prune) initS evs
    (crunDR H cstartD (sched.map StepT.toD) = .ok none) ∨
    ∃ s' : CState, crunDR H cstartD (sched.map StepT.toD) = .ok (some (toCD H s')) ∧
      (∀ k v, (k, v) ∈ s'.met → v ≠ [] ∧ ∃ i, i ≤ (opsOf evs).length ∧ get (run ((opsOf evs).take i)) k = v) ∧
      -- the versions that count are the ones the walk's steps saw (the trie at the moments of the steps)
      (s'.fog = [] → ∀ k val, val ≠ [] → (∀ e ∈ sched, get e.t k = val) → (k, val) ∈ s'.met) := by
  intro sched
  rcases crunDR_is_tree_run H hlen sched (schedOk_of_history H hlen prune evs T s h) with hn | ⟨s', hrun, hsound, hfind⟩
  · exact Or.inl hn
  · refine Or.inr ⟨s', hrun, ?_, hfind⟩
    intro k v hm
    obtain ⟨e, he, hne, hg⟩ := hsound k v hm
    obtain ⟨i, hi, hte⟩ := (history_facts H prune evs T s h).2 e he
    exact ⟨hne, i, hi, hte ▸ hg⟩

theorem walk_over_history_never_stuck (hlen : ∀ b, (H b).length = 32) (prune : Bool) (evs : List WEv) (T : TrieSt) (s : OpSt)
    (h : ReachVersions H prune (opsOf evs) T s)
    (hfog : InFogRun H cstartD ((schedOf H (initT H prune) initS evs).map StepT.toD)) :
    ∃ s' : CState, crunDR H cstartD ((schedOf H (initT H prune) initS evs).map StepT.toD) = .ok (some (toCD H s')) :=
  crunDR_defined H hlen _ (schedOk_of_history H hlen prune evs T s h) hfog

end PyTrie.HexFree
