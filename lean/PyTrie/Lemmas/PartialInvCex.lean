import PyTrie.Lemmas.PartialInv
/-! Counterexamples: `partial_insert_node` fails without `Canon T.tree`, and `opSetDel_partial_preserved` fails without
    `hold` (`Lemmas/PartialInv.lean`). Both need a hash function with one collision (the statements quantify over every
    `H : Bytes → Bytes`). -/
namespace PyTrie.HexFree.Cex
open PyTrie PyTrie.Hex PyTrie.HexD PyTrie.HexW PyTrie.HexRaw PyTrie.Hex.Node

/-! ### 1. `partial_insert_node` without `Canon T.tree` -/

/-- the withheld child: a leaf with a 32-byte value (35 bytes of rlp, so it is referenced by hash) -/
def c1 : Node := leaf [] (List.replicate 32 1)
/-- the node whose body is supplied: another such leaf, colliding with `c1` under `H1` -/
def n1 : Node := leaf [] (List.replicate 32 2)
/-- a hash function under which the encodings of `c1` and `n1` collide (the encoding of a leaf does not depend on the
    hash function) -/
def H1 (b : Bytes) : Bytes :=
  if b = enc (fun _ => []) c1 ∨ b = enc (fun _ => []) n1 then List.replicate 32 1
  else if b = [0x80] then List.replicate 32 2 else List.replicate 32 0
/-- a non-canonical tree: an extension with an empty path; `nodeAt` does not reach its child -/
def t1 : Node := ext [] c1
def T1 : TrieSt := { tree := t1, root := hashOf H1 t1, prune := false }

theorem nodeAt_t1 (q : Path) (m : Node) (h : nodeAt t1 q = some m) : m = t1 := by
  cases q with
  | nil => simp [nodeAt] at h; exact h.symm
  | cons a k => simp [t1, c1, nodeAt] at h

/-- **`partial_insert_node` without `Canon T.tree` is false** -/
theorem partial_insert_node_needs_canon :
    ¬ (∀ (H : Bytes → Bytes) (T : TrieSt) (d : Dict Bytes) (n : Node),
      (RootPartial H d T.root T.tree ∧ PartialD H d T.tree) →
      (∀ m : Node, hashOf H m = hashOf H n → (m = T.tree ∨ ∃ q, nodeAt T.tree q = some m) → enc H m = enc H n) →
      RootPartial H (Dict.insert d (hashOf H n) (enc H n)) T.root T.tree ∧
      PartialD H (Dict.insert d (hashOf H n) (enc H n)) T.tree) := by
  intro hAll
  have hp : RootPartial H1 [] T1.root T1.tree ∧ PartialD H1 [] T1.tree := by
    refine ⟨?_, ⟨?_, trivial⟩⟩
    · refine (rootPartial_nonblank H1 (t := t1) rfl).2 ⟨rfl, by decide +kernel, fun b hb => by simp [lookup] at hb, ?_⟩
      exact rlpDecode_rlp_of_length_lt _ (by decide +kernel)
    · intro _
      refine ⟨by decide +kernel, fun b hb => by simp [lookup] at hb, ?_⟩
      exact rlpDecode_rlp_of_length_lt _ (by decide +kernel)
  have hnc : ∀ m : Node, hashOf H1 m = hashOf H1 n1 → (m = T1.tree ∨ ∃ q, nodeAt T1.tree q = some m) →
      enc H1 m = enc H1 n1 := by
    intro m hm hr
    have e : m = t1 := by
      rcases hr with e | ⟨q, hq⟩
      · exact e
      · exact nodeAt_t1 q m hq
    subst e
    exact absurd hm (by decide +kernel)
  have h := (hAll H1 T1 [] n1 hp hnc).2
  have hc : PartialC H1 (Dict.insert [] (hashOf H1 n1) (enc H1 n1)) c1 := h.1
  have := (hc (by decide +kernel)).2.1 (enc H1 n1) (by decide +kernel)
  revert this
  decide +kernel

/-! ### 2. `opSetDel_partial_preserved` without `hold` -/

/-- the withheld child: a hashed leaf below nibble 2 of the root branch -/
def c2 : Node := leaf [0] (List.replicate 32 1)
def ch2 : Nib → Node := upd emptyCh 2 c2
/-- the old root: a branch with the child `c2` and the value `[7]` (stored under the empty key) -/
def t2 : Node := branch ch2 [7]
/-- the hash of `c2`, and (by collision) of the new root -/
def X : Hash := List.replicate 32 1
/-- the encoding of the new root `branch ch2 [9]` (it mentions `c2` by its hash `X`) -/
def R' : Bytes := enc (fun _ => X) (branch ch2 [9])
/-- a hash function under which the encoding of the new root collides with that of `c2` -/
def H2 (b : Bytes) : Bytes :=
  if b = enc (fun _ => []) c2 ∨ b = R' then X
  else if b = [0x80] then List.replicate 32 2 else List.replicate 32 0
def T2 : TrieSt := { tree := t2, root := hashOf H2 t2, prune := false }
/-- the database holds the root node; the body of `c2` is withheld -/
def s2 : OpSt :=
  { store := { base := [(hashOf H2 t2, enc H2 t2)], cache := none, failAfter := none }, counts := [], pending := [] }

theorem H2_len (b : Bytes) : (H2 b).length = 32 := by
  unfold H2
  split
  · rfl
  · split <;> rfl

theorem opWrites2 : opWrites (stdHashing H2) T2 [] (some [9]) = [(X, R')] := by decide +kernel

theorem partialC2 (i : Nib) : PartialC H2 s2.store.base (ch2 i) ∧ PartialD H2 s2.store.base (ch2 i) := by
  unfold ch2 upd
  split
  · refine ⟨fun _ => ⟨by decide +kernel, fun b hb => ?_, ?_⟩, trivial⟩
    · have e : lookup s2.store.base (hashOf H2 c2) = none := by decide +kernel
      rw [e] at hb; cases hb
    · exact rlpDecode_rlp_of_length_lt _ (by decide +kernel)
  · exact ⟨fun hh => by simp [emptyCh, isHashed, isBlank] at hh, trivial⟩

/-- **`opSetDel_partial_preserved` without `hold` is false**: setting the value of the empty key in `t2`
    writes the new root under a hash that is also the hash of the untouched child `c2`, whose body the database does not
    hold — `NoClobber` sees nothing — and afterwards the database answers the hash of `c2` with the new root's body. -/
theorem opSetDel_partial_preserved_needs_hold :
    ¬ (∀ (H : Bytes → Bytes) (_ : ∀ b, (H b).length = 32) (T : TrieSt) (_ : Canon T.tree) (key : Bytes)
      (val : Option Bytes) (s : OpSt) (_ : s.store.cache = none)
      (_ : RootPartial H s.store.base T.root T.tree) (_ : PartialD H s.store.base T.tree)
      (_ : RefSound (stdHashing H) T.tree (nibs key))
      (_ : NoClobber s.store.base (opWrites (stdHashing H) T key val))
      (_ : isBlank (opTree (stdHashing H) T key val).1 = false →
        hashOf H (opTree (stdHashing H) T key val).1 ≠ blankRoot H)
      (_ : ∀ h b, (h, b) ∈ opWrites (stdHashing H) T key val → h ≠ blankRoot H)
      (_ : ∀ h b, (h, b) ∈ opWrites (stdHashing H) T key val → b.length < 2 ^ 64),
      (match (opSetDel (stdHashing H) (blankRoot H) T key val s).2 with
       | .ok T' => RootPartial H (opSetDel (stdHashing H) (blankRoot H) T key val s).1.store.base T'.root T'.tree ∧
                   PartialD H (opSetDel (stdHashing H) (blankRoot H) T key val s).1.store.base T'.tree
       | .error _ => RootPartial H (opSetDel (stdHashing H) (blankRoot H) T key val s).1.store.base T.root T.tree ∧
                     PartialD H (opSetDel (stdHashing H) (blankRoot H) T key val s).1.store.base T.tree)) := by
  intro hAll
  have hcanon : Canon T2.tree := by
    refine ⟨fun i => ?_, by decide +kernel⟩
    show Canon (ch2 i)
    unfold ch2 upd
    split
    · show (List.replicate 32 (1 : UInt8)) ≠ []
      decide
    · trivial
  have hroot : RootPartial H2 s2.store.base T2.root T2.tree := by
    refine (rootPartial_nonblank H2 (t := t2) rfl).2 ⟨rfl, by decide +kernel, fun b hb => ?_, ?_⟩
    · have e : lookup s2.store.base (hashOf H2 (branch ch2 [7])) = some (enc H2 (branch ch2 [7])) := by
        decide +kernel
      exact Option.some.inj (hb.symm.trans e)
    · exact rlpDecode_rlp_of_length_lt _ (by decide +kernel)
  have hst : PartialD H2 s2.store.base T2.tree := fun i => partialC2 i
  have hrs : RefSound (stdHashing H2) T2.tree (nibs []) := by
    show RefSound (stdHashing H2) (branch ch2 [7]) []
    simp [RefSound]
  have hnc : NoClobber s2.store.base (opWrites (stdHashing H2) T2 [] (some [9])) := by
    rw [opWrites2]
    constructor
    · intro h b b' hm hg
      simp only [List.mem_singleton, Prod.mk.injEq] at hm
      obtain ⟨rfl, rfl⟩ := hm
      have e : Dict.get? s2.store.base X = none := by decide +kernel
      rw [e] at hg; cases hg
    · intro h b b' hm hm'
      simp only [List.mem_singleton, Prod.mk.injEq] at hm hm'
      rw [hm.2, hm'.2]
  have hblank : isBlank (opTree (stdHashing H2) T2 [] (some [9])).1 = false →
      hashOf H2 (opTree (stdHashing H2) T2 [] (some [9])).1 ≠ blankRoot H2 := fun _ => by decide +kernel
  have hbk : ∀ h b, (h, b) ∈ opWrites (stdHashing H2) T2 [] (some [9]) → h ≠ blankRoot H2 := by
    rw [opWrites2]
    intro h b hm
    simp only [List.mem_singleton, Prod.mk.injEq] at hm
    rw [hm.1]
    decide +kernel
  have hsm : ∀ h b, (h, b) ∈ opWrites (stdHashing H2) T2 [] (some [9]) → b.length < 2 ^ 64 := by
    rw [opWrites2]
    intro h b hm
    simp only [List.mem_singleton, Prod.mk.injEq] at hm
    rw [hm.2]
    decide +kernel
  have h := hAll H2 H2_len T2 hcanon [] (some [9]) s2 rfl hroot hst hrs hnc hblank hbk hsm
  -- what the exit database answers for the hash of `c2`
  have hl : lookup (opSetDel (stdHashing H2) (blankRoot H2) T2 [] (some [9]) s2).1.store.base (hashOf H2 c2) =
      some R' := by decide +kernel
  have hh : isHashed H2 c2 = true := by decide +kernel
  have hne : R' ≠ enc H2 c2 := by decide +kernel
  -- the child `c2` sits below nibble 2 of the old and of the new tree
  have hbad : ∀ v : Bytes,
      ¬ PartialD H2 (opSetDel (stdHashing H2) (blankRoot H2) T2 [] (some [9]) s2).1.store.base (branch ch2 v) := by
    intro v hP
    have hc : PartialC H2 (opSetDel (stdHashing H2) (blankRoot H2) T2 [] (some [9]) s2).1.store.base c2 := (hP 2).1
    exact hne ((hc hh).2.1 R' hl)
  split at h
  · next T' hok =>
    have hT' := opSetDel_ok_shape (stdHashing H2) (blankRoot H2) T2 [] (some [9]) s2 T' hok
    subst hT'
    exact hbad [9] h.2
  · exact hbad [7] h.2

end PyTrie.HexFree.Cex
