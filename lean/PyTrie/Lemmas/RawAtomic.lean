import PyTrie.Model.HexRawT
import PyTrie.Lemmas.ReadPartial
/-! `Model/HexRawT.lean` (the raw-level write path returning the state also when an exception leaves it) agrees with
    `Model/HexRaw.lean` on every input, and **a failing `_set` / `_delete` / `set` / `delete` has written nothing**: on a
    partial database, when the call stops at a missing node the database is exactly what it was and only fetches and
    prune-marks were recorded (C07: a failed call leaves the database untouched — at the level of the transcription).

    The functions thread the state through `match x with | (st1, .error e) => (st1, .error e) | (st1, .ok a) => K st1 a`,
    named `seqT` here; each property comes with a lemma for that step (`agrees_seqT`, `seqT_inv`, `seqT_last`), which
    applies to the unfolded functions as they stand. -/
namespace PyTrie.HexRawT
open PyTrie PyTrie.Hex PyTrie.HexD PyTrie.HexRaw
open PyTrie.HexW (NoPersist)

variable (H : Bytes → Bytes)

/-- forgetting the state on an exception -/
def forget {α : Type} (r : St × Except Err α) : Except Err (α × St) :=
  match r with
  | (st, .ok x) => .ok (x, st)
  | (_, .error e) => .error e

/-- the step by which the functions of `Model/HexRawT.lean` thread the state: stop at an exception, else go on -/
def seqT {β : Type} (x : St × Except Err Item) (K : St → Item → St × Except Err β) : St × Except Err β :=
  match x with
  | (st1, .error e) => (st1, .error e)
  | (st1, .ok a) => K st1 a

/-! ### agreement with `HexRaw` (all inputs, no hypotheses) -/

@[simp] theorem forget_ok {α : Type} (st : St) (x : α) : forget (st, (.ok x : Except Err α)) = .ok (x, st) := rfl
@[simp] theorem forget_error {α : Type} (st : St) (e : Err) : forget (st, (.error e : Except Err α)) = .error e := rfl

theorem getNodeT_ok (st : St) (ref it : Item) (st' : St) (h : getNodeR H st ref = .ok (it, st')) :
    getNodeT H st ref = (st', .ok it) := by simp [getNodeT, h]
theorem getNodeT_error (st : St) (ref : Item) (e : Err) (h : getNodeR H st ref = .error e) :
    getNodeT H st ref = (st, .error e) := by simp [getNodeT, h]

theorem forget_getNodeT (st : St) (ref : Item) : getNodeR H st ref = forget (getNodeT H st ref) := by
  unfold getNodeT
  cases getNodeR H st ref <;> rfl

/-- agreement passes through sequencing -/
theorem agrees_seqT {β : Type} {x' : Except Err (Item × St)} {x : St × Except Err Item}
    {K' : Item → St → Except Err (β × St)} {K : St → Item → St × Except Err β} :
    x' = forget x → (∀ st1 a, K' a st1 = forget (K st1 a)) →
    (match x' with
      | .error e => .error e
      | .ok (a, st1) => K' a st1) = forget (seqT x K) := by
  rintro rfl hK
  obtain ⟨st1, r⟩ := x
  cases r with
  | error e => rfl
  | ok a => exact hK st1 a

theorem rawNormalizeT_agrees (st : St) (l : List Item) :
    rawNormalize H st l = forget (rawNormalizeT H st l) := by
  simp only [rawNormalize, rawNormalizeT, apply_ite forget, forget_ok]
  refine ite_congr rfl (fun _ => rfl) fun _ => ite_congr rfl (fun _ => rfl) fun _ => ?_
  cases List.find? _ (List.range 16) with
  | none => rfl
  | some idx =>
    refine agrees_seqT (forget_getNodeT H _ _) fun st1 sub => ?_
    cases classify sub <;> rfl

theorem rawDeleteT_agrees (fuel : Nat) (st : St) (node : Item) (key : Path) :
    rawDelete H fuel st node key = forget (rawDeleteT H fuel st node key) := by
  induction fuel generalizing st node key with
  | zero => rfl
  | succ fuel ih =>
    simp only [rawDelete, rawDeleteT]
    cases classify node with
    | blank => rfl
    | invalid => rfl
    | leaf p x => simp only [apply_ite forget, forget_ok]
    | ext p x =>
      simp only []
      cases decide (p <+: key) with
      | false => rfl
      | true =>
        refine agrees_seqT (forget_getNodeT H _ _) fun st1 sub => agrees_seqT (ih _ _ _) fun st2 newSub => ?_
        simp only [apply_ite forget, forget_ok]
        cases classify newSub <;> rfl
    | branch l =>
      cases key with
      | nil => exact rawNormalizeT_agrees H _ _
      | cons a rest =>
        refine agrees_seqT (forget_getNodeT H _ _) fun st1 sub => agrees_seqT (ih _ _ _) fun st2 newSub => ?_
        simp only [apply_ite forget, forget_ok, rawNormalizeT_agrees]

theorem set_agrees_both (fuel : Nat) :
    (∀ st node key value,
      rawSet H fuel st node key value = forget (rawSetT H fuel st node key value)) ∧
    (∀ st node p x isExt key value,
      rawSetKv H fuel st node p x isExt key value = forget (rawSetKvT H fuel st node p x isExt key value)) := by
  induction fuel with
  | zero => exact ⟨fun _ _ _ _ => rfl, fun _ _ _ _ _ _ _ => rfl⟩
  | succ fuel ih =>
    obtain ⟨ih1, ih2⟩ := ih
    constructor
    · intro st node key value
      simp only [rawSet, rawSetT]
      cases classify node with
      | blank => rfl
      | leaf p x => exact ih2 ..
      | ext p x => exact ih2 ..
      | invalid => rfl
      | branch l =>
        cases key with
        | nil => rfl
        | cons a rest =>
          exact agrees_seqT (forget_getNodeT H _ _) fun st1 sub => agrees_seqT (ih1 ..) fun st2 newNode => rfl
    · intro st node p x isExt key value
      simp only [rawSetKv, rawSetKvT]
      generalize p.drop (cpl p key) = ckr
      generalize key.drop (cpl p key) = tkr
      generalize p.take (cpl p key) = common
      cases ckr with
      | cons c0 crest => cases tkr <;> simp only [apply_ite forget, forget_ok]
      | nil =>
        cases isExt with
        | false => cases tkr <;> (simp only [Bool.not_false, Bool.false_eq_true, ↓reduceIte]; split <;> simp)
        | true =>
          cases tkr <;>
          (simp only [Bool.not_true, Bool.false_eq_true, ↓reduceIte]
           rw [forget_getNodeT]
           obtain ⟨st1, g⟩ := getNodeT H st x
           cases g with
           | error e => rfl
           | ok sub =>
             simp only [forget_ok, ih1]
             obtain ⟨st2, r⟩ := rawSetT H fuel st1 sub _ value
             cases r with
             | error e => rfl
             | ok r => simp only [forget_ok, Except.map]; split <;> rfl)

theorem rawSetT_agrees (fuel : Nat) (st : St) (node : Item) (key : Path) (value : Bytes) :
    rawSet H fuel st node key value = forget (rawSetT H fuel st node key value) :=
  (set_agrees_both H fuel).1 st node key value

theorem rawSetKvT_agrees (fuel : Nat) (st : St) (node : Item) (p : Path) (x : Item) (isExt : Bool) (key : Path) (value : Bytes) :
    rawSetKv H fuel st node p x isExt key value = forget (rawSetKvT H fuel st node p x isExt key value) :=
  (set_agrees_both H fuel).2 st node p x isExt key value

theorem rawOpT_agrees (db : Db) (root : Hash) (key : Bytes) (value : Option Bytes) :
    rawOp H db root key value =
      (match rawOpT H db root key value with
       | (st, .ok h) => .ok (h, st)
       | (_, .error e) => .error e) := by
  have hf : ∀ r : St × Except Err Hash, (match r with
      | (st, .ok h) => .ok (h, st)
      | (_, .error e) => .error e) = forget r := fun ⟨_, r⟩ => by cases r <;> rfl
  rw [hf]
  simp only [rawOp, rawOpT]
  refine agrees_seqT (forget_getNodeT H _ _) fun st1 rootNode => agrees_seqT ?_ fun st2 newRoot => rfl
  cases value with
  | none => exact rawDeleteT_agrees ..
  | some v =>
    simp only []
    split
    · exact rawDeleteT_agrees ..
    · exact rawSetT_agrees ..

/-! ### atomic failure on partial databases

    `set_atomic_both`, `delete_atomic_gen` and `rawOpT_atomic_gen` hold for every input node, key, fuel and database
    (`delete` needs `(H b).length = 32`, so that a persist returning the blank reference was handed the blank node).
    In `_set` every persist comes after the last fetch; in `_delete` the only fetch after a persist is the one in
    `_normalize_branch_node` after a sub-delete that returned the blank node, and a `_delete` that returns the blank node
    has persisted nothing. `rawSetT_atomic` / `rawDeleteT_atomic` are the instances at the raw encoding of a canonical
    tree over a partial database; they do not use their tree hypotheses, hence the linter option. -/
set_option linter.unusedVariables false

/-- `st'` extends `st` by events that are not persists, over the same database -/
def Quiet (st st' : St) : Prop := st'.db = st.db ∧ ∃ evs', st'.evs = st.evs ++ evs' ∧ NoPersist evs'

theorem Quiet.refl (st : St) : Quiet st st := ⟨rfl, [], by simp, by simp⟩

theorem Quiet.trans {a b c : St} (h1 : Quiet a b) (h2 : Quiet b c) : Quiet a c := by
  obtain ⟨d1, e1, he1, n1⟩ := h1
  obtain ⟨d2, e2, he2, n2⟩ := h2
  exact ⟨d2.trans d1, e1 ++ e2, by rw [he2, he1, List.append_assoc], by simp [n1, n2]⟩

theorem quiet_prune (st : St) (node : Item) : Quiet st (pruneNodeR H st node) := by
  unfold pruneNodeR
  split
  · exact ⟨rfl, _, rfl, by simp [NoPersist]⟩
  · exact Quiet.refl st

/-- what `get_node` does to the state: nothing, or it records a fetch that the database answered -/
theorem getNodeT_state (st : St) (ref : Item) :
    (getNodeT H st ref).1 = st ∨
      ∃ x, (lookup st.db x).isSome = true ∧ (getNodeT H st ref).1 = { st with evs := st.evs ++ [Ev.read x] } := by
  unfold getNodeT
  fun_cases getNodeR H st ref
  -- a fetch is recorded only when the database answers and the body decodes
  case case7 h _ _ _ b hb it _ => exact .inr ⟨h, by simp [hb], rfl⟩
  all_goals exact .inl rfl

theorem quiet_getNodeT (st : St) (ref : Item) : Quiet st (getNodeT H st ref).1 := by
  rcases getNodeT_state H st ref with h | ⟨x, _, h⟩ <;> rw [h]
  · exact Quiet.refl st
  · exact ⟨rfl, _, rfl, by simp [NoPersist]⟩

/-- sequencing: a property of the state that the first step establishes and the continuation keeps, as far as the
    outcome is one of those `C` singles out -/
theorem seqT_inv {β : Type} (P : St → Prop) (C : Except Err β → Prop) (x : St × Except Err Item)
    (K : St → Item → St × Except Err β) (hx : P x.1) (hK : ∀ st1 a, P st1 → C (K st1 a).2 → P (K st1 a).1) :
    C (seqT x K).2 → P (seqT x K).1 := by
  obtain ⟨st1, r⟩ := x
  cases r with
  | error e => exact fun _ => hx
  | ok a => exact hK st1 a hx

/-- sequencing when the continuation cannot stop at a missing node: then the first step did -/
theorem seqT_last {β : Type} (P : St → Prop) (h : Hash) (x : St × Except Err Item)
    (K : St → Item → St × Except Err β) (hx : x.2 = .error (.missing h) → P x.1)
    (hK : ∀ st1 a, (K st1 a).2 ≠ .error (.missing h)) :
    (seqT x K).2 = .error (.missing h) → P (seqT x K).1 := by
  obtain ⟨st1, r⟩ := x
  cases r with
  | error e => exact fun he => hx (by cases he; rfl)
  | ok a => exact fun he => absurd he (hK st1 a)

/-- the last step of `_set_kv_node`, from the outcome of its three-way `if` -/
def kvFinish (node : Item) (value : Bytes) (common : Path) (inner : St × Except Err (Option Item)) : St × Except Err Item :=
  match inner with
  | (st1, .error e) => (st1, .error e)
  | (st1, .ok none) =>
    match node with
    | .list [k, _] => (st1, .ok (.list [k, .str value]))
    | _ => (st1, .error .invalid)
  | (st1, .ok (some newNode)) =>
    if common ≠ [] then
      let (ref, st2) := persistNodeR H st1 newNode
      (st2, .ok (.list [extKey common, ref]))
    else (st1, .ok newNode)

theorem kvFinish_missing (P : St → Prop) (h : Hash) (node : Item) (value : Bytes) (common : Path)
    (inner : St × Except Err (Option Item)) (hi : inner.2 = .error (.missing h) → P inner.1) :
    (kvFinish H node value common inner).2 = .error (.missing h) → P (kvFinish H node value common inner).1 := by
  obtain ⟨st1, r⟩ := inner
  unfold kvFinish
  cases r with
  | error e => exact fun he => hi (by cases he; rfl)
  | ok o => cases o <;> (simp only []; split <;> exact fun he => by cases he)

theorem set_atomic_both (h : Hash) (fuel : Nat) :
    (∀ st node key value,
      (rawSetT H fuel st node key value).2 = .error (.missing h) → Quiet st (rawSetT H fuel st node key value).1) ∧
    (∀ st node p x isExt key value,
      (rawSetKvT H fuel st node p x isExt key value).2 = .error (.missing h) →
      Quiet st (rawSetKvT H fuel st node p x isExt key value).1) := by
  induction fuel with
  | zero => exact ⟨fun _ _ _ _ he => (by cases he), fun _ _ _ _ _ _ _ he => (by cases he)⟩
  | succ fuel ih =>
    obtain ⟨ih1, ih2⟩ := ih
    constructor
    · intro st node key value
      simp only [rawSetT]
      have hp := quiet_prune H st node
      cases classify node with
      | blank => exact fun he => by cases he
      | invalid => exact fun he => by cases he
      | leaf p x => exact fun he => hp.trans (ih2 _ _ _ _ _ _ _ he)
      | ext p x => exact fun he => hp.trans (ih2 _ _ _ _ _ _ _ he)
      | branch l =>
        cases key with
        | nil => exact fun he => by cases he
        | cons a rest =>
          exact seqT_inv (Quiet st) (· = .error (.missing h)) _ _ (hp.trans (quiet_getNodeT H _ _)) fun st1 sub h1 =>
            seqT_last (Quiet st) h _ _ (fun he => h1.trans (ih1 _ _ _ _ he)) fun st2 r he => by cases he
    · intro st node p x isExt key value
      simp only [rawSetKvT]
      generalize p.drop (cpl p key) = ckr
      generalize key.drop (cpl p key) = tkr
      generalize p.take (cpl p key) = common
      refine kvFinish_missing H (Quiet st) h node value common _ ?_
      cases ckr with
      | cons c0 crest => cases tkr <;> exact fun he => by cases he
      | nil =>
        cases isExt with
        | false => cases tkr <;> exact fun he => by cases he
        | true =>
          cases tkr <;>
          exact seqT_inv (Quiet st) (· = .error (.missing h)) _ _ (quiet_getNodeT H _ _) fun st1 sub h1 =>
            seqT_last (Quiet st) h _ _ (fun he => h1.trans (ih1 _ _ _ _ he)) fun st2 r he => by cases he

theorem persistNodeR_blank (st : St) : persistNodeR H st (.str []) = (.str [], st) := rfl

theorem nodeToDb_nonblank (node : Item) (hn : node ≠ .str []) :
    nodeToDb H node = if (rlp node).length < 32 then (node, none) else (.str (H (rlp node)), some (rlp node)) := by
  unfold nodeToDb
  split
  · exact absurd rfl hn
  · rfl

/-- a `_persist_node` that returns the blank reference stored nothing (and was handed the blank node) -/
theorem persist_blank_ref (hlen : ∀ b, (H b).length = 32) (st : St) (node : Item)
    (h : ((persistNodeR H st node).1 == Item.str []) = true) :
    node = .str [] ∧ (persistNodeR H st node).2 = st := by
  have h' := (beq_blank_iff _).1 h
  by_cases hn : node = .str []
  · subst hn; exact ⟨rfl, rfl⟩
  · exfalso
    unfold persistNodeR at h'
    rw [nodeToDb_nonblank H node hn] at h'
    by_cases hl : (rlp node).length < 32
    · simp only [hl, ↓reduceIte] at h'
      exact hn h'
    · simp only [hl, ↓reduceIte] at h'
      have := hlen (rlp node)
      simp at h'
      rw [h'] at this
      simp at this

/-- `_normalize_branch_node` never returns the blank node, and when it stops at a missing node nothing was written -/
theorem normalizeT_quiet (st : St) (l : List Item) (h : Hash) :
    ((rawNormalizeT H st l).2 = .error (.missing h) ∨ (rawNormalizeT H st l).2 = .ok (.str [])) →
    Quiet st (rawNormalizeT H st l).1 := by
  unfold rawNormalizeT
  by_cases h1 : twoTruthy l = true
  · rw [if_pos h1]; exact fun _ => Quiet.refl st
  by_cases h2 : truthy (l.getD 16 (.str [])) = true
  · rw [if_neg h1, if_pos h2]; exact fun _ => Quiet.refl st
  rw [if_neg h1, if_neg h2]
  cases List.find? _ (List.range 16) with
  | none => exact fun _ => Quiet.refl st
  | some idx =>
    refine seqT_inv (Quiet st) (fun r => r = .error (.missing h) ∨ r = .ok (Item.str [])) _ _ (quiet_getNodeT H _ _)
      fun st1 sub _ => ?_
    cases classify sub <;> simp

theorem classify_ne_blank (node : Item) (hne : classify node ≠ .blank) : node ≠ .str [] := by
  intro h; subst h; simp [classify] at hne

/-- sequencing in `_delete`: after the recursive call the rest can stop at a missing node or return the blank node only
    if the call returned the blank node, and then it writes nothing -/
theorem quiet_seqT_delete (h : Hash) (st : St) (x : St × Except Err Item) (K : St → Item → St × Except Err Item)
    (hx : (x.2 = .error (.missing h) ∨ x.2 = .ok (.str [])) → Quiet st x.1)
    (hK : ∀ st2 a, ((K st2 a).2 = .error (.missing h) ∨ (K st2 a).2 = .ok (.str [])) →
      a = .str [] ∧ Quiet st2 (K st2 a).1) :
    ((seqT x K).2 = .error (.missing h) ∨ (seqT x K).2 = .ok (.str [])) → Quiet st (seqT x K).1 := by
  obtain ⟨st2, r⟩ := x
  cases r with
  | error e => exact hx
  | ok a =>
    intro he
    obtain ⟨rfl, hq⟩ := hK st2 a he
    exact (hx (.inr rfl)).trans hq

theorem delete_atomic_gen (hlen : ∀ b, (H b).length = 32) (h : Hash) (fuel : Nat) :
    ∀ st node key,
      ((rawDeleteT H fuel st node key).2 = .error (.missing h) ∨ (rawDeleteT H fuel st node key).2 = .ok (.str [])) →
      Quiet st (rawDeleteT H fuel st node key).1 := by
  induction fuel with
  | zero => intro st node key he; simp [rawDeleteT] at he
  | succ fuel ih =>
    intro st node key
    simp only [rawDeleteT]
    have hp := quiet_prune H st node
    cases hcl : classify node with
    | blank => exact fun _ => hp
    | invalid => exact fun he => by simp at he
    | leaf p x =>
      simp only []
      split
      · exact fun _ => hp
      split <;> exact fun _ => hp
    | ext p x =>
      have hne : node ≠ .str [] := classify_ne_blank node (by simp [hcl])
      simp only []
      by_cases hpk : (!decide (p <+: key)) = true
      · rw [if_pos hpk]; exact fun he => by simp [hne] at he
      rw [if_neg hpk]
      refine seqT_inv (Quiet st) (fun r => r = .error (.missing h) ∨ r = .ok (Item.str [])) _ _
        (hp.trans (quiet_getNodeT H _ _)) fun st1 sub h1 => ?_
      refine quiet_seqT_delete h st _ _ (fun he => h1.trans (ih _ _ _ he)) fun st2 newSub he => ?_
      by_cases h2 : (newSub == Item.str []) = true
      · obtain rfl := (beq_blank_iff _).1 h2
        refine ⟨rfl, ?_⟩
        simp only [persistNodeR_blank, h2, ↓reduceIte]
        split <;> exact Quiet.refl st2
      · exfalso
        simp only [h2, Bool.false_eq_true, ↓reduceIte] at he
        split at he
        · simp [hne] at he
        · generalize classify newSub = c at he
          cases c <;> simp at he
    | branch l =>
      have hne : node ≠ .str [] := classify_ne_blank node (by simp [hcl])
      cases key with
      | nil => exact fun he => hp.trans (normalizeT_quiet H _ _ h he)
      | cons a rest =>
        refine seqT_inv (Quiet st) (fun r => r = .error (.missing h) ∨ r = .ok (Item.str [])) _ _
          (hp.trans (quiet_getNodeT H _ _)) fun st1 sub h1 => ?_
        refine quiet_seqT_delete h st _ _ (fun he => h1.trans (ih _ _ _ he)) fun st2 newSub he => ?_
        by_cases hr : ((persistNodeR H st2 newSub).1 == l.getD a.val (.str [])) = true
        · simp only [hr, ↓reduceIte] at he
          simp [hne] at he
        by_cases hb : ((persistNodeR H st2 newSub).1 == Item.str []) = true
        · obtain ⟨rfl, e2⟩ := persist_blank_ref H hlen st2 newSub hb
          refine ⟨rfl, ?_⟩
          simp only [hr, hb, e2, Bool.false_eq_true, ↓reduceIte] at he ⊢
          exact normalizeT_quiet H _ _ h he
        · simp only [hr, hb, Bool.false_eq_true, ↓reduceIte] at he
          simp at he

theorem rawSetT_atomic (hlen : ∀ b, (H b).length = 32) (t : Node) (hc : Canon t) (k : Path) (v : Bytes)
    (st : St) (hst : PartialD H st.db t) (fuel : Nat) (hf : 2 * k.length + 2 ≤ fuel) (h : Hash)
    (he : (rawSetT H fuel st (toItem H t) k v).2 = .error (.missing h)) :
    (rawSetT H fuel st (toItem H t) k v).1.db = st.db ∧
    ∃ evs', (rawSetT H fuel st (toItem H t) k v).1.evs = st.evs ++ evs' ∧ NoPersist evs' :=
  (set_atomic_both H h fuel).1 st (toItem H t) k v he

theorem rawDeleteT_atomic (hlen : ∀ b, (H b).length = 32) (t : Node) (hc : Canon t) (k : Path)
    (st : St) (hst : PartialD H st.db t) (fuel : Nat) (hf : 2 * k.length + 2 ≤ fuel) (h : Hash)
    (he : (rawDeleteT H fuel st (toItem H t) k).2 = .error (.missing h)) :
    (rawDeleteT H fuel st (toItem H t) k).1.db = st.db ∧
    ∃ evs', (rawDeleteT H fuel st (toItem H t) k).1.evs = st.evs ++ evs' ∧ NoPersist evs' :=
  delete_atomic_gen H hlen h fuel st (toItem H t) k (.inl he)

/-- `set` / `delete` end to end on arbitrary input: a call that stops at a missing node leaves the database as it was -/
theorem rawOpT_atomic_gen (hlen : ∀ b, (H b).length = 32) (db : Db) (root : Hash) (key : Bytes) (value : Option Bytes)
    (h : Hash) (he : (rawOpT H db root key value).2 = .error (.missing h)) :
    (rawOpT H db root key value).1.db = db := by
  suffices Quiet { db := db, evs := [] } (rawOpT H db root key value).1 from this.1
  revert he
  simp only [rawOpT]
  refine seqT_inv (Quiet _) (· = .error (.missing h)) _ _ (quiet_getNodeT H _ _) fun st1 rootNode h1 =>
    seqT_last (Quiet _) h _ _ (fun he => h1.trans ?_) fun st2 r he => by cases he
  cases value with
  | none => exact delete_atomic_gen H hlen h _ st1 rootNode _ (.inl he)
  | some v =>
    simp only [] at he ⊢
    split at he
    · next hv => rw [if_pos hv]; exact delete_atomic_gen H hlen h _ st1 rootNode _ (.inl he)
    · next hv => rw [if_neg hv]; exact (set_atomic_both H h _).1 st1 rootNode _ v he

/-- **`set` / `delete` end to end: a call that stops at a missing node leaves the database exactly as it was** -/
theorem rawOpT_atomic (hlen : ∀ b, (H b).length = 32) (db : Db) (root : Hash) (t : Node) (hc : Canon t)
    (hroot : RootPartial H db root t) (hst : PartialD H db t) (key : Bytes) (value : Option Bytes) (h : Hash)
    (he : (rawOpT H db root key value).2 = .error (.missing h)) :
    (rawOpT H db root key value).1.db = db :=
  rawOpT_atomic_gen H hlen db root key value h he

end PyTrie.HexRawT
