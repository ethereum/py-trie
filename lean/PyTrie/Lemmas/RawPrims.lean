import PyTrie.Model.HexRaw
import PyTrie.Lemmas.HexDbProofs
import PyTrie.Lemmas.HexEff
import PyTrie.Lemmas.MissingProofs
/-! The vocabulary of the raw-level refinement theorems (`stdHashing`, `StoredD`, `PartialD`, `applyPersists`,
    `firstMissing`) and one-step lemmas: the raw primitives (`_prune_node`, `_persist_node`, `get_node`) on the raw
    encoding of a tree node are the event helpers of the effect layer; `get_node` over a database that may lack the
    node either answers or reports it. `outP` is the shape of every statement about a run over such a
    database, with the lemma (`outP_bind`) that sequences two of them. -/
namespace PyTrie.HexRaw
open PyTrie.Hex PyTrie.HexD PyTrie.Hex.Node

variable (H : Bytes → Bytes)

/-- the hashing of py-trie, for an arbitrary hash function: rlp encoding, embedded below 32 bytes -/
def stdHashing : Hashing where
  hashed := isHashed H
  hashOf := hashOf H
  encOf := enc H
  refEq a b := refOf H a == refOf H b
  hashed_blank := by simp [isHashed, isBlank]

theorem keccakHashing_eq : keccakHashing = stdHashing keccak := rfl

/-- every hashed proper subtree of `t` is stored under its hash (≠ the blank root hash) with its
    encoding, and that encoding decodes back to its raw node -/
def StoredD (db : Db) : Node → Prop
  | blank => True
  | leaf _ _ => True
  | ext _ c => (isHashed H c = true → hashOf H c ≠ blankRoot H ∧ lookup db (hashOf H c) = some (enc H c) ∧
      rlpDecode (enc H c) = some (toItem H c)) ∧ StoredD db c
  | branch ch _ => ∀ i, (isHashed H (ch i) = true → hashOf H (ch i) ≠ blankRoot H ∧
      lookup db (hashOf H (ch i)) = some (enc H (ch i)) ∧ rlpDecode (enc H (ch i)) = some (toItem H (ch i))) ∧
      StoredD db (ch i)

/-- the database after the persists of an event list (newest first) -/
def applyPersists (db : Db) (evs : List Ev) : Db :=
  evs.foldl (fun d e => match e with | .persist h b => (h, b) :: d | _ => d) db

/-- partial storage of one child reference: its hash is not mistaken for the blank root, whatever the database holds
    under it is its encoding, and the encoding decodes back -/
def PartialC (db : Db) (c : Node) : Prop :=
  isHashed H c = true → hashOf H c ≠ blankRoot H ∧ (∀ b, lookup db (hashOf H c) = some b → b = enc H c) ∧
    rlpDecode (enc H c) = some (toItem H c)

/-- partial storage of all hashed proper subtrees of `t` -/
def PartialD (db : Db) : Node → Prop
  | blank => True
  | leaf _ _ => True
  | ext _ c => PartialC H db c ∧ PartialD db c
  | branch ch _ => ∀ i, PartialC H db (ch i) ∧ PartialD db (ch i)

/-- the first fetch of an event list that the database cannot answer -/
def firstMissing (db : Db) (evs : List Ev) : Option Hash :=
  (evs.filterMap fun e => match e with | .read h => some h | _ => none).find? fun h => (lookup db h).isNone

open PyTrie.HexW (NoRead NoPersist)

/-- the state after the events `evs`: persists applied to the database, events appended -/
def St.app (st : St) (evs : List Ev) : St := { db := applyPersists st.db evs, evs := st.evs ++ evs }

theorem lookup_cons (e : Hash × Bytes) (db : Db) (k : Hash) :
    lookup (e :: db) k = if e.1 == k then some e.2 else lookup db k := by
  simp only [lookup, List.find?_cons]
  cases (e.1 == k) <;> simp

@[simp] theorem applyPersists_nil (db : Db) : applyPersists db [] = db := rfl

theorem applyPersists_append (db : Db) (a b : List Ev) :
    applyPersists db (a ++ b) = applyPersists (applyPersists db a) b := by
  simp [applyPersists, List.foldl_append]

theorem applyPersists_noPersist (db : Db) (evs : List Ev) (h : NoPersist evs) : applyPersists db evs = db := by
  induction evs generalizing db with
  | nil => rfl
  | cons e es ih =>
    have hes : NoPersist es := fun x hx => h x (List.mem_cons_of_mem _ hx)
    cases e with
    | read x => exact ih db hes
    | prune x => exact ih db hes
    | persist x b => exact absurd rfl (h _ (List.mem_cons_self ..) x b)

@[simp] theorem app_nil (st : St) : st.app [] = st := by
  cases st; simp [St.app]
@[simp] theorem app_app (st : St) (a b : List Ev) : (st.app a).app b = st.app (a ++ b) := by
  simp [St.app, applyPersists_append]
@[simp] theorem app_evs (st : St) (a : List Ev) : (st.app a).evs = st.evs ++ a := rfl

@[simp] theorem app_db_noPersist (st : St) (evs : List Ev) (h : NoPersist evs) : (st.app evs).db = st.db :=
  applyPersists_noPersist st.db evs h

@[simp] theorem app_db_readEv (st : St) (Hs : Hashing) (n : Node) : (st.app (readEv Hs n)).db = st.db :=
  app_db_noPersist _ _ (by simp)

@[simp] theorem firstMissing_nil (db : Db) : firstMissing db [] = none := rfl

theorem firstMissing_append (db : Db) (a b : List Ev) :
    firstMissing db (a ++ b) = (firstMissing db a).or (firstMissing db b) := by
  simp [firstMissing, List.filterMap_append, List.find?_append]

theorem firstMissing_noRead (db : Db) (evs : List Ev) (h : NoRead evs) : firstMissing db evs = none := by
  induction evs with
  | nil => rfl
  | cons e es ih =>
    have hes : NoRead es := fun x hx => h x (List.mem_cons_of_mem _ hx)
    cases e with
    | read x => exact absurd rfl (h _ (List.mem_cons_self ..) x)
    | prune x => exact ih hes
    | persist x b => exact ih hes

@[simp] theorem firstMissing_pruneEv (db : Db) (Hs : Hashing) (n : Node) : firstMissing db (pruneEv Hs n) = none :=
  firstMissing_noRead db _ (by simp)
@[simp] theorem firstMissing_persistEv (db : Db) (Hs : Hashing) (n : Node) : firstMissing db (persistEv Hs n) = none :=
  firstMissing_noRead db _ (by simp)

theorem firstMissing_readEv (db : Db) (c : Node) :
    firstMissing db (readEv (stdHashing H) c) =
      if isHashed H c = true ∧ lookup db (hashOf H c) = none then some (hashOf H c) else none := by
  unfold readEv
  cases hh : isHashed H c with
  | false => simp [stdHashing, hh]
  | true =>
    cases hl : lookup db (hashOf H c) <;> simp [stdHashing, hh, firstMissing, hl]

theorem firstMissing_some (db : Db) (evs : List Ev) (h : Hash) (hf : firstMissing db evs = some h) :
    lookup db h = none ∧ Ev.read h ∈ evs := by
  unfold firstMissing at hf
  refine ⟨by simpa using List.find?_some hf, ?_⟩
  obtain ⟨e, he, hh⟩ := List.mem_filterMap.1 (List.mem_of_find?_eq_some hf)
  cases e <;> simp at hh
  exact hh ▸ he

/-- the outcome of a run whose effect-level event list is `evs` and whose result (if every fetch is answered) is `x`,
    the fetches being answered by `db0` -/
def outP (db0 : Db) (st : St) (evs : List Ev) (x : Item) : Except Err (Item × St) :=
  match firstMissing db0 evs with
  | some h => .error (.missing h)
  | none => .ok (x, st.app evs)

theorem outP_noRead (db0 : Db) (st : St) (evs : List Ev) (x : Item) (h : NoRead evs) :
    outP db0 st evs x = .ok (x, st.app evs) := by simp [outP, firstMissing_noRead db0 evs h]

theorem outP_missing (db0 : Db) (st : St) (evs : List Ev) (x : Item) (h : Hash)
    (he : outP db0 st evs x = .error (.missing h)) : lookup db0 h = none ∧ Ev.read h ∈ evs := by
  unfold outP at he
  split at he
  · next h' hf => cases he; exact firstMissing_some db0 evs _ hf
  · cases he

theorem outP_append_noRead (db0 : Db) (st : St) (a b : List Ev) (x : Item) (h : NoRead a) :
    outP db0 st (a ++ b) x = outP db0 (st.app a) b x := by
  simp [outP, firstMissing_append, firstMissing_noRead db0 a h]

/-- sequencing: a run with events `a`, then (when every fetch of it was answered) the rest of the computation,
    which is a run with events `b` from the state reached -/
theorem outP_bind {db0 : Db} {st : St} {a b : List Ev} {y x : Item} {K : Item → St → Except Err (Item × St)}
    (hK : K y (st.app a) = outP db0 (st.app a) b x) :
    (match outP db0 st a y with
      | .error e => .error e
      | .ok (r, st1) => K r st1) = outP db0 st (a ++ b) x := by
  unfold outP at hK ⊢
  rw [firstMissing_append]
  cases firstMissing db0 a with
  | some h => rfl
  | none => simpa using hK

/-- a fetch, the recursive call on what it returned, then the rest -/
theorem outP_descend {db0 : Db} {st : St} {a b c : List Ev} {y z x : Item} {rec K : Item → St → Except Err (Item × St)}
    (hrec : rec y (st.app a) = outP db0 (st.app a) b z)
    (hK : K z ((st.app a).app b) = outP db0 ((st.app a).app b) c x) :
    (match outP db0 st a y with
      | .error e => .error e
      | .ok (sub, st1) =>
        match rec sub st1 with
        | .error e => .error e
        | .ok (r, st2) => K r st2) = outP db0 st (a ++ (b ++ c)) x :=
  outP_bind (hrec ▸ outP_bind hK)

theorem nodeToDb_toItem (n : Node) :
    nodeToDb H (toItem H n) =
      if isBlank n then (.str [], none)
      else if isHashed H n then (.str (hashOf H n), some (enc H n)) else (toItem H n, none) := by
  cases hb : isBlank n with
  | true => rw [(isBlank_iff n).1 hb]; simp [toItem, nodeToDb]
  | false =>
    obtain ⟨l, hl⟩ := toItem_list H n hb
    simp only [isHashed, hashOf, enc, hb, hl, nodeToDb]
    by_cases h : (rlp (.list l)).length < 32
    · have h' : ¬ 32 ≤ (rlp (.list l)).length := by omega
      simp [h, h']
    · have h' : 32 ≤ (rlp (.list l)).length := by omega
      simp [h, h']

theorem pruneNodeR_toItem (st : St) (n : Node) :
    pruneNodeR H st (toItem H n) = st.app (pruneEv (stdHashing H) n) := by
  unfold pruneNodeR pruneEv
  rw [nodeToDb_toItem]
  cases hb : isBlank n with
  | true => rw [(isBlank_iff n).1 hb]; simp [stdHashing, isHashed, isBlank]
  | false =>
    cases hh : isHashed H n with
    | true => simp [stdHashing, hh, St.app, applyPersists]
    | false => simp [stdHashing, hh]

theorem persistNodeR_toItem (st : St) (n : Node) :
    persistNodeR H st (toItem H n) = (refOf H n, st.app (persistEv (stdHashing H) n)) := by
  unfold persistNodeR persistEv
  rw [nodeToDb_toItem]
  cases hb : isBlank n with
  | true => rw [(isBlank_iff n).1 hb]; simp [stdHashing, isHashed, isBlank, refOf_blank]
  | false =>
    cases hh : isHashed H n with
    | true => simp [stdHashing, hh, St.app, applyPersists, refOf_hashed H n hh]
    | false => simp [stdHashing, hh, refOf_embedded H n hb hh]

/-- a child is readable: if hashed, it is stored under its hash with an encoding that decodes back -/
def StoredC (db : Db) (c : Node) : Prop :=
  isHashed H c = true → hashOf H c ≠ blankRoot H ∧ lookup db (hashOf H c) = some (enc H c) ∧
    rlpDecode (enc H c) = some (toItem H c)

theorem getNodeR_hash (st : St) (h : Hash) (h32 : h.length = 32) (hne : h ≠ blankRoot H) :
    getNodeR H st (.str h) =
      match lookup st.db h with
      | none => .error (.missing h)
      | some b => match rlpDecode b with
        | some it => .ok (it, { st with evs := st.evs ++ [Ev.read h] })
        | none => .error .invalid := by
  have h1 : h ≠ [] := by rintro rfl; cases h32
  have h2 : ¬ h.length < 32 := by omega
  simp only [getNodeR, h1, hne, h2, ↓reduceIte]
  rfl

theorem getNodeR_partial (hlen : ∀ b, (H b).length = 32) (db0 : Db) (st : St) (hdb : st.db = db0) (c : Node)
    (hs : PartialC H db0 c) :
    getNodeR H st (refOf H c) = outP db0 st (readEv (stdHashing H) c) (toItem H c) := by
  unfold outP readEv firstMissing
  cases hb : isBlank c with
  | true => rw [(isBlank_iff c).1 hb]; simp [refOf_blank, getNodeR, toItem, stdHashing, isHashed, isBlank]
  | false =>
    cases hh : isHashed H c with
    | false =>
      rw [refOf_embedded H c hb hh]
      obtain ⟨l, hl⟩ := toItem_list H c hb
      simp [hl, getNodeR, stdHashing, hh]
    | true =>
      obtain ⟨hne, hl, hd⟩ := hs hh
      rw [refOf_hashed H c hh, getNodeR_hash H st (hashOf H c) (hlen _) hne, hdb]
      cases hlk : lookup db0 (hashOf H c) with
      | none => simp [hlk, stdHashing, hh]
      | some b =>
        obtain rfl := hl b hlk
        simp [hlk, hd, hdb, stdHashing, hh, St.app, applyPersists]

/-! ### The 17 items of an encoded branch
    How the list operations of the raw code (`node[i] = x`, truthiness of items, the first truthy index) act on them. -/

theorem setAt_brItems_child (ch : Nib → Node) (v : Bytes) (i : Nib) (x : Node) :
    setAt (brItems H ch v) i.val (refOf H x) = brItems H (upd ch i x) v := by
  unfold setAt brItems
  rw [List.set_append_left _ _ (by simp)]
  congr 1
  apply List.ext_getElem (by simp)
  intro j h1 h2
  simp only [List.getElem_set, List.getElem_map, List.getElem_finRange, upd, Fin.ext_iff, Fin.val_cast, @eq_comm _ j]
  split <;> rfl

theorem setAt_brItems_val (ch : Nib → Node) (v v' : Bytes) :
    setAt (brItems H ch v) 16 (.str v') = brItems H ch v' := by
  simp [setAt, brItems, List.set_append_right]

theorem blank17_eq : blank17 = brItems H emptyCh [] := by
  unfold blank17 brItems
  simp only [emptyCh, refOf_blank]
  rfl

theorem replicate16_eq (pv : Bytes) : List.replicate 16 (Item.str []) ++ [.str pv] = brItems H emptyCh pv := by
  unfold brItems
  simp only [emptyCh, refOf_blank]
  rfl

theorem toItem_blank : toItem H blank = .str [] := rfl
theorem toItem_leaf (p : Path) (v : Bytes) : toItem H (leaf p v) = .list [leafKey p, .str v] := rfl
theorem toItem_ext (p : Path) (c : Node) : toItem H (ext p c) = .list [extKey p, refOf H c] := rfl

theorem list_beq_str (l : List Item) (b : Bytes) : (Item.list l == Item.str b) = false := by
  simp [BEq.beq, Item.beq]

theorem str_beq_nil (h : Bytes) : (Item.str h == Item.str []) = decide (h = []) := by
  cases h <;> simp [BEq.beq, Item.beq]

theorem beq_blank_iff (x : Item) : (x == Item.str []) = true ↔ x = .str [] := by
  cases x <;> simp [list_beq_str, str_beq_nil]

theorem truthy_eq (x : Item) : truthy x = !(x == Item.str []) := by
  cases x with
  | str b => cases b <;> simp [truthy, BEq.beq, Item.beq]
  | list l => simp [truthy, BEq.beq, Item.beq]

theorem toItem_beq_blank (n : Node) : (toItem H n == Item.str []) = isBlank n :=
  Bool.eq_iff_iff.2 ((beq_blank_iff _).trans (by cases n <;> simp [toItem, isBlank]))

/-- only the blank node has the blank reference (a hash has 32 bytes) -/
theorem refOf_beq_blank (hlen : ∀ b, (H b).length = 32) (n : Node) : (refOf H n == Item.str []) = isBlank n := by
  refine Bool.eq_iff_iff.2 ((beq_blank_iff _).trans ?_)
  cases hb : isBlank n with
  | true => rw [(isBlank_iff n).1 hb, refOf_blank]; simp
  | false =>
    cases hh : isHashed H n with
    | false =>
      obtain ⟨l, hl⟩ := toItem_list H n hb
      simp [refOf_embedded H n hb hh, hl]
    | true =>
      have h32 := hlen (enc H n)
      simp only [refOf_hashed H n hh, hashOf, Item.str.injEq, Bool.false_eq_true, iff_false]
      intro h
      simp [h] at h32

theorem truthy_refOf (hlen : ∀ b, (H b).length = 32) (c : Node) : truthy (refOf H c) = !isBlank c := by
  rw [truthy_eq, refOf_beq_blank H hlen]

theorem truthy_str (v : Bytes) : truthy (.str v) = !decide (v = []) := by
  cases v <;> simp [truthy]

theorem twoTruthy_brItems (hlen : ∀ b, (H b).length = 32) (ch : Nib → Node) (v : Bytes) :
    twoTruthy (brItems H ch v) = decide (2 ≤ weight ch v) := by
  have e : (truthy ∘ fun i => refOf H (ch i)) = fun i => !isBlank (ch i) := by
    funext i; simp [truthy_refOf H hlen]
  unfold twoTruthy brItems weight liveIdx
  rw [List.filter_append, List.filter_map, List.length_append, List.length_map, e]
  cases v with
  | nil => simp [truthy]
  | cons a r =>
    have : (List.filter truthy [Item.str (a :: r)]).length = 1 := rfl
    rw [this]
    simp

theorem range16 : List.range 16 = (List.finRange 16).map (·.val) := by decide

theorem find_brItems (hlen : ∀ b, (H b).length = 32) (ch : Nib → Node) (v : Bytes) :
    (List.range 16).find? (fun i => truthy ((brItems H ch v).getD i (.str []))) =
      (liveIdx ch).head?.map (·.val) := by
  rw [range16, List.find?_map]
  have e : ((fun i => truthy ((brItems H ch v).getD i (.str []))) ∘ fun (x : Nib) => x.val) =
      fun i => !isBlank (ch i) := by
    funext i; simp only [Function.comp, brItems_getD, truthy_refOf H hlen]
  rw [e, liveIdx, List.head?_filter]

end PyTrie.HexRaw
