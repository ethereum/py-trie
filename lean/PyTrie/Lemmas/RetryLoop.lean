import PyTrie.Lemmas.MissingPath
/-! C07, the retry loop: one failed attempt followed by supplying the reported node strictly decreases
    `#outstanding fetches + (1 if the root node is still to be fetched)`. -/
namespace PyTrie.HexW
open PyTrie.Hex hiding get set
open PyTrie.Hex.Node

variable (Hs : Hashing) (blankRootHash : Hash)

theorem Dict.get?_of_contains {α} (d : Dict α) (h : Hash) (hc : Dict.contains d h = true) :
    ∃ b, Dict.get? d h = some b := by
  unfold Dict.get?
  cases hf : d.find? (fun e => e.1 == h) with
  | some e => exact ⟨e.2, rfl⟩
  | none =>
    exfalso
    simp only [Dict.contains, List.any_eq_true] at hc
    obtain ⟨e, he, hp⟩ := hc
    exact (List.find?_eq_none.1 hf e he) hp

/-- 1 when the root fetch of `get` / `set` / `delete` would fail, else 0 -/
def rootFlag (T : TrieSt) (st : Store) : Nat :=
  if (T.root != blankRootHash && !(st.contains T.root)) = true then 1 else 0

theorem rootFlag_le (T : TrieSt) (st st' : Store)
    (hmono : ∀ x, st.contains x = true → st'.contains x = true) :
    rootFlag blankRootHash T st' ≤ rootFlag blankRootHash T st := by
  unfold rootFlag
  cases hs : st.contains T.root with
  | true => simp [hmono _ hs]
  | false => cases hb : (T.root != blankRootHash) <;> cases hs' : st'.contains T.root <;> simp

theorem rootFlag_le_one (T : TrieSt) (st : Store) : rootFlag blankRootHash T st ≤ 1 := by
  unfold rootFlag; split <;> omega

/-- supplying an absent hash that is the root's or one of the fetches `L` lowers the measure -/
theorem retry_measure (L : List Hash) (T : TrieSt) (st st' : Store)
    (hmono : ∀ x, st.contains x = true → st'.contains x = true) (h : Hash) (habs : st.contains h = false)
    (hself : st'.contains h = true) (hw : (T.root ≠ blankRootHash ∧ h = T.root) ∨ h ∈ L) :
    (L.filter (fun h => !(st'.contains h))).length + rootFlag blankRootHash T st' <
      (L.filter (fun h => !(st.contains h))).length + rootFlag blankRootHash T st := by
  have hle := absent_filter_le L st st' hmono
  have hfle := rootFlag_le blankRootHash T st st' hmono
  rcases hw with ⟨hne, rfl⟩ | hm
  · have h1 : rootFlag blankRootHash T st = 1 := by simp [rootFlag, hne, habs]
    have h0 : rootFlag blankRootHash T st' = 0 := by simp [rootFlag, hself]
    omega
  · have := absent_filter_lt L st st' hmono h hm habs hself
    omega

/-- one failed lookup, then the reported hash becomes present (nothing else disappears): the hash was absent, it is
    the root's (and the root is not the blank root) or one of the path fetches, and the measure drops -/
theorem opGet_retry_step (T : TrieSt) (key : Bytes) (s : OpSt) (h root rk : Bytes) (pre : Option Path) (st' : Store)
    (he : opGet Hs blankRootHash T key s = .error (.missingTrieNode h root rk pre))
    (hself : st'.contains h = true) (hmono : ∀ x, s.store.contains x = true → st'.contains x = true) :
    s.store.contains h = false ∧
    ((T.root ≠ blankRootHash ∧ h = T.root) ∨ h ∈ (traverseReads Hs T.tree (nibs key) []).map (·.1)) ∧
    (outstanding Hs T key st').length + rootFlag blankRootHash T st' <
      (outstanding Hs T key s.store).length + rootFlag blankRootHash T s.store := by
  have ⟨habs, hw⟩ : s.store.contains h = false ∧
      ((T.root ≠ blankRootHash ∧ h = T.root) ∨ h ∈ (traverseReads Hs T.tree (nibs key) []).map (·.1)) := by
    rcases opGet_error Hs blankRootHash T key s _ he with ⟨hne, habs, e⟩ | ⟨_, _, hm, habs, e⟩ <;> cases e
    · exact ⟨habs, .inl ⟨hne, rfl⟩⟩
    · exact ⟨habs, .inr (List.mem_map.2 ⟨_, hm, rfl⟩)⟩
  exact ⟨habs, hw, retry_measure blankRootHash _ T s.store st' hmono h habs hself hw⟩

theorem opSetDel_retry_step (T : TrieSt) (key : Bytes) (val : Option Bytes) (s : OpSt) (h root rk : Bytes)
    (pre : Option Path) (st' : Store)
    (he : (opSetDel Hs blankRootHash T key val s).2 = .error (.missingTrieNode h root rk pre))
    (hself : st'.contains h = true) (hmono : ∀ x, s.store.contains x = true → st'.contains x = true) :
    s.store.contains h = false ∧
    ((T.root ≠ blankRootHash ∧ h = T.root) ∨ Ev.read h ∈ (opTree Hs T key val).2) ∧
    (outstandingOp Hs T key val st').length + rootFlag blankRootHash T st' <
      (outstandingOp Hs T key val s.store).length + rootFlag blankRootHash T s.store := by
  unfold opSetDel at he
  obtain ⟨_, _, habs, _, _, hw⟩ :=
    opCore_missing Hs blankRootHash T key val { s with pending := [] } h root rk pre _ rfl he
  exact ⟨habs, hw, retry_measure blankRootHash _ T s.store st' hmono h habs hself
    (hw.imp_right fun hm => List.mem_filterMap.2 ⟨_, hm, rfl⟩)⟩

theorem opSetDel_ok_tree (T : TrieSt) (key : Bytes) (val : Option Bytes) (s : OpSt) (T' : TrieSt)
    (h1 : (opSetDel Hs blankRootHash T key val s).2 = .ok T') : T'.tree = (opTree Hs T key val).1 := by
  unfold opSetDel at h1
  simp only at h1
  unfold opCore at h1
  split at h1
  · cases h1
  · split at h1
    · cases h1
    · split at h1
      · cases h1
      · split at h1
        · cases h1
        · simp only [Except.ok.injEq] at h1
          rw [← h1]

end PyTrie.HexW
