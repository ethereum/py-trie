import PyTrie.Lemmas.RawPrims
import PyTrie.Lemmas.WorldComplete
/-! **Refinement**: the raw-level transcription of the write path (`Model/HexRaw.lean`: `_set`,
    `_set_kv_node`, `_set_branch_node`, `_delete*`, `_normalize_branch_node`, `_persist_node`,
    `_prune_node`, `get_node` over raw nodes and a database of rlp bytes) computes, on the raw encoding
    of a canonical tree whose hashed subtrees are stored, the raw encoding of the tree-level result and
    emits exactly the event list of the effect layer (`setE` / `deleteE`). Hence every theorem about the
    tree, effect and world layers speaks about this statement-by-statement transcription of the code.

    The induction is over databases that may lack nodes (`rawSet_partial_app`, `rawDelete_partial_app`: the result
    is that on the complete database, or the first fetch the database cannot answer). -/
namespace PyTrie.HexRaw
open PyTrie.Hex PyTrie.HexD PyTrie.Hex.Node
open PyTrie.HexW (StoredBelow ReadsIn deleteE_blank_noPersist persistEv_blank)
variable (H : Bytes → Bytes)

theorem fold_leaf (p : Path) (v : Bytes) : Item.list [leafKey p, .str v] = toItem H (leaf p v) := rfl
theorem fold_ext (p : Path) (c : Node) : Item.list [extKey p, refOf H c] = toItem H (ext p c) := rfl
theorem fold_branch (ch : Nib → Node) (v : Bytes) : Item.list (brItems H ch v) = toItem H (branch ch v) := rfl

theorem wrap_nil' (n : Node) : wrap [] n = n := rfl
theorem wrap_ne {c : Path} (h : c ≠ []) (n : Node) : wrap c n = ext c n := by simp [wrap, h]

/-- the end of `_set_kv_node`: the new branch goes under an extension when there is a common prefix -/
theorem kv_wrap (cm : Path) (br : Node) (st : St) :
    (if cm ≠ [] then
        (.ok (.list [extKey cm, refOf H br], st.app (persistEv (stdHashing H) br)) : Except Err (Item × St))
      else .ok (toItem H br, st)) =
    .ok (toItem H (wrap cm br), st.app (if cm = [] then [] else persistEv (stdHashing H) br)) := by
  by_cases hcm : cm = [] <;> simp [hcm, wrap, fold_ext H]

theorem rawSetKv_leaf (fuel : Nat) (st : St) (p : Path) (pv : Bytes) (k : Path) (v : Bytes) :
    rawSetKv H (fuel + 1) (st.app (pruneEv (stdHashing H) (leaf p pv))) (toItem H (leaf p pv)) p (.str pv) false k v =
      .ok (toItem H (setE (stdHashing H) (leaf p pv) k v).1, st.app (setE (stdHashing H) (leaf p pv) k v).2) := by
  simp only [rawSetKv, setE, toItem_leaf]
  generalize p.drop (cpl p k) = pr
  generalize k.drop (cpl p k) = kr
  generalize p.take (cpl p k) = cm
  cases pr <;> cases kr <;> simp only [Bool.not_false, ↓reduceIte, Bool.false_eq_true, and_false]
  · rfl
  all_goals
    simp only [fold_leaf H, persistNodeR_toItem, replicate16_eq H, blank17_eq H, setAt_brItems_child,
      setAt_brItems_val, fold_branch H, kv_wrap]
    simp only [app_app, List.append_assoc]

theorem drop_cpl_length (p k : Path) (hp : p ≠ []) (h : p.drop (cpl p k) = []) :
    (k.drop (cpl p k)).length + 1 ≤ k.length := by
  have h1 := cpl_le_right p k
  have h2 : p.length ≤ cpl p k := List.drop_eq_nil_iff.1 h
  have h3 : 0 < p.length := List.length_pos_iff.2 hp
  simp only [List.length_drop]
  omega

theorem fuel_succ {n fuel : Nat} (hf : 2 * n + 2 ≤ fuel) : ∃ f, fuel = f + 1 := ⟨fuel - 1, by omega⟩
theorem fuel_succ_succ {n fuel : Nat} (hf : 2 * n + 2 ≤ fuel) : ∃ f, fuel = f + 2 := ⟨fuel - 2, by omega⟩

/-- **`_set` on an incomplete database**: the result on the complete database, or the first fetch of `setE` that the
    database cannot answer -/
theorem rawSet_partial_app (hlen : ∀ b, (H b).length = 32) (v : Bytes) (t : Node) :
    Canon t → ∀ (k : Path) (st : St) (fuel : Nat) (db0 : Db), st.db = db0 → PartialD H db0 t →
    2 * k.length + 2 ≤ fuel →
    rawSet H fuel st (toItem H t) k v =
      outP db0 st (setE (stdHashing H) t k v).2 (toItem H (setE (stdHashing H) t k v).1) := by
  induction t with
  | blank =>
    intro _ k st fuel db0 _ _ hf
    obtain ⟨f, rfl⟩ := fuel_succ hf
    simp [outP, rawSet, classify_blank, pruneNodeR_toItem, setE, pruneEv, stdHashing, isHashed, isBlank, fold_leaf H]
  | leaf p pv =>
    intro _ k st fuel db0 _ _ hf
    obtain ⟨f, rfl⟩ := fuel_succ_succ hf
    simp only [rawSet, classify_leaf, pruneNodeR_toItem]
    rw [outP_noRead _ _ _ _ (PyTrie.HexW.setE_leaf_noRead _ p pv k v)]
    exact rawSetKv_leaf H f st p pv k v
  | ext p c ih =>
    intro hc k st fuel db0 hdb hst hf
    obtain ⟨hpne, _, hcc⟩ := hc
    obtain ⟨hsc, hstc⟩ := hst
    obtain ⟨f, rfl⟩ := fuel_succ_succ hf
    have hsplit : p.take (cpl p k) ++ p.drop (cpl p k) = p := List.take_append_drop _ _
    have hlen' := drop_cpl_length p k hpne
    simp only [rawSet, classify_ext, pruneNodeR_toItem]
    simp only [rawSetKv, setE, toItem_ext]
    generalize p.drop (cpl p k) = pr at hsplit hlen' ⊢
    generalize k.drop (cpl p k) = kr at hlen' ⊢
    generalize p.take (cpl p k) = cm at hsplit ⊢
    cases pr with
    | nil =>
      -- the extension's key is consumed: fetch its child and recurse
      obtain rfl : cm = p := by simpa using hsplit
      have hg := getNodeR_partial H hlen db0 (st.app (pruneEv (stdHashing H) (ext cm c))) (by simpa using hdb) c hsc
      have hi := ih hcc kr (st.app (pruneEv (stdHashing H) (ext cm c) ++ readEv (stdHashing H) c)) f db0
        (by simpa using hdb) hstc (by have := hlen' rfl; omega)
      unfold outP at hg hi ⊢
      cases kr <;>
      (simp only [Bool.not_true, Bool.false_eq_true, ↓reduceIte, hg, firstMissing_append, firstMissing_pruneEv,
         firstMissing_persistEv, Option.none_or, Option.or_none]
       generalize setE (stdHashing H) c _ v = r at hi ⊢
       cases firstMissing db0 (readEv (stdHashing H) c) with
       | some h => rfl
       | none =>
         simp only [app_app, hi, Option.none_or]
         cases firstMissing db0 r.2 with
         | some h => rfl
         | none => simp [Except.map, hpne, persistNodeR_toItem, fold_ext H, List.append_assoc])
    | cons ph pt =>
      -- the keys part inside the extension: a branch there, what is left of the extension below it
      have hslot : (if pt = [] then (refOf H c, st.app (pruneEv (stdHashing H) (ext p c)))
          else persistNodeR H (st.app (pruneEv (stdHashing H) (ext p c))) (.list [extKey pt, refOf H c])) =
          (refOf H (wrap pt c), st.app (pruneEv (stdHashing H) (ext p c) ++
            if pt = [] then [] else persistEv (stdHashing H) (wrap pt c))) := by
        by_cases hpt : pt = [] <;> simp [hpt, wrap, fold_ext H, persistNodeR_toItem]
      cases kr <;>
      (simp only [and_true, ↓reduceIte, hslot]
       rw [outP_noRead _ _ _ _ (by simp)]
       simp only [fold_leaf H, persistNodeR_toItem, blank17_eq H, setAt_brItems_child, setAt_brItems_val,
         fold_branch H, kv_wrap]
       simp only [app_app, List.append_assoc])
  | branch ch bv ih =>
    intro hc k st fuel db0 hdb hst hf
    obtain ⟨f, rfl⟩ := fuel_succ hf
    cases k with
    | nil =>
      simp only [rawSet, classify_branch, pruneNodeR_toItem, setE, setAt_brItems_val, fold_branch H]
      rw [outP_noRead _ _ _ _ (by simp)]
    | cons a rest =>
      simp only [rawSet, classify_branch, pruneNodeR_toItem, brItems_getD, setE, List.append_assoc]
      rw [outP_append_noRead _ _ _ _ _ (by simp),
        getNodeR_partial H hlen db0 _ (by simpa using hdb) (ch a) (hst a).1]
      refine outP_descend (ih a (hc.1 a) rest _ f db0 (by simpa using hdb) (hst a).2 (by simp at hf; omega)) ?_
      rw [outP_noRead _ _ _ _ (by simp)]
      simp only [persistNodeR_toItem, setAt_brItems_child, fold_branch H, app_app]

theorem rawNormalize_partial (hlen : ∀ b, (H b).length = 32) (db0 : Db) (st : St) (hdb : st.db = db0)
    (ch : Nib → Node) (v : Bytes) (hw : 1 ≤ weight ch v) (hs : ∀ i, PartialC H db0 (ch i)) :
    rawNormalize H st (brItems H ch v) =
      outP db0 st (normalizeE (stdHashing H) ch v).2 (toItem H (normalizeE (stdHashing H) ch v).1) := by
  unfold rawNormalize
  rw [twoTruthy_brItems H hlen, brItems_getD_16, truthy_str, find_brItems H hlen]
  unfold normalizeE
  unfold weight at hw ⊢
  generalize hl : liveIdx ch = l at hw
  match l, v with
  | [], [] => simp at hw
  | [], b :: bs => simp [outP, fold_leaf H]
  | [i], b :: bs => simp [outP, fold_branch H]
  | i :: j :: r, v =>
    have : 2 ≤ (i :: j :: r).length + if v = [] then 0 else 1 := by simp; omega
    simp only [this, decide_true, ↓reduceIte, fold_branch H, app_nil, outP, firstMissing_nil]
  | [i], [] =>
    have hi : isBlank (ch i) = false := (mem_liveIdx ch i).1 (by simp [hl])
    have hg := getNodeR_partial H hlen db0 st hdb (ch i) (hs i)
    simp only [List.length_cons, List.length_nil, ↓reduceIte, List.head?_cons, Option.map_some, brItems_getD, hg]
    generalize ch i = ci at hi ⊢
    unfold outP
    cases h1 : firstMissing db0 (readEv (stdHashing H) ci) with
    | some h => cases ci <;> simp [firstMissing_append, h1]
    | none =>
      cases ci with
      | blank => simp [isBlank] at hi
      | leaf p lv => simp [firstMissing_append, h1, classify_leaf, pruneNodeR_toItem, toNib_val, fold_leaf H]
      | ext p c => simp [firstMissing_append, h1, classify_ext, pruneNodeR_toItem, toNib_val, fold_ext H]
      | branch ch' v' => simp [h1, classify_branch, toNib_val, fold_ext H]

theorem stdHashing_refEq (a b : Node) : (stdHashing H).refEq a b = (refOf H a == refOf H b) := rfl

theorem weight_upd_blank (ch : Nib → Node) (a : Nib) (v : Bytes) :
    weight ch v ≤ weight (upd ch a blank) v + 1 := by
  have h : liveIdx (upd ch a blank) = (liveIdx ch).erase a := by
    unfold liveIdx
    rw [List.Nodup.erase_eq_filter ((List.nodup_finRange 16).filter _), List.filter_filter]
    congr 1
    funext i
    by_cases h : i = a <;> simp [upd, h, isBlank]
  have := List.le_length_erase (a := a) (l := liveIdx ch)
  simp only [weight, h]
  omega

theorem weight_nil_of_two_le (ch : Nib → Node) (v : Bytes) (h : 2 ≤ weight ch v) : 1 ≤ weight ch [] := by
  unfold weight at h ⊢
  split at h <;> simp <;> omega

theorem partialC_upd_blank (db : Db) (ch : Nib → Node) (a : Nib) (hs : ∀ i, PartialC H db (ch i)) (i : Nib) :
    PartialC H db (upd ch a blank i) := by
  unfold upd
  split
  · intro h; simp [isHashed, isBlank] at h
  · exact hs i

/-- **`_delete` on an incomplete database**: the result on the complete database, or the first fetch of `deleteE`
    that the database cannot answer -/
theorem rawDelete_partial_app (hlen : ∀ b, (H b).length = 32) (t : Node) :
    Canon t → ∀ (k : Path) (st : St) (fuel : Nat) (db0 : Db), st.db = db0 → PartialD H db0 t →
    2 * k.length + 2 ≤ fuel →
    rawDelete H fuel st (toItem H t) k =
      outP db0 st (deleteE (stdHashing H) t k).2 (toItem H (deleteE (stdHashing H) t k).1) := by
  induction t with
  | blank =>
    intro _ k st fuel db0 _ _ hf
    obtain ⟨f, rfl⟩ := fuel_succ hf
    simp only [rawDelete, classify_blank, pruneNodeR_toItem, deleteE]
    simp [outP, pruneEv, stdHashing, isHashed, isBlank, toItem]
  | leaf p pv =>
    intro _ k st fuel db0 _ _ hf
    obtain ⟨f, rfl⟩ := fuel_succ hf
    simp only [rawDelete, classify_leaf, pruneNodeR_toItem, deleteE]
    by_cases hkp : k = p
    · subst hkp; simp [outP, toItem]
    · by_cases hpk : p <+: k <;> simp [outP, hkp, hpk]
  | ext p c ih =>
    intro hc k st fuel db0 hdb hst hf
    obtain ⟨hpne, _, hcc⟩ := hc
    obtain ⟨hsc, hstc⟩ := hst
    obtain ⟨f, rfl⟩ := fuel_succ hf
    simp only [rawDelete, classify_ext, pruneNodeR_toItem, deleteE]
    by_cases hpk : p <+: k
    · have hlp : 0 < p.length := List.length_pos_iff.2 hpne
      have hle := hpk.length_le
      have hi := ih hcc (k.drop p.length) ((st.app (pruneEv (stdHashing H) (ext p c))).app (readEv (stdHashing H) c))
        f db0 (by simpa using hdb) hstc (by simp only [List.length_drop]; omega)
      simp only [hpk, decide_true, Bool.not_true, Bool.false_eq_true, ↓reduceIte, stdHashing_refEq]
      rw [getNodeR_partial H hlen db0 _ (by simpa using hdb) c hsc]
      generalize deleteE (stdHashing H) c (k.drop p.length) = r at hi ⊢
      obtain ⟨r1, r2⟩ := r
      by_cases he : (refOf H r1 == refOf H c) = true
      · simp only [he, ↓reduceIte, List.append_assoc]
        rw [outP_append_noRead _ _ _ _ _ (by simp)]
        refine outP_descend (by exact hi) ?_
        rw [outP_noRead _ _ _ _ (by simp)]
        simp [persistNodeR_toItem, he]
      · cases r1 <;>
        (simp only [he, Bool.false_eq_true, ↓reduceIte, List.append_assoc]
         rw [outP_append_noRead _ _ _ _ _ (by simp)]
         refine outP_descend (by exact hi) ?_
         rw [outP_noRead _ _ _ _ (by simp)]
         simp only [persistNodeR_toItem, he, toItem_beq_blank, isBlank, classify_leaf, classify_ext, classify_branch,
           pruneNodeR_toItem, Bool.false_eq_true, ↓reduceIte, app_app, List.append_assoc]
         rfl)
    · simp [outP, hpk]
  | branch ch bv ih =>
    intro hc k st fuel db0 hdb hst hf
    obtain ⟨hcc, hw⟩ := hc
    obtain ⟨f, rfl⟩ := fuel_succ hf
    have hsC : ∀ i, PartialC H db0 (ch i) := fun i => (hst i).1
    cases k with
    | nil =>
      simp only [rawDelete, classify_branch, pruneNodeR_toItem, deleteE, setAt_brItems_val]
      rw [outP_append_noRead _ _ _ _ _ (by simp)]
      exact rawNormalize_partial H hlen db0 _ (by simpa using hdb) ch [] (weight_nil_of_two_le ch bv hw) hsC
    | cons a rest =>
      have hi := ih a (hcc a) rest ((st.app (pruneEv (stdHashing H) (branch ch bv))).app (readEv (stdHashing H) (ch a)))
        f db0 (by simpa using hdb) (hst a).2 (by simp at hf; omega)
      simp only [rawDelete, classify_branch, pruneNodeR_toItem, deleteE, brItems_getD, stdHashing_refEq]
      rw [getNodeR_partial H hlen db0 _ (by simpa using hdb) (ch a) (hsC a)]
      have hnp := deleteE_blank_noPersist (stdHashing H) (ch a) rest
      generalize deleteE (stdHashing H) (ch a) rest = r at hnp hi ⊢
      obtain ⟨r1, r2⟩ := r
      by_cases he : (refOf H r1 == refOf H (ch a)) = true
      · simp only [he, ↓reduceIte, List.append_assoc]
        rw [outP_append_noRead _ _ _ _ _ (by simp)]
        refine outP_descend (by exact hi) ?_
        rw [outP_noRead _ _ _ _ (by simp)]
        simp [persistNodeR_toItem, he]
      · cases hb : isBlank r1 with
        | false =>
          simp only [he, Bool.false_eq_true, ↓reduceIte, List.append_assoc]
          rw [outP_append_noRead _ _ _ _ _ (by simp)]
          refine outP_descend (by exact hi) ?_
          rw [outP_noRead _ _ _ _ (by simp)]
          simp [persistNodeR_toItem, he, hb, refOf_beq_blank H hlen, setAt_brItems_child, fold_branch H]
        | true =>
          obtain rfl : r1 = blank := (isBlank_iff r1).1 hb
          simp only [he, Bool.false_eq_true, ↓reduceIte, List.append_assoc, persistEv_blank, List.nil_append]
          rw [outP_append_noRead _ _ _ _ _ (by simp)]
          refine outP_descend (by exact hi) ?_
          simp only [persistNodeR_toItem, he, refOf_beq_blank H hlen, isBlank, setAt_brItems_child, persistEv_blank,
            app_nil, Bool.false_eq_true, ↓reduceIte]
          have hnb := weight_upd_blank ch a bv
          exact rawNormalize_partial H hlen db0 _ (by simpa [hnp rfl] using hdb) _ bv (by omega)
            (partialC_upd_blank H db0 ch a hsC)

/-! ### Every fetch answered -/

theorem partialD_of_storedD (db : Db) (t : Node) (h : StoredD H db t) : PartialD H db t := by
  have hC : ∀ c, StoredC H db c → PartialC H db c := fun c hs hh =>
    ⟨(hs hh).1, fun b hb => Option.some.inj (hb.symm.trans (hs hh).2.1), (hs hh).2.2⟩
  induction t with
  | blank => trivial
  | leaf p v => trivial
  | ext p c ih => exact ⟨hC c h.1, ih h.2⟩
  | branch ch v ih => exact fun i => ⟨hC _ (h i).1, ih i (h i).2⟩

/-- a database is a dict: what the world layer proves about reads of `setE` / `deleteE` applies -/
theorem storedBelow_of_storedD (db : Db) (t : Node) (h : StoredD H db t) : StoredBelow (stdHashing H) db t := by
  induction t with
  | blank => trivial
  | leaf p v => trivial
  | ext p c ih => exact ⟨fun hh => (h.1 hh).2.1, ih h.2⟩
  | branch ch v ih => exact fun i => ⟨fun hh => ((h i).1 hh).2.1, ih i (h i).2⟩

theorem firstMissing_of_readsIn (db : Db) (evs : List Ev) (h : ReadsIn db evs) : firstMissing db evs = none := by
  cases hf : firstMissing db evs with
  | none => rfl
  | some x =>
    obtain ⟨h1, h2⟩ := firstMissing_some db evs x hf
    have := h x h2
    simp [PyTrie.HexW.Dict.contains, lookup] at this h1
    obtain ⟨b, hb⟩ := this
    exact absurd rfl (h1 _ _ hb)

theorem rawSet_refines (hlen : ∀ b, (H b).length = 32) (t : Node) (hc : Canon t) (k : Path) (v : Bytes)
    (st : St) (hst : StoredD H st.db t) (fuel : Nat) (hf : 2 * k.length + 2 ≤ fuel) :
    rawSet H fuel st (toItem H t) k v =
      .ok (toItem H (setE (stdHashing H) t k v).1,
           { db := applyPersists st.db (setE (stdHashing H) t k v).2, evs := st.evs ++ (setE (stdHashing H) t k v).2 }) := by
  rw [rawSet_partial_app H hlen v t hc k st fuel st.db rfl (partialD_of_storedD H _ t hst) hf, outP,
    firstMissing_of_readsIn _ _ (PyTrie.HexW.setE_reads _ _ t k v (storedBelow_of_storedD H _ t hst))]
  rfl

theorem rawDelete_refines (hlen : ∀ b, (H b).length = 32) (t : Node) (hc : Canon t) (k : Path)
    (st : St) (hst : StoredD H st.db t) (fuel : Nat) (hf : 2 * k.length + 2 ≤ fuel) :
    rawDelete H fuel st (toItem H t) k =
      .ok (toItem H (deleteE (stdHashing H) t k).1,
           { db := applyPersists st.db (deleteE (stdHashing H) t k).2, evs := st.evs ++ (deleteE (stdHashing H) t k).2 }) := by
  rw [rawDelete_partial_app H hlen t hc k st fuel st.db rfl (partialD_of_storedD H _ t hst) hf, outP,
    firstMissing_of_readsIn _ _ (PyTrie.HexW.deleteE_reads _ _ t k (storedBelow_of_storedD H _ t hst))]
  rfl

end PyTrie.HexRaw
