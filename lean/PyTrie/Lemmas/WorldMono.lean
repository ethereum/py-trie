import PyTrie.Model.HexWorld
import PyTrie.Lemmas.HexEff
import PyTrie.Lemmas.PruneDict
/-! C04: a non-pruning trie only ever *adds* content-addressed entries to its database.

`opSetDel` is `HexaryTrie.set/delete` (with `_prune_on_success`) on a store; with `prune = false` and a
plain dict (`cache = none`) every database write is `db[hashOf n] = encOf n` for some node `n`.
No injectivity of the hash is assumed: an existing entry is preserved *or the run exhibits a
collision* (`Clobbers`: an entry was overwritten with a different body under the same key).
It is an instance of a general principle: a predicate on the operation state (or on the store alone)
that survives each primitive step of the executor holds at every exit of `set` / `delete` (`opSetDel_inv`,
`opSetDel_store_inv`). -/
namespace PyTrie.HexW
open PyTrie.Hex hiding get set
open PyTrie.Hex.Node

variable (Hs : Hashing) (blankRootHash : Hash)

/-- the store's dict before (`d`) and after (`d'`): every old binding is still there -/
def Preserved (d d' : Dict Bytes) : Prop := ∀ h b, Dict.get? d h = some b → Dict.get? d' h = some b

def Clobbers (d : Dict Bytes) (writes : List (Hash × Bytes)) : Prop :=
  ∃ h b b', (h, b') ∈ writes ∧ b ≠ b' ∧ Dict.get? d h = some b

def OnlyAdds (d d' : Dict Bytes) (writes : List (Hash × Bytes)) : Prop :=
  ∀ h b, Dict.get? d' h = some b → Dict.get? d h = some b ∨ (h, b) ∈ writes

def writesOf : List Ev → List (Hash × Bytes)
  | [] => []
  | .persist h b :: r => (h, b) :: writesOf r
  | _ :: r => writesOf r

theorem writesOf_append (a b : List Ev) : writesOf (a ++ b) = writesOf a ++ writesOf b := by
  induction a with
  | nil => rfl
  | cons e r ih => cases e <;> simp [writesOf, ih]

theorem mem_writesOf_persist (h : Hash) (b : Bytes) (es : List Ev) : (h, b) ∈ writesOf (.persist h b :: es) :=
  List.mem_cons_self

theorem writesOf_subset_cons (e : Ev) (es : List Ev) : ∀ x ∈ writesOf es, x ∈ writesOf (e :: es) := by
  intro x hx
  cases e <;> simp [writesOf, hx]

/-- the writes of one `set` / `delete`: the persists of the tree operation, then the root -/
def opWrites (T : TrieSt) (key : Bytes) (val : Option Bytes) : List (Hash × Bytes) :=
  writesOf (opTree Hs T key val).2 ++
    (if isBlank (opTree Hs T key val).1 then []
     else [(Hs.hashOf (opTree Hs T key val).1, Hs.encOf (opTree Hs T key val).1)])

theorem opTree_cases {P : Node × List Ev → Prop} (T : TrieSt) (key : Bytes) (val : Option Bytes)
    (hd : P (deleteE Hs T.tree (nibs key))) (hs : ∀ v, P (setE Hs T.tree (nibs key) v)) :
    P (opTree Hs T key val) := by
  unfold opTree
  split
  · split
    · exact hd
    · exact hs _
  · exact hd

theorem opTree_fst_p (T : TrieSt) (hc : Canon T.tree) (key : Bytes) (val : Option Bytes)
    (hrs : RefSound Hs T.tree (nibs key)) :
    (opTree Hs T key val).1 = (match val with
        | some v => if v = [] then Hex.delete T.tree (nibs key) else Hex.set T.tree (nibs key) v
        | none => Hex.delete T.tree (nibs key)) := by
  cases val with
  | none => exact deleteE_fst Hs _ _ hrs hc
  | some v =>
    simp only [opTree]
    split
    · exact deleteE_fst Hs _ _ hrs hc
    · exact setE_fst Hs _ _ _

def Addr (evs : List Ev) : Prop := ∀ e ∈ writesOf evs, ∃ n, e = (Hs.hashOf n, Hs.encOf n)

theorem Addr_nil : Addr Hs [] := by intro e he; cases he
theorem Addr_append {a b : List Ev} : Addr Hs (a ++ b) ↔ Addr Hs a ∧ Addr Hs b := by
  simp only [Addr, writesOf_append, List.forall_mem_append]
theorem Addr_pruneEv (n : Node) : Addr Hs (pruneEv Hs n) := by
  unfold pruneEv; split <;> simp [Addr, writesOf]
theorem Addr_readEv (n : Node) : Addr Hs (readEv Hs n) := by
  unfold readEv; split <;> simp [Addr, writesOf]
theorem Addr_persistEv (n : Node) : Addr Hs (persistEv Hs n) := by
  unfold persistEv; split
  · intro e he; simp [writesOf] at he; exact ⟨n, he⟩
  · exact Addr_nil Hs
theorem Addr_ite (c : Prop) [Decidable c] (x : List Ev) (hx : Addr Hs x) : Addr Hs (if c then [] else x) := by
  split
  · exact Addr_nil Hs
  · exact hx

section
attribute [local simp] Addr_nil Addr_append Addr_pruneEv Addr_readEv Addr_persistEv Addr_ite

theorem setE_Addr (t : Node) (k : Path) (v : Bytes) : Addr Hs (setE Hs t k v).2 := by
  fun_induction setE Hs t k v <;> simp +zetaDelta [*]

theorem normalizeE_Addr (ch : Nib → Node) (v : Bytes) : Addr Hs (normalizeE Hs ch v).2 := by
  fun_cases normalizeE Hs ch v <;> simp [*]

theorem deleteE_Addr (t : Node) (k : Path) : Addr Hs (deleteE Hs t k).2 := by
  fun_induction deleteE Hs t k <;> simp +zetaDelta [normalizeE_Addr, *]
end

theorem get?_insert_self (d : Dict Bytes) (h : Hash) (b : Bytes) : Dict.get? (Dict.insert d h b) h = some b :=
  Dict.get?_insert_self' d h b

theorem get?_insert_other (d : Dict Bytes) (h h' : Hash) (b : Bytes) (hne : h' ≠ h) :
    Dict.get? (Dict.insert d h b) h' = Dict.get? d h' :=
  Dict.get?_insert_other' d h h' b hne

/-- `d'` is reachable from `d` by (some of) the writes `ws` -/
structure Good (d : Dict Bytes) (ws : List (Hash × Bytes)) (d' : Dict Bytes) : Prop where
  pres : ¬ Clobbers d ws → Preserved d d'
  adds : OnlyAdds d d' ws

theorem Good.refl (d : Dict Bytes) (ws : List (Hash × Bytes)) : Good d ws d :=
  ⟨fun _ _ _ h => h, fun _ _ h => Or.inl h⟩

theorem Good.insert {d : Dict Bytes} {ws : List (Hash × Bytes)} {d' : Dict Bytes} (g : Good d ws d')
    (h : Hash) (b : Bytes) (hm : (h, b) ∈ ws) : Good d ws (Dict.insert d' h b) := by
  constructor
  · intro hnc h0 b0 h0b
    by_cases he : h0 = h
    · subst he
      rw [get?_insert_self]
      by_cases hb : b0 = b
      · rw [hb]
      · exact absurd ⟨h0, b0, b, hm, hb, h0b⟩ hnc
    · rw [get?_insert_other _ _ _ _ he]
      exact g.pres hnc h0 b0 h0b
  · intro h0 b0 h0b
    by_cases he : h0 = h
    · subst he
      rw [get?_insert_self] at h0b
      cases h0b
      exact Or.inr hm
    · rw [get?_insert_other _ _ _ _ he] at h0b
      exact g.adds h0 b0 h0b

theorem Good.final {d : Dict Bytes} {ws : List (Hash × Bytes)} {d' : Dict Bytes} (g : Good d ws d') :
    (Preserved d d' ∨ Clobbers d ws) ∧ OnlyAdds d d' ws :=
  ⟨(Classical.em (Clobbers d ws)).symm.imp_left g.pres, g.adds⟩

/-! ### what the executor does to its state

Every step of `opCore` changes the pending marks only, performs one successful `setDbValue` of a write from `opWrites`, or
(pruning only) one successful `pruneStep`. So a predicate on states that survives these holds at every exit of a
`set` / `delete`: after success, after a missing node, after a failing write at any position. For a predicate on the
store alone the steps that matter are one successful `Store.write` and one successful `Store.del`. -/

theorem schedOldRoot_store_eq (T : TrieSt) (s : OpSt) : (schedOldRoot Hs blankRootHash T s).store = s.store := by
  unfold schedOldRoot; split <;> rfl

section
variable {Q : OpSt → Prop} (hpend : ∀ s x, Q s → Q { s with pending := x })
include hpend

theorem runEvs_inv (p : Bool) (root key : Bytes) (es : List Ev)
    (hw : ∀ s s' h b, (h, b) ∈ writesOf es → Q s → setDbValue p s h b = .ok s' → Q s')
    (s : OpSt) (hs : Q s) : Q (runEvs p root key s es).1 := by
  induction es generalizing s with
  | nil => exact hs
  | cons e es ih =>
    simp only [runEvs]
    split
    · next s' hr =>
      refine ih (fun s s' h b hm => hw s s' h b (writesOf_subset_cons e es _ hm)) s' ?_
      cases e with
      | read x => simp only [runEv] at hr; split at hr <;> cases hr; exact hs
      | prune x =>
        cases hr
        split
        · exact hpend _ _ hs
        · exact hs
      | persist x b => exact hw _ _ x b List.mem_cons_self hs hr
    · exact hs

omit hpend in
theorem completePruning_inv (hd : ∀ s s' kn, Q s → pruneStep s kn = .ok s' → Q s')
    (l : List (Hash × Nat)) (s : OpSt) (hs : Q s) : Q (completePruning s l).1 := by
  induction l generalizing s with
  | nil => exact hs
  | cons kn rest ih =>
    simp only [completePruning]
    split
    · next s' hr => exact ih s' (hd _ _ _ hs hr)
    · exact hs

theorem opCore_inv (T : TrieSt) (key : Bytes) (val : Option Bytes)
    (hw : ∀ s s' h b, (h, b) ∈ opWrites Hs T key val → Q s → setDbValue T.prune s h b = .ok s' → Q s')
    (hd : T.prune = true → ∀ s s' kn, Q s → pruneStep s kn = .ok s' → Q s')
    (s : OpSt) (hs : Q s) : Q (opCore Hs blankRootHash T key val s).1 := by
  unfold opCore
  split
  · exact hs
  · have h1 := runEvs_inv hpend T.prune T.root key (opTree Hs T key val).2
      (fun s s' h b hm => hw s s' h b (List.mem_append_left _ hm)) s hs
    split
    · next he => rw [he] at h1; exact h1
    · next s1 he =>
      rw [he] at h1
      have h2 : Q (schedOldRoot Hs blankRootHash T s1) := by
        unfold schedOldRoot
        split
        · exact hpend _ _ h1
        · exact h1
      split
      · exact h2
      · next s3 newRoot hr =>
        have h3 : Q s3 := by
          unfold writeRoot at hr
          split at hr
          · cases hr; exact h2
          · next hb =>
            split at hr
            · next hr1 => cases hr; exact hw _ _ _ _ (by simp [opWrites, hb]) h2 hr1
            · cases hr
        have h4 : Q (finishPrune T s3).1 := by
          unfold finishPrune
          split
          · next hp => exact completePruning_inv (hd hp) _ s3 h3
          · exact h3
        split
        · next hf => rw [hf] at h4; exact h4
        · next hf => rw [hf] at h4; exact h4

theorem opSetDel_inv (T : TrieSt) (key : Bytes) (val : Option Bytes)
    (hw : ∀ s s' h b, (h, b) ∈ opWrites Hs T key val → Q s → setDbValue T.prune s h b = .ok s' → Q s')
    (hd : T.prune = true → ∀ s s' kn, Q s → pruneStep s kn = .ok s' → Q s')
    (s : OpSt) (hs : Q s) : Q (opSetDel Hs blankRootHash T key val s).1 :=
  hpend _ _ (opCore_inv Hs blankRootHash hpend T key val hw hd _ (hpend _ _ hs))

end

theorem setDbValue_store {p : Bool} {s s' : OpSt} {h : Hash} {b : Bytes} (hw : setDbValue p s h b = .ok s') :
    s.store.write h b = some s'.store := by
  unfold setDbValue at hw
  split at hw
  · cases hw
  · next hst => cases hw; exact hst

theorem pruneStep_store {s s' : OpSt} {kn : Hash × Nat} (hr : pruneStep s kn = .ok s') :
    s'.store = s.store ∨ s.store.del kn.1 = some s'.store := by
  simp only [pruneStep] at hr
  split at hr
  · split at hr
    · cases hr
    · next hst => cases hr; exact .inr hst
  · cases hr; exact .inl rfl

variable {P : Store → Prop}

theorem runEvs_store_inv (p : Bool) (root key : Bytes) (es : List Ev)
    (hw : ∀ st st' h b, (h, b) ∈ writesOf es → P st → st.write h b = some st' → P st')
    (s : OpSt) (hs : P s.store) : P (runEvs p root key s es).1.store :=
  runEvs_inv (Q := fun s => P s.store) (fun _ _ h => h) p root key es
    (fun _ _ h b hm hs hr => hw _ _ h b hm hs (setDbValue_store hr)) s hs

theorem pruneStep_store_inv (hd : ∀ st st' h, P st → st.del h = some st' → P st') (s s' : OpSt) (kn : Hash × Nat)
    (hs : P s.store) (hr : pruneStep s kn = .ok s') : P s'.store := by
  rcases pruneStep_store hr with h1 | h1
  · rw [h1]; exact hs
  · exact hd _ _ _ hs h1

theorem completePruning_store_inv (hd : ∀ st st' h, P st → st.del h = some st' → P st')
    (l : List (Hash × Nat)) (s : OpSt) (hs : P s.store) : P (completePruning s l).1.store :=
  completePruning_inv (Q := fun s => P s.store) (pruneStep_store_inv hd) l s hs

theorem opSetDel_store_inv (T : TrieSt) (key : Bytes) (val : Option Bytes)
    (hw : ∀ st st' h b, (h, b) ∈ opWrites Hs T key val → P st → st.write h b = some st' → P st')
    (hd : T.prune = true → ∀ st st' h, P st → st.del h = some st' → P st')
    (s : OpSt) (hs : P s.store) : P (opSetDel Hs blankRootHash T key val s).1.store :=
  opSetDel_inv (Q := fun s => P s.store) Hs blankRootHash (fun _ _ h => h) T key val
    (fun _ _ h b hm hs hr => hw _ _ h b hm hs (setDbValue_store hr)) (fun hp => pruneStep_store_inv (hd hp)) s hs

/-! ### non-pruning trie over a plain dict -/

theorem write_plain (s : Store) (hc : s.cache = none) (h : Hash) (b : Bytes) (s' : Store)
    (hw : s.write h b = some s') : s'.cache = none ∧ s'.base = Dict.insert s.base h b := by
  unfold Store.write at hw
  rw [hc] at hw
  simp only at hw
  split at hw
  · cases hw
  · cases hw; exact ⟨rfl, rfl⟩
  · cases hw; exact ⟨rfl, rfl⟩

theorem Good.write {d : Dict Bytes} {ws : List (Hash × Bytes)} {st st' : Store} {h : Hash} {b : Bytes}
    (hm : (h, b) ∈ ws) (g : st.cache = none ∧ Good d ws st.base) (hw : st.write h b = some st') :
    st'.cache = none ∧ Good d ws st'.base := by
  obtain ⟨h1, h2⟩ := write_plain st g.1 h b st' hw
  exact ⟨h1, h2 ▸ g.2.insert h b hm⟩

theorem schedOldRoot_noprune (T : TrieSt) (hp : T.prune = false) (s : OpSt) :
    schedOldRoot Hs blankRootHash T s = s := by
  unfold schedOldRoot; simp [hp]

theorem finishPrune_noprune (T : TrieSt) (hp : T.prune = false) (s : OpSt) : finishPrune T s = (s, none) := by
  unfold finishPrune; simp [hp]

/-- **set/delete on a non-pruning trie over a plain dict**: whatever happens (success, a missing
    node, a failing write at any position) the database afterwards contains every old binding unchanged —
    or a binding was overwritten with a different body under the same hash — and everything new is one of
    the operation's content-addressed writes; nothing is ever deleted. -/
theorem opSetDel_plain (T : TrieSt) (hp : T.prune = false) (key : Bytes) (val : Option Bytes)
    (s : OpSt) (hc : s.store.cache = none) (ws : List (Hash × Bytes)) (hsub : ∀ x ∈ opWrites Hs T key val, x ∈ ws) :
    (opSetDel Hs blankRootHash T key val s).1.store.cache = none ∧
    Good s.store.base ws (opSetDel Hs blankRootHash T key val s).1.store.base :=
  opSetDel_store_inv (P := fun st => st.cache = none ∧ Good s.store.base ws st.base) Hs blankRootHash T key val
    (fun _ _ _ _ hm => Good.write (hsub _ hm)) (fun hpt => by rw [hp] at hpt; cases hpt) s ⟨hc, Good.refl _ _⟩

theorem commitLoop_good (d : Dict Bytes) (ws : List (Hash × Bytes)) (cache : List (Hash × Option Bytes))
    (base : Dict Bytes) (fa : Option Nat) (g : Good d ws base)
    (hsub : ∀ k v, (k, some v) ∈ cache → (k, v) ∈ ws) :
    Good d ws (commitLoop false cache base fa).2.1 := by
  fun_induction commitLoop false cache base fa with
  | case1 => exact g
  | case2 => exact g  -- the write fails: the loop stops
  | case3 k v rest base n ih =>
    exact ih (g.insert k v (hsub k v List.mem_cons_self)) fun k' v' hm => hsub k' v' (List.mem_cons_of_mem _ hm)
  | case4 k v rest base ih =>
    exact ih (g.insert k v (hsub k v List.mem_cons_self)) fun k' v' hm => hsub k' v' (List.mem_cons_of_mem _ hm)
  | case5 k rest base fa ih =>  -- a DELETED marker: skipped
    exact ih g fun k' v' hm => hsub k' v' (List.mem_cons_of_mem _ hm)

/-- `ScratchDB.batch_commit` without deletes (non-pruning outer trie): the commit loop only inserts;
    this holds for every prefix of the loop, i.e. also when a write fails midway -/
theorem commitLoop_noDeletes (cache : List (Hash × Option Bytes)) (base : Dict Bytes) (fa : Option Nat) :
    let r := commitLoop false cache base fa
    let ws := cache.filterMap (fun e => e.2.map (fun v => (e.1, v)))
    (Preserved base r.2.1 ∨ Clobbers base ws) ∧ OnlyAdds base r.2.1 ws :=
  (commitLoop_good base _ cache base fa (Good.refl _ _)
    fun k v hm => List.mem_filterMap.2 ⟨(k, some v), hm, rfl⟩).final

/-! ### no write fault is ever introduced -/

theorem write_fa (st st' : Store) (h : Hash) (b : Bytes) (hfa : st.failAfter = none) (hw : st.write h b = some st') :
    st'.failAfter = none := by
  unfold Store.write at hw
  split at hw
  · cases hw; exact hfa
  · rw [hfa] at hw; cases hw; rfl

theorem del_fa (st st' : Store) (h : Hash) (hfa : st.failAfter = none) (hw : st.del h = some st') :
    st'.failAfter = none := by
  unfold Store.del at hw
  split at hw
  · cases hw; exact hfa
  · split at hw
    · cases hw; exact hfa
    · cases hw

theorem failAfter_none_preserved (T : TrieSt) (key : Bytes) (val : Option Bytes) (s : OpSt)
    (hfa : s.store.failAfter = none) : (opSetDel Hs blankRootHash T key val s).1.store.failAfter = none :=
  opSetDel_store_inv (P := fun st => st.failAfter = none) Hs blankRootHash T key val
    (fun st st' h b _ => write_fa st st' h b) (fun _ st st' h => del_fa st st' h) s hfa

end PyTrie.HexW
