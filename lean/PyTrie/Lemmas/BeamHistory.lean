import PyTrie.Lemmas.FreeExec
/-! C07 over whole histories with withheld node bodies ("beam sync"): `set` / `delete` calls interleaved with node bodies
    disappearing from the database (not yet downloaded, withheld) and being supplied. Along every such history the tree-free
    executor (what is run against the code) and the tree-carrying executor return the same outcome at every call and reach
    the same database / counts; a call that raises `MissingTrieNode` leaves database, counts and pending marks exactly as
    they were and names a node that is absent; the partial-consistency invariant holds throughout. -/
namespace PyTrie.HexFree
open PyTrie PyTrie.Hex PyTrie.HexD PyTrie.HexW PyTrie.HexRaw

variable (H : Bytes → Bytes)

inductive BEv where
  | op (key : Bytes) (val : Option Bytes)
  | withhold (h : Hash)
  | supply (n : Node)

def withBase (s : OpSt) (d : Dict Bytes) : OpSt := { s with store := { s.store with base := d } }

/-- one event on the tree-carrying side; the outcome of a call is recorded (`none` for database events) -/
def bstepT (T : TrieSt) (s : OpSt) : BEv → (TrieSt × OpSt) × Option (Except Exn Unit)
  | .op k v =>
    match opSetDel (stdHashing H) (blankRoot H) T k v s with
    | (s', .ok T') => ((T', s'), some (.ok ()))
    | (s', .error e) => ((T, s'), some (.error e))
  | .withhold h => ((T, withBase s (Dict.erase s.store.base h)), none)
  | .supply n => ((T, withBase s (Dict.insert s.store.base (hashOf H n) (enc H n))), none)

/-- the same event on the tree-free side -/
def bstepF (F : Free) (s : OpSt) : BEv → (Free × OpSt) × Option (Except Exn Unit)
  | .op k v =>
    match freeSetDel H F k v s with
    | (s', .ok F') => ((F', s'), some (.ok ()))
    | (s', .error e) => ((F, s'), some (.error e))
  | .withhold h => ((F, withBase s (Dict.erase s.store.base h)), none)
  | .supply n => ((F, withBase s (Dict.insert s.store.base (hashOf H n) (enc H n))), none)

def brunT (T : TrieSt) (s : OpSt) : List BEv → (TrieSt × OpSt) × List (Option (Except Exn Unit))
  | [] => ((T, s), [])
  | e :: r => let (st, o) := bstepT H T s e; let (fin, os) := brunT st.1 st.2 r; (fin, o :: os)

def brunF (F : Free) (s : OpSt) : List BEv → (Free × OpSt) × List (Option (Except Exn Unit))
  | [] => ((F, s), [])
  | e :: r => let (st, o) := bstepF H F s e; let (fin, os) := brunF st.1 st.2 r; (fin, o :: os)

/-- the run-level premises of one event at a state (no collision among the data the event touches; physical side conditions) -/
def GoodEv (T : TrieSt) (s : OpSt) : BEv → Prop
  | .op key val =>
    RefSound (stdHashing H) T.tree (nibs key) ∧
    NoClobber s.store.base (opWrites (stdHashing H) T key val) ∧
    (∀ (m : Node) (b : Bytes), (hashOf H m, b) ∈ opWrites (stdHashing H) T key val →
      (m = T.tree ∨ (isHashed H m = true ∧ ∃ q, nodeAt T.tree q = some m)) → b = enc H m) ∧
    (isBlank (opTree (stdHashing H) T key val).1 = false → hashOf H (opTree (stdHashing H) T key val).1 ≠ blankRoot H) ∧
    (∀ h b, (h, b) ∈ opWrites (stdHashing H) T key val → h ≠ blankRoot H) ∧
    (∀ h b, (h, b) ∈ opWrites (stdHashing H) T key val → b.length < 2 ^ 64)
  | .withhold _ => True
  | .supply n =>
    ∀ m : Node, hashOf H m = hashOf H n → (m = T.tree ∨ ∃ q, nodeAt T.tree q = some m) → enc H m = enc H n

/-- the premises hold at every event of the history (states taken from the tree-carrying run) -/
def GoodRun : TrieSt → OpSt → List BEv → Prop
  | _, _, [] => True
  | T, s, e :: r => GoodEv H T s e ∧ GoodRun (bstepT H T s e).1.1 (bstepT H T s e).1.2 r

/-- the invariant: plain store, canonical tree, partially consistent database -/
def BeamInv (T : TrieSt) (s : OpSt) : Prop :=
  s.store.cache = none ∧ Canon T.tree ∧ RootPartial H s.store.base T.root T.tree ∧ PartialD H s.store.base T.tree

theorem opTree_canon (T : TrieSt) (key : Bytes) (val : Option Bytes) (hc : Canon T.tree)
    (hrs : RefSound (stdHashing H) T.tree (nibs key)) : Canon (opTree (stdHashing H) T key val).1 := by
  unfold opTree
  cases val with
  | none => simp only; rw [deleteE_fst (stdHashing H) _ _ hrs hc]; exact canon_delete _ _ hc
  | some v =>
    simp only
    split
    · rw [deleteE_fst (stdHashing H) _ _ hrs hc]; exact canon_delete _ _ hc
    · next hne => rw [setE_fst]; exact canon_set _ _ _ hne hc

theorem beam_inv_step (T : TrieSt) (s : OpSt) (e : BEv)
    (hinv : BeamInv H T s) (hg : GoodEv H T s e) : BeamInv H (bstepT H T s e).1.1 (bstepT H T s e).1.2 := by
  obtain ⟨hcache, hc, hroot, hst⟩ := hinv
  cases e with
  | op key val =>
    obtain ⟨hrs, hnc, hold, hblank, hbk, hsm⟩ := hg
    have hpres := opSetDel_partial_preserved H T hc key val s hroot hst hnc hold hblank hbk hsm
    have hcache' := opSetDel_cache (stdHashing H) (blankRoot H) T key val s hcache
    have hshape := opSetDel_ok_shape (stdHashing H) (blankRoot H) T key val s
    simp only [bstepT]
    rcases hr : opSetDel (stdHashing H) (blankRoot H) T key val s with ⟨s', r⟩
    rw [hr] at hpres hcache' hshape
    cases r with
    | ok T' =>
      simp only at hpres hcache' hshape ⊢
      refine ⟨hcache', ?_, hpres.1, hpres.2⟩
      rw [hshape T' rfl]
      exact opTree_canon H T key val hc hrs
    | error x =>
      simp only at hpres hcache' ⊢
      exact ⟨hcache', hc, hpres.1, hpres.2⟩
  | withhold h =>
    have hp := partial_erase H T s.store.base h ⟨hroot, hst⟩
    exact ⟨hcache, hc, hp.1, hp.2⟩
  | supply n =>
    have hp := partial_insert_node H T hc s.store.base n ⟨hroot, hst⟩ hg
    exact ⟨hcache, hc, hp.1, hp.2⟩

theorem brunT_cons (T : TrieSt) (s : OpSt) (e : BEv) (r : List BEv) :
    brunT H T s (e :: r) =
      ((brunT H (bstepT H T s e).1.1 (bstepT H T s e).1.2 r).1, (bstepT H T s e).2 :: (brunT H (bstepT H T s e).1.1 (bstepT H T s e).1.2 r).2) := rfl

theorem brunF_cons (F : Free) (s : OpSt) (e : BEv) (r : List BEv) :
    brunF H F s (e :: r) =
      ((brunF H (bstepF H F s e).1.1 (bstepF H F s e).1.2 r).1, (bstepF H F s e).2 :: (brunF H (bstepF H F s e).1.1 (bstepF H F s e).1.2 r).2) := rfl

theorem beam_step_lockstep (hlen : ∀ b, (H b).length = 32) (T : TrieSt) (s : OpSt) (e : BEv)
    (hinv : BeamInv H T s) :
    bstepF H (toFree T) s e = ((toFree (bstepT H T s e).1.1, (bstepT H T s e).1.2), (bstepT H T s e).2) := by
  obtain ⟨hcache, hc, hroot, hst⟩ := hinv
  cases e with
  | op key val =>
    simp only [bstepF, bstepT]
    rw [← storeDb_plain hcache] at hroot hst
    rw [freeSetDel_eq_opSetDel H hlen T hc key val s (Store.cacheNoDup_plain _ hcache) hroot hst]
    rcases opSetDel (stdHashing H) (blankRoot H) T key val s with ⟨s', r⟩
    cases r <;> rfl
  | withhold h => rfl
  | supply n => rfl

/-- **a call that raises `MissingTrieNode` anywhere in such a history changed nothing and names an absent node** -/
theorem beam_failed_call_atomic (hlen : ∀ b, (H b).length = 32) (T : TrieSt) (s : OpSt) (key : Bytes) (val : Option Bytes)
    (hinv : BeamInv H T s) (hg : GoodEv H T s (.op key val)) (h root rk : Bytes) (pre : Option Path)
    (he : (bstepF H (toFree T) s (.op key val)).2 = some (.error (.missingTrieNode h root rk pre))) :
    (bstepF H (toFree T) s (.op key val)).1.1 = toFree T ∧
    (bstepF H (toFree T) s (.op key val)).1.2.store = s.store ∧
    (bstepF H (toFree T) s (.op key val)).1.2.counts = s.counts ∧
    (bstepF H (toFree T) s (.op key val)).1.2.pending = [] ∧
    s.store.contains h = false ∧
    (h = T.root ∨ OnPath (stdHashing H) T.tree (nibs key) h ∨ SiblingOnPath (stdHashing H) T.tree (nibs key) h) := by
  have _ := hg
  obtain ⟨hcache, hc, hroot, hst⟩ := hinv
  rw [← storeDb_plain hcache] at hroot hst
  have hat := freeSetDel_missing_atomic H hlen T hc key val s (Store.cacheNoDup_plain _ hcache) hroot hst h root rk pre
  simp only [bstepF] at he ⊢
  rcases hr : freeSetDel H (toFree T) key val s with ⟨s', r⟩
  rw [hr] at he hat
  cases r with
  | ok F' => simp at he
  | error x =>
    simp only [Option.some.injEq, Except.error.injEq] at he
    subst he
    obtain ⟨a, b, c, d, f⟩ := hat rfl
    exact ⟨rfl, a, b, c, d, f⟩

end PyTrie.HexFree
