import PyTrie.Lemmas.Hex
/-! `Canon`: the shape invariant of honest tries, and uniqueness of the canonical tree of a mapping. -/
namespace PyTrie.Hex
open Node

def weight (ch : Nib → Node) (v : Bytes) : Nat := (liveIdx ch).length + (if v = [] then 0 else 1)

def Canon : Node → Prop
  | blank => True
  | leaf _ v => v ≠ []
  | ext p c => p ≠ [] ∧ isBranch c = true ∧ Canon c
  | branch ch v => (∀ i, Canon (ch i)) ∧ 2 ≤ weight ch v

@[simp] theorem canon_leaf (p : Path) (v : Bytes) : Canon (leaf p v) ↔ v ≠ [] := Iff.rfl
@[simp] theorem canon_ext (p : Path) (c : Node) :
    Canon (ext p c) ↔ p ≠ [] ∧ isBranch c = true ∧ Canon c := Iff.rfl
@[simp] theorem canon_branch (ch : Nib → Node) (v : Bytes) :
    Canon (branch ch v) ↔ (∀ i, Canon (ch i)) ∧ 2 ≤ weight ch v := Iff.rfl
@[simp] theorem canon_blank : Canon blank := trivial

theorem liveIdx_nodup (ch : Nib → Node) : (liveIdx ch).Nodup :=
  (List.nodup_finRange 16).sublist List.filter_sublist

theorem two_le_length_of_mem {α} {l : List α} {a b : α} (ha : a ∈ l) (hb : b ∈ l) (hab : a ≠ b) :
    2 ≤ l.length := by
  match l with
  | [] => simp at ha
  | [x] => simp at ha hb; exact absurd (ha.trans hb.symm) hab
  | _ :: _ :: _ => simp

theorem isBlank_false_of_isBranch {c : Node} (h : isBranch c = true) : isBlank c = false := by
  cases c <;> simp_all [isBranch, isBlank]

theorem exists_key (t : Node) (hc : Canon t) (hb : isBlank t = false) : ∃ k, get t k ≠ [] := by
  induction t with
  | blank => simp [isBlank] at hb
  | leaf p v => exact ⟨p, by simpa [get, Canon] using hc⟩
  | ext p c ih =>
    obtain ⟨k, hk⟩ := ih hc.2.2 (isBlank_false_of_isBranch hc.2.1)
    exact ⟨p ++ k, by simpa [get] using hk⟩
  | branch ch v ih =>
    by_cases hv : v = []
    · match hl : liveIdx ch with
      | [] => simp [weight, hv, hl] at hc
      | i :: _ =>
        obtain ⟨k, hk⟩ := ih i (hc.1 i) ((mem_liveIdx ch i).1 (by simp [hl]))
        exact ⟨i :: k, hk⟩
    · exact ⟨[], hv⟩

theorem branch_diverge (ch : Nib → Node) (v : Bytes) (hc : Canon (branch ch v)) :
    (∃ a r, get (branch ch v) [] ≠ [] ∧ get (branch ch v) (a :: r) ≠ []) ∨
    (∃ a b r1 r2, a ≠ b ∧ get (branch ch v) (a :: r1) ≠ [] ∧ get (branch ch v) (b :: r2) ≠ []) := by
  obtain ⟨hcc, hw⟩ := hc
  have key (i : Nib) (hi : i ∈ liveIdx ch) : ∃ k, get (ch i) k ≠ [] :=
    exists_key _ (hcc i) ((mem_liveIdx ch i).1 hi)
  match hl : liveIdx ch with
  | [] => simp only [weight, hl] at hw; split at hw <;> simp at hw
  | [i] =>
    obtain ⟨k, hk⟩ := key i (by simp [hl])
    exact .inl ⟨i, k, fun hv => by simp [weight, hl, show v = [] from hv] at hw, hk⟩
  | i :: j :: _ =>
    have hij : i ≠ j := by
      have := liveIdx_nodup ch
      simp only [hl, List.nodup_cons, List.mem_cons, not_or] at this
      exact this.1.1
    obtain ⟨k1, hk1⟩ := key i (by simp [hl])
    obtain ⟨k2, hk2⟩ := key j (by simp [hl])
    exact .inr ⟨i, j, k1, k2, hij, hk1, hk2⟩

theorem eq_blank_of_no_keys (t : Node) (hc : Canon t) (h : ∀ k, get t k = []) : t = blank := by
  cases hb : isBlank t with
  | true => exact (isBlank_iff t).1 hb
  | false => obtain ⟨k, hk⟩ := exists_key t hc hb; exact absurd (h k) hk

theorem branch_two_keys (ch : Nib → Node) (v : Bytes) (hc : Canon (branch ch v)) :
    ∃ k1 k2, k1 ≠ k2 ∧ get (branch ch v) k1 ≠ [] ∧ get (branch ch v) k2 ≠ [] := by
  rcases branch_diverge ch v hc with ⟨a, r, h1, h2⟩ | ⟨a, b, r1, r2, hab, h1, h2⟩
  · exact ⟨[], a :: r, by simp, h1, h2⟩
  · exact ⟨a :: r1, b :: r2, by simp [hab], h1, h2⟩

theorem branch_no_common_prefix (ch : Nib → Node) (v : Bytes) (hc : Canon (branch ch v))
    (q : Path) (hq : q ≠ []) : ¬ (∀ k, get (branch ch v) k ≠ [] → q <+: k) := by
  intro h
  rcases branch_diverge ch v hc with ⟨a, r, h1, _⟩ | ⟨a, b, r1, r2, hab, h1, h2⟩
  · exact hq (List.prefix_nil.1 (h [] h1))
  · cases q with
    | nil => exact hq rfl
    | cons x xs =>
      exact hab (((List.cons_prefix_cons.1 (h _ h1)).1.symm).trans (List.cons_prefix_cons.1 (h _ h2)).1)

theorem ext_key_prefix (p : Path) (c : Node) (k : Path) (h : get (ext p c) k ≠ []) : p <+: k :=
  Decidable.by_contra fun hp => h (if_neg hp)

theorem ext_key (p : Path) (c : Node) (k : Path) (h : get (ext p c) k ≠ []) :
    ∃ k', k = p ++ k' ∧ get c k' ≠ [] := by
  obtain ⟨k', rfl⟩ := ext_key_prefix p c k h
  exact ⟨k', rfl, by simpa [get] using h⟩

theorem leaf_key_eq (p : Path) (v : Bytes) (k : Path) (h : get (leaf p v) k ≠ []) : k = p :=
  Decidable.by_contra fun hp => h (if_neg hp)

theorem ext_prefix_le (p : Path) (ch : Nib → Node) (v : Bytes) (hc : Canon (branch ch v)) (q : Path)
    (h : ∀ k, get (ext p (branch ch v)) k ≠ [] → q <+: k) : q <+: p := by
  obtain ⟨k0, hk0⟩ := exists_key (branch ch v) hc rfl
  have hq0 : q <+: p ++ k0 := h (p ++ k0) (by simpa [get] using hk0)
  rcases List.prefix_or_prefix_of_prefix hq0 (List.prefix_append p k0) with hqp | ⟨q', rfl⟩
  · exact hqp
  · by_cases hq' : q' = []
    · simp [hq']
    · refine (branch_no_common_prefix ch v hc q' hq' fun k hk => ?_).elim
      simpa [List.append_assoc, List.prefix_append_right_inj] using h (p ++ k) (by simpa [get] using hk)

theorem eq_leaf_of_get (b : Node) (hb : Canon b) (p : Path) (v : Bytes) (hv : v ≠ [])
    (h : ∀ k, get b k = get (leaf p v) k) : b = leaf p v := by
  have one (k : Path) (hk : get b k ≠ []) : k = p := leaf_key_eq p v k (h k ▸ hk)
  have hp : get b p = v := by simp [h, get]
  cases b with
  | blank => exact absurd hp.symm hv
  | leaf p' v' =>
    obtain rfl := one p' (by simpa [get] using hb)
    simpa [get] using hp
  | ext p' c' =>
    match c', hb.2.1, hb.2.2 with
    | branch ch' v', _, hcc =>
      obtain ⟨k1, k2, hne, h1, h2⟩ := branch_two_keys ch' v' hcc
      exact absurd (List.append_cancel_left ((one (p' ++ k1) (by simpa [get] using h1)).trans
        (one (p' ++ k2) (by simpa [get] using h2)).symm)) hne
  | branch ch' v' =>
    obtain ⟨k1, k2, hne, h1, h2⟩ := branch_two_keys ch' v' hb
    exact absurd ((one k1 h1).trans (one k2 h2).symm) hne

theorem canon_unique (a b : Node) (ha : Canon a) (hb : Canon b) (h : ∀ k, get a k = get b k) :
    a = b := by
  induction a generalizing b with
  | blank => exact (eq_blank_of_no_keys b hb fun k => (h k).symm).symm
  | leaf p v => exact (eq_leaf_of_get b hb p v ha fun k => (h k).symm).symm
  | ext p c ih =>
    cases b with
    | blank => exact eq_blank_of_no_keys _ ha h
    | leaf p' v' => exact eq_leaf_of_get _ ha p' v' hb h
    | ext p' c' =>
      obtain ⟨hpne, hbr, hcc⟩ := ha
      obtain ⟨hpne', hbr', hcc'⟩ := hb
      match c, c', hbr, hbr' with
      | branch ch v, branch ch' v', _, _ =>
        have l1 : p' <+: p := ext_prefix_le p ch v hcc p' fun k hk => ext_key_prefix p' _ k (h k ▸ hk)
        have l2 : p <+: p' := ext_prefix_le p' ch' v' hcc' p fun k hk => ext_key_prefix p _ k (h k ▸ hk)
        obtain rfl : p = p' := l2.eq_of_length (Nat.le_antisymm l2.length_le l1.length_le)
        rw [ih _ hcc hcc' fun k => by simpa [get] using h (p ++ k)]
    | branch ch' v' =>
      exact (branch_no_common_prefix ch' v' hb p ha.1 fun k hk => ext_key_prefix p c k (h k ▸ hk)).elim
  | branch ch v ih =>
    cases b with
    | blank => exact eq_blank_of_no_keys _ ha h
    | leaf p' v' => exact eq_leaf_of_get _ ha p' v' hb h
    | ext p' c' =>
      exact (branch_no_common_prefix ch v ha p' hb.1 fun k hk => ext_key_prefix p' c' k (h k ▸ hk)).elim
    | branch ch' v' =>
      obtain rfl : v = v' := h []
      obtain rfl : ch = ch' := funext fun i => ih i _ (ha.1 i) (hb.1 i) fun k => h (i :: k)
      rfl

/-! ### `set` and `delete` preserve `Canon` -/

def nlive (ch : Nib → Node) : Nat := (List.finRange 16).countP (fun i => !(isBlank (ch i)))

theorem weight_eq (ch : Nib → Node) (v : Bytes) : weight ch v = nlive ch + (if v = [] then 0 else 1) := by
  simp [weight, liveIdx, nlive, List.countP_eq_length_filter]

theorem isBlank_upd_self (ch : Nib → Node) (i : Nib) (n : Node) : isBlank (upd ch i n i) = isBlank n := by
  simp [upd]
theorem upd_ne (ch : Nib → Node) (i j : Nib) (n : Node) (h : j ≠ i) : upd ch i n j = ch j := by
  simp [upd, h]
theorem upd_self (ch : Nib → Node) (i : Nib) (n : Node) : upd ch i n i = n := by simp [upd]

theorem weight_le_upd (ch : Nib → Node) (v : Bytes) (i : Nib) (n : Node) (hn : isBlank n = false) :
    weight ch v ≤ weight (upd ch i n) v := by
  simp only [weight_eq, nlive, Nat.add_le_add_iff_right]
  refine List.countP_mono_left fun x _ hx => ?_
  unfold upd
  split
  · simp [hn]
  · exact hx

theorem canon_upd (ch : Nib → Node) (i : Nib) (n : Node) (hch : ∀ j, Canon (ch j)) (hn : Canon n) :
    ∀ j, Canon (upd ch i n j) := by
  intro j; unfold upd; split <;> simp_all

theorem canon_branch_one (i : Nib) (n : Node) (v : Bytes) (hn : Canon n) (hb : isBlank n = false)
    (hv : v ≠ []) : Canon (branch (upd emptyCh i n) v) := by
  refine ⟨canon_upd _ _ _ (fun _ => trivial) hn, ?_⟩
  have : i ∈ liveIdx (upd emptyCh i n) := (mem_liveIdx _ _).2 (by simp [upd, hb])
  have := List.length_pos_of_mem this
  simp only [weight, hv, ↓reduceIte]
  omega

theorem canon_branch_two (i j : Nib) (a b : Node) (v : Bytes) (hij : i ≠ j) (ha : Canon a)
    (hab : isBlank a = false) (hb : Canon b) (hbb : isBlank b = false) :
    Canon (branch (upd (upd emptyCh i a) j b) v) := by
  refine ⟨canon_upd _ _ _ (canon_upd _ _ _ (fun _ => trivial) ha) hb, Nat.le_add_right_of_le ?_⟩
  exact two_le_length_of_mem (a := i) (b := j) ((mem_liveIdx _ _).2 (by simp [upd, hij, hab]))
    ((mem_liveIdx _ _).2 (by simp [upd, hbb])) hij

theorem canon_wrap (c : Path) (n : Node) (hb : isBranch n = true) (hn : Canon n) : Canon (wrap c n) := by
  unfold wrap; split
  · exact hn
  · next h => exact ⟨h, hb, hn⟩

theorem isBlank_wrap (c : Path) (n : Node) (h : isBlank n = false) : isBlank (wrap c n) = false := by
  unfold wrap; split
  · exact h
  · rfl

theorem canon_set (t : Node) (k : Path) (v : Bytes) (hv : v ≠ []) (hc : Canon t) : Canon (set t k v) := by
  induction t generalizing k with
  | blank => exact hv
  | leaf p pv =>
    have hne := cpl_head_ne p k
    simp only [set]
    split
    · exact hv
    · exact canon_wrap _ _ rfl (canon_branch_one _ _ _ hv rfl hc)
    · exact canon_wrap _ _ rfl (canon_branch_one _ _ _ hc rfl hv)
    · next h1 h2 => exact canon_wrap _ _ rfl (canon_branch_two _ _ _ _ _ (hne _ _ _ _ h1 h2) hc rfl hv rfl)
  | ext p c ih =>
    obtain ⟨hpne, hbr, hcc⟩ := hc
    have hne := cpl_head_ne p k
    have hw (pt : Path) := canon_wrap pt c hbr hcc
    have hwb (pt : Path) := isBlank_wrap pt c (isBlank_false_of_isBranch hbr)
    simp only [set]
    split
    · refine ⟨hpne, ?_, ih _ hcc⟩
      match c, hbr with
      | branch ch bv, _ => cases List.drop (cpl p k) k <;> rfl
    · exact canon_wrap _ _ rfl (canon_branch_one _ _ _ (hw _) (hwb _) hv)
    · next h1 h2 =>
      exact canon_wrap _ _ rfl (canon_branch_two _ _ _ _ _ (hne _ _ _ _ h1 h2) (hw _) (hwb _) hv rfl)
  | branch ch bv ih =>
    cases k with
    | nil =>
      refine ⟨hc.1, ?_⟩
      have := hc.2
      simp only [weight, hv, ↓reduceIte] at *
      split at this <;> omega
    | cons n k =>
      exact ⟨canon_upd _ _ _ hc.1 (ih n _ (hc.1 n)),
        Nat.le_trans hc.2 (weight_le_upd ch bv n _ (not_blank_of_get (k := k) (by simpa [get_set] using hv)))⟩

theorem canon_normalize (ch : Nib → Node) (v : Bytes) (hch : ∀ i, Canon (ch i)) :
    Canon (normalize ch v) := by
  unfold normalize
  generalize hl : liveIdx ch = l
  match l, v with
  | [], [] => trivial
  | [], _ :: _ => simp
  | [i], [] =>
    have hi : isBlank (ch i) = false := (mem_liveIdx ch i).1 (by simp [hl])
    have hci := hch i
    simp only []
    generalize ch i = n at hi hci
    cases n with
    | blank => exact absurd hi (by simp [isBlank])
    | leaf p lv => exact hci
    | ext p c => exact ⟨by simp, hci.2⟩
    | branch ch' v' => exact ⟨by simp, rfl, hci⟩
  | [i], _ :: _ => exact ⟨hch, by simp [weight, hl]⟩
  | _ :: _ :: _, _ => exact ⟨hch, by simp [weight, hl]; omega⟩

theorem canon_delete (t : Node) (k : Path) (hc : Canon t) : Canon (delete t k) := by
  induction t generalizing k with
  | blank => trivial
  | leaf p v => simp only [delete]; split <;> trivial
  | ext p c ih =>
    simp only [delete]
    split
    · have := ih (k.drop p.length) hc.2.2
      generalize delete c (k.drop p.length) = r at this
      cases r with
      | blank => trivial
      | leaf p' v' => exact this
      | ext p' c' => exact ⟨by simp [hc.1], this.2⟩
      | branch ch v => exact ⟨hc.1, rfl, this⟩
    · exact hc
  | branch ch v ih =>
    cases k with
    | nil => exact canon_normalize _ _ hc.1
    | cons n k =>
      have hcn := canon_upd ch n _ hc.1 (ih n k (hc.1 n))
      simp only [delete]
      split
      · exact canon_normalize _ _ hcn
      · next hnb => exact ⟨hcn, Nat.le_trans hc.2 (weight_le_upd ch v n _ (by simpa using hnb))⟩

end PyTrie.Hex
