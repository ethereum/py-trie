import PyTrie.Lemmas.HexTrav
/-! What `traverse` / `traverse_from` return, stated in terms of the *contents* of a canonical tree. -/
namespace PyTrie.Hex
open Node

/-- the description of the position reached: the annotated node, or the simulated node when the
    traversal ended inside a leaf or extension -/
def TravOut.desc : TravOut → Option Ann
  | .node a => some a
  | .partialPath _ _ _ sim => sim

/-- `desc` as a function of the raw traversal result -/
def descOf (r : Node × Path) : Option Ann :=
  if r.2 = [] then some (annotate r.1) else simulate (annotate r.1) r.2

theorem desc_eq (t : Node) (p : Path) : (traverseOut t p).desc = descOf (traverseT t p) := by
  unfold traverseOut descOf
  generalize traverseT t p = r
  obtain ⟨n, rem⟩ := r
  simp only
  split <;> rfl

theorem descOf_nil (n : Node) : descOf (n, []) = some (annotate n) := by simp [descOf]

theorem descOf_ne (n : Node) (rem : Path) (h : rem ≠ []) :
    descOf (n, rem) = simulate (annotate n) rem := by simp [descOf, h]

theorem simulate_leaf (rem q' : Path) (v : Bytes) :
    simulate (annotate (leaf (rem ++ q') v)) rem = some (annotate (leaf q' v)) := by
  simp [simulate, annotate, rewrapLeaf]

theorem simulate_ext (rem q' : Path) (c : Node) (h : q' ≠ []) :
    simulate (annotate (ext (rem ++ q') c)) rem = some (annotate (ext q' c)) := by
  simp [simulate, annotate, rewrapExt, h]

theorem traverseOut_partial {t : Node} {p tr : Path} {a : Ann} {tail : Path} {sim : Option Ann}
    (h : traverseOut t p = .partialPath tr a tail sim) :
    ∃ n', traverseT t p = (n', tail) ∧ tail ≠ [] ∧ a = annotate n' ∧
      sim = simulate (annotate n') tail ∧ tr = p.take (p.length - tail.length) := by
  unfold traverseOut at h
  generalize traverseT t p = r at h
  obtain ⟨n', rem'⟩ := r
  simp only at h
  split at h
  · cases h
  · next hne =>
    cases h
    exact ⟨n', rfl, hne, rfl, rfl, rfl⟩

/-- What `traverse(p)` describes is a canonical node `m` with the contents of `t` below `p`: the subtree
    at `p`, or the part of a leaf or extension that lies below `p`. -/
theorem traverse_node (t : Node) (hc : Canon t) (p : Path) :
    ∃ m, Canon m ∧ (∀ k, get t (p ++ k) = get m k) ∧ descOf (traverseT t p) = some (annotate m) ∧
      ((traverseT t p).1 = blank ↔ m = blank) := by
  obtain ⟨tr, n, rem, h1, h2, rfl, h4, h5⟩ := trav_local t hc p
  have hg (m : Node) (h : ∀ k, get n (rem ++ k) = get m k) (k : Path) : get t (tr ++ rem ++ k) = get m k := by
    rw [List.append_assoc, get_nodeAt t tr n h1, h]
  rw [h4]
  rcases local_cases n rem h5 with ⟨rfl, e⟩ | ⟨_, e, h3⟩ | ⟨hr, q, v, rfl, ⟨q', rfl⟩, e⟩ |
      ⟨hr, q, c, rfl, ⟨q', rfl⟩, hnq, e⟩
  · exact ⟨n, h2, hg n fun _ => rfl, by rw [e, descOf_nil], by rw [e]⟩
  · exact ⟨blank, trivial, hg blank fun k => h3 _ (List.prefix_append _ _), by rw [e, descOf_nil],
      by simp [e]⟩
  · exact ⟨leaf q' v, h2, hg _ fun k => by simp [get], by rw [e, descOf_ne _ _ hr, simulate_leaf],
      by simp [e]⟩
  · have hq' : q' ≠ [] := by rintro rfl; simp at hnq
    exact ⟨ext q' c, ⟨hq', h2.2⟩, hg _ fun k => by simp [get],
      by rw [e, descOf_ne _ _ hr, simulate_ext _ _ _ hq'], by simp [e]⟩

theorem desc_node (t : Node) (hc : Canon t) (p : Path) (d : Ann) (hd : (traverseOut t p).desc = some d) :
    ∃ m, Canon m ∧ (∀ k, get t (p ++ k) = get m k) ∧ annotate m = d := by
  obtain ⟨m, hm, hg, hd', _⟩ := traverse_node t hc p
  exact ⟨m, hm, hg, by simpa [desc_eq, hd'] using hd⟩

theorem traverse_partial (t : Node) (hc : Canon t) (p tail : Path) (n : Node)
    (hT : traverseT t p = (n, tail)) (hne : tail ≠ []) :
    ∃ tr, p = tr ++ tail ∧ nodeAt t tr = some n ∧
      ((∃ q' v, n = leaf (tail ++ q') v) ∨ ∃ q' c, q' ≠ [] ∧ n = ext (tail ++ q') c) := by
  obtain ⟨tr, n0, rem, h1, _, rfl, h4, h5⟩ := trav_local t hc p
  rw [h4] at hT
  rcases local_cases n0 rem h5 with ⟨_, e⟩ | ⟨_, e, _⟩ | ⟨_, q, v, rfl, ⟨q', rfl⟩, e⟩ |
      ⟨_, q, c, rfl, ⟨q', rfl⟩, hnq, e⟩ <;> rw [e] at hT <;> cases hT
  · exact absurd rfl hne
  · exact absurd rfl hne
  · exact ⟨tr, rfl, h1, Or.inl ⟨q', v, rfl⟩⟩
  · exact ⟨tr, rfl, h1, Or.inr ⟨q', c, by rintro rfl; simp at hnq, rfl⟩⟩

theorem annotate_covers (m : Node) (k : Path) (hk : get m k ≠ []) :
    (k = (annotate m).suffix ∧ (annotate m).value = get m k) ∨ ∃ s ∈ (annotate m).subs, s <+: k := by
  cases m with
  | blank => exact absurd rfl hk
  | leaf q v =>
    obtain rfl := leaf_key_eq q v k hk
    exact Or.inl ⟨rfl, by simp [annotate, get]⟩
  | ext q c => exact Or.inr ⟨q, by simp [annotate], ext_key_prefix q c k hk⟩
  | branch ch v =>
    cases k with
    | nil => exact Or.inl ⟨rfl, rfl⟩
    | cons a r =>
      exact Or.inr ⟨[a], List.mem_map.2 ⟨a, (mem_liveIdx ch a).2 (not_blank_of_get (k := r) hk), rfl⟩,
        by simp⟩

theorem annotate_value (m : Node) (hv : (annotate m).value ≠ []) :
    get m (annotate m).suffix = (annotate m).value := by
  cases m with
  | leaf q v => simp [annotate, get]
  | branch ch v => rfl
  | _ => exact absurd rfl hv

theorem annotate_subs (m : Node) (hc : Canon m) :
    (∀ s ∈ (annotate m).subs, s ≠ [] ∧ ∃ k, s <+: k ∧ get m k ≠ []) ∧
    (∀ s₁ ∈ (annotate m).subs, ∀ s₂ ∈ (annotate m).subs, s₁ <+: s₂ → s₁ = s₂) := by
  cases m with
  | blank => simp [annotate]
  | leaf q v => simp [annotate]
  | ext q c =>
    obtain ⟨k0, hk0⟩ := exists_key c hc.2.2 (isBlank_false_of_isBranch hc.2.1)
    simp only [annotate, List.mem_singleton]
    refine ⟨?_, ?_⟩
    · rintro s rfl
      exact ⟨hc.1, s ++ k0, List.prefix_append _ _, by simpa [get] using hk0⟩
    · rintro s₁ rfl s₂ rfl _; rfl
  | branch ch v =>
    simp only [annotate, List.mem_map]
    refine ⟨?_, ?_⟩
    · rintro s ⟨i, hi, rfl⟩
      obtain ⟨k0, hk0⟩ := exists_key (ch i) (hc.1 i) ((mem_liveIdx ch i).1 hi)
      exact ⟨by simp, i :: k0, by simp, hk0⟩
    · rintro s₁ ⟨i, _, rfl⟩ s₂ ⟨j, _, rfl⟩ h
      simpa using h

theorem descOf_leaf (q : Path) (v : Bytes) (k : Path) :
    descOf (traverseT (leaf q v) k) =
      some (annotate (if k <+: q then leaf (q.drop k.length) v else blank)) := by
  cases k with
  | nil => simp [traverseT_nil, descOf_nil]
  | cons a k =>
    rw [traverseT_leaf _ _ _ (by simp)]
    split
    · next h =>
      obtain ⟨q', rfl⟩ := h
      rw [descOf_ne _ _ (by simp), simulate_leaf, List.drop_left]
    · rfl

theorem descOf_ext (q : Path) (c : Node) (hq : q ≠ []) (k : Path) :
    descOf (traverseT (ext q c) k) =
      if q <+: k then descOf (traverseT c (k.drop q.length))
      else some (annotate (if k <+: q then ext (q.drop k.length) c else blank)) := by
  cases k with
  | nil => simp [traverseT_nil, descOf_nil, hq]
  | cons a k =>
    rw [traverseT_ext _ _ _ (by simp)]
    split
    · rfl
    · next hqk =>
      split
      · next h =>
        obtain ⟨q', rfl⟩ := h
        have : q' ≠ [] := by rintro rfl; simp at hqk
        rw [descOf_ne _ _ (by simp), simulate_ext _ _ _ this, List.drop_left]
      · rfl

theorem from_sim_leaf (rem q' : Path) (v : Bytes) (s : Path) :
    descOf (traverseT (leaf q' v) s) = descOf (traverseT (leaf (rem ++ q') v) (rem ++ s)) := by
  simp [descOf_leaf, List.prefix_append_right_inj]

theorem from_sim_ext (rem q' : Path) (c : Node) (hq' : q' ≠ []) (s : Path) :
    descOf (traverseT (ext q' c) s) = descOf (traverseT (ext (rem ++ q') c) (rem ++ s)) := by
  rw [descOf_ext _ _ hq', descOf_ext _ _ (by simp [hq'])]
  simp [List.prefix_append_right_inj]

/-- `root_node` = `traverse(())` = the annotated root -/
theorem traverse_nil (t : Node) : traverseOut t [] = .node (annotate t) := by
  simp [traverseOut, traverseT_nil]

theorem traverse_blank_iff (t : Node) (hc : Canon t) (p : Path) :
    (traverseT t p).1 = blank ↔ ∀ k, p <+: k → get t k = [] := by
  obtain ⟨m, hm, hg, _, hb⟩ := traverse_node t hc p
  rw [hb]
  constructor
  · rintro rfl k ⟨k', rfl⟩
    exact hg k'
  · exact fun h => eq_blank_of_no_keys m hm fun k => (hg k).symm.trans (h _ (List.prefix_append _ _))

theorem traverse_partial_sim (t : Node) (hc : Canon t) (p tr tail : Path) (a : Ann) (sim : Option Ann)
    (h : traverseOut t p = .partialPath tr a tail sim) :
    sim.isSome = true ∧ tr ++ tail = p ∧ tail ≠ [] ∧ (a.kind = .leaf ∨ a.kind = .ext) := by
  obtain ⟨n, hT, hne, rfl, rfl, rfl⟩ := traverseOut_partial h
  obtain ⟨tr0, rfl, _, ⟨q', v, rfl⟩ | ⟨q', c, hq', rfl⟩⟩ := traverse_partial t hc p tail n hT hne
  · exact ⟨by rw [simulate_leaf]; rfl, by simp, hne, Or.inl rfl⟩
  · exact ⟨by rw [simulate_ext _ _ _ hq']; rfl, by simp, hne, Or.inr rfl⟩

/-- **the description covers the contents below the path**: every stored key that starts with `p`
    is either `p ++ suffix` carrying the described value, or continues through exactly one listed sub-segment -/
theorem traverse_covers (t : Node) (hc : Canon t) (p : Path) (d : Ann)
    (hd : (traverseOut t p).desc = some d) (k : Path) (hpk : p <+: k) (hk : get t k ≠ []) :
    (k = p ++ d.suffix ∧ d.value = get t k) ∨ (∃ s ∈ d.subs, (p ++ s) <+: k) := by
  obtain ⟨m, _, hg, rfl⟩ := desc_node t hc p d hd
  obtain ⟨k', rfl⟩ := hpk
  rw [hg] at hk ⊢
  simpa [List.prefix_append_right_inj] using annotate_covers m k' hk

theorem traverse_value (t : Node) (hc : Canon t) (p : Path) (d : Ann)
    (hd : (traverseOut t p).desc = some d) (hv : d.value ≠ []) : get t (p ++ d.suffix) = d.value := by
  obtain ⟨m, _, hg, rfl⟩ := desc_node t hc p d hd
  rw [hg, annotate_value m hv]

theorem traverse_subs (t : Node) (hc : Canon t) (p : Path) (d : Ann)
    (hd : (traverseOut t p).desc = some d) :
    (∀ s ∈ d.subs, s ≠ [] ∧ ∃ k, (p ++ s) <+: k ∧ get t k ≠ []) ∧
    (∀ s₁ ∈ d.subs, ∀ s₂ ∈ d.subs, s₁ <+: s₂ → s₁ = s₂) := by
  obtain ⟨m, hc', hg, rfl⟩ := desc_node t hc p d hd
  obtain ⟨l1, l2⟩ := annotate_subs m hc'
  refine ⟨fun s hs => ?_, l2⟩
  obtain ⟨hne, k', hsk, hk⟩ := l1 s hs
  exact ⟨hne, p ++ k', by rwa [List.prefix_append_right_inj], by rwa [hg]⟩

/-- `traverse_from(node obtained at prefix, segment)` does what `traverse(prefix ++ segment)` does -/
theorem traverse_from_eq (t : Node) (p : Path) (n : Node) (hn : nodeAt t p = some n) (s : Path) :
    traverseT n s = traverseT t (p ++ s) :=
  traverseT_nodeAt t p n hn s

/-- … also when started from the simulated node of a position inside a leaf or extension: the
    remainder is described identically -/
theorem traverse_from_sim (t : Node) (hc : Canon t) (p tr tail : Path) (a sim : Ann)
    (h : traverseOut t p = .partialPath tr a tail (some sim)) (s : Path) :
    (traverseOut sim.raw s).desc = (traverseOut t (p ++ s)).desc := by
  obtain ⟨n, hT, hne, rfl, hsim, rfl⟩ := traverseOut_partial h
  obtain ⟨tr0, rfl, hn, ⟨q', v, rfl⟩ | ⟨q', c, hq', rfl⟩⟩ := traverse_partial t hc p tail n hT hne
  · rw [simulate_leaf] at hsim
    cases hsim
    rw [desc_eq, desc_eq, List.append_assoc, ← traverseT_nodeAt t tr0 _ hn]
    exact from_sim_leaf _ q' v s
  · rw [simulate_ext _ _ _ hq'] at hsim
    cases hsim
    rw [desc_eq, desc_eq, List.append_assoc, ← traverseT_nodeAt t tr0 _ hn]
    exact from_sim_ext _ q' c hq' s

end PyTrie.Hex
