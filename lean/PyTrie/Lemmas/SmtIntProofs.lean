import PyTrie.Model.SmtInt
import PyTrie.Lemmas.SmtProofs
import PyTrie.Lemmas.EncBits
/-! The integer bit arithmetic of `smt.py` (`Model/SmtInt.lean`) computes what the bit-list model
    (`Model/Smt.lean`, keys as `toBits key`, most significant bit first) computes: each loop is the
    corresponding recursion run on `bitsOf path n`, and `bitsOf (to_int key) (8·len)` is `toBits key`.
    `Props/SmtInt.lean` puts the pieces together. -/
namespace PyTrie.SmtInt
open PyTrie.Smt PyTrie.Bin

/-- the low `n` bits of `path`, most significant first (`bit path (n-1)`, …, `bit path 0`) -/
def bitsOf (path : Nat) : Nat → Bits
  | 0 => []
  | n + 1 => bit path n :: bitsOf path n

theorem bitsOf_length (path n : Nat) : (bitsOf path n).length = n := by
  induction n with
  | zero => rfl
  | succ n ih => rw [bitsOf, List.length_cons, ih]

theorem bitsOf_getD (path n i : Nat) (hi : i < n) :
    (bitsOf path n).getD (n - 1 - i) false = bit path i := by
  induction n with
  | zero => omega
  | succ n ih =>
    by_cases e : i = n
    · subst e; rw [Nat.add_sub_cancel, Nat.sub_self]; rfl
    · rw [show n + 1 - 1 - i = (n - 1 - i) + 1 by omega]
      exact ih (by omega)

theorem bitsOf_congr (p q n : Nat) (h : ∀ i, i < n → bit p i = bit q i) : bitsOf p n = bitsOf q n := by
  induction n with
  | zero => rfl
  | succ n ih => rw [bitsOf, bitsOf, h n (by omega), ih (fun i hi => h i (by omega))]

theorem bit_of_bitsOf_eq (p q n : Nat) (h : bitsOf p n = bitsOf q n) (i : Nat) (hi : i < n) :
    bit p i = bit q i := by
  rw [← bitsOf_getD p n i hi, ← bitsOf_getD q n i hi, h]

theorem foldl_acc (bs : Bytes) (a : Nat) :
    bs.foldl (fun a b => a * 256 + b.toNat) a =
      2 ^ (8 * bs.length) * a + bs.foldl (fun a b => a * 256 + b.toNat) 0 := by
  induction bs generalizing a with
  | nil => simp
  | cons b bs ih =>
    rw [List.foldl_cons, List.foldl_cons, ih (a * 256 + b.toNat), ih (0 * 256 + b.toNat), List.length_cons,
      Nat.mul_add 8, Nat.pow_add, Nat.mul_add, Nat.zero_mul, Nat.zero_add, Nat.mul_assoc, Nat.mul_comm _ a,
      Nat.add_assoc]

theorem toInt_nil : toInt [] = 0 := rfl

theorem toInt_cons (b : UInt8) (bs : Bytes) :
    toInt (b :: bs) = 2 ^ (8 * bs.length) * b.toNat + toInt bs := by
  simp only [toInt, HexD.beToNat, List.foldl_cons]
  rw [foldl_acc, Nat.zero_mul, Nat.zero_add]

theorem toInt_lt (bs : Bytes) : toInt bs < 2 ^ (8 * bs.length) := by
  induction bs with
  | nil => exact Nat.one_pos
  | cons b bs ih =>
    rw [toInt_cons, List.length_cons, Nat.mul_add 8, Nat.pow_add]
    have := Nat.mul_le_mul_left (2 ^ (8 * bs.length)) (Nat.succ_le_of_lt b.toNat_lt)
    rw [Nat.mul_succ] at this
    exact Nat.lt_of_lt_of_le (Nat.add_lt_add_left ih _) this

/-- above a low part `x < 2^m` the bits are those of the high part, below it those of `x` -/
theorem bit_high (m a x r : Nat) (hx : x < 2 ^ m) : bit (2 ^ m * a + x) (m + r) = a.testBit r := by
  simp [bit, Nat.testBit_two_pow_mul_add a hx, Nat.not_lt.2 (Nat.le_add_right m r)]

theorem bit_low (m a x i : Nat) (hx : x < 2 ^ m) (hi : i < m) : bit (2 ^ m * a + x) i = bit x i := by
  simp [bit, Nat.testBit_two_pow_mul_add a hx, hi]

theorem testBit_bitOf (b : UInt8) (r : Nat) : b.toNat.testBit r = bitOf b r := by
  simp [bitOf, Nat.testBit_eq_decide_div_mod_eq]

theorem bitsOf_toInt (key : Bytes) : bitsOf (toInt key) (8 * key.length) = toBits key := by
  induction key with
  | nil => rfl
  | cons b bs ih =>
    rw [show toBits (b :: bs) = byteBits b ++ toBits bs from List.flatMap_cons .., ← ih, toInt_cons,
      List.length_cons, Nat.mul_add 8]
    have hx := toInt_lt bs
    generalize 8 * bs.length = m at *
    generalize toInt bs = x at *
    have h0 : bit (2 ^ m * b.toNat + x) m = _ := bit_high m b.toNat x 0 hx
    simp only [bitsOf, bit_high m b.toNat x _ hx, bitsOf_congr _ _ _ (fun i => bit_low m b.toNat x i hx),
      testBit_bitOf, byteBits, List.cons_append, List.nil_append]
    rw [h0, testBit_bitOf]

theorem toBits_length (key : Bytes) : (toBits key).length = 8 * key.length := by
  rw [← bitsOf_toInt key, bitsOf_length]

theorem toBits_inj (a b : Bytes) (h : toBits a = toBits b) : a = b := by
  rw [← EncBits.ofBits_toBits a, ← EncBits.ofBits_toBits b, h]

theorem toInt_inj (k0 k : Bytes) (hl : k0.length = k.length) (h : toInt k0 = toInt k) : k0 = k := by
  apply toBits_inj
  rw [← bitsOf_toInt k0, ← bitsOf_toInt k, h, hl]

theorem getLoop_eq (db : Db) (path : Nat) (n : Nat) (h : Hash) (acc : List Hash) :
    getLoop db n h path acc = (getAux db h (bitsOf path n)).map (fun x => (x.1, acc ++ x.2)) := by
  induction n generalizing h acc with
  | zero => simp [getLoop, getAux, bitsOf, Option.map_map, Function.comp_def]
  | succ n ih =>
    simp only [getLoop, bitsOf, getAux]
    cases lookup db h with
    | none => rfl
    | some node => cases bit path n <;> simp [ih, Option.map_map, Function.comp_def]

variable (H : Bytes → Bytes)

theorem setLoop_append (l1 l2 : List Hash) (i path : Nat) (node : Bytes) (ws : List (Hash × Bytes))
    (ups : List Hash) :
    setLoop H (l1 ++ l2) i path node ws ups =
      setLoop H l2 (i + l1.length) path (setLoop H l1 i path node ws ups).1
        (setLoop H l1 i path node ws ups).2.1 (setLoop H l1 i path node ws ups).2.2 := by
  induction l1 generalizing i node ws ups with
  | nil => rfl
  | cons s l1 ih => rw [List.cons_append, setLoop, ih, List.length_cons, Nat.add_right_comm, Nat.add_assoc]; rfl

theorem setLoop_eq (path : Nat) (value : Bytes) (ss : List Hash) :
    setLoop H ss.reverse 0 path value [] [] =
      ((setAux H (bitsOf path ss.length) ss value).1, (setAux H (bitsOf path ss.length) ss value).2.1,
        (setAux H (bitsOf path ss.length) ss value).2.2.reverse) := by
  induction ss with
  | nil => rfl
  | cons s ss ih =>
    simp only [List.reverse_cons, setLoop_append, ih, List.length_cons, bitsOf, setAux, setLoop,
      List.length_reverse, Nat.zero_add]

theorem calcLoop_append (l1 l2 : List Hash) (i path : Nat) (nh : Hash) :
    calcLoop H (l1 ++ l2) i path nh = calcLoop H l2 (i + l1.length) path (calcLoop H l1 i path nh) := by
  induction l1 generalizing i nh with
  | nil => rfl
  | cons s l1 ih => rw [List.cons_append, calcLoop, ih, List.length_cons, Nat.add_right_comm, Nat.add_assoc]; rfl

theorem calcLoop_eq (path : Nat) (value : Bytes) (ss : List Hash) :
    calcLoop H ss.reverse 0 path (H value) = calcRoot H (bitsOf path ss.length) value ss := by
  induction ss with
  | nil => rfl
  | cons s ss ih =>
    simp only [List.reverse_cons, calcLoop_append, ih, List.length_cons, bitsOf, calcRoot, calcLoop,
      List.length_reverse, Nat.zero_add]

/-- the downward scan for the highest differing bit finds the first differing element of the bit lists -/
theorem scan_eq (p q size n : Nat) (hn : n ≤ size) :
    scan (p ^^^ q) n size = (firstDiff (bitsOf p n) (bitsOf q n)).map (· + (size - n)) := by
  induction n with
  | zero => rfl
  | succ n ih =>
    simp only [scan, bitsOf, firstDiff, bit, Nat.testBit_xor, ih (by omega)]
    by_cases h : p.testBit n = q.testBit n
    · rw [h, Bool.xor_self, if_neg (by decide), if_pos rfl, Option.map_map]
      congr 1; funext x; simp only [Function.comp]; omega
    · rw [if_neg h, if_pos (bne_iff_ne.2 h)]
      simp only [Option.map_some]; congr 1; omega

theorem xor_eq_zero_iff (k0 k : Bytes) (hl : k0.length = k.length) : (toInt k0 ^^^ toInt k = 0) ↔ k0 = k :=
  ⟨fun h => toInt_inj k0 k hl (Nat.eq_of_testBit_eq fun i => by
      have := Nat.testBit_xor (toInt k0) (toInt k) i
      rw [h, Nat.zero_testBit] at this
      exact (bne_eq_false_iff_eq.1 this.symm)),
   fun h => by rw [h, Nat.xor_self]⟩

end PyTrie.SmtInt
