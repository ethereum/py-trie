import PyTrie.Lemmas.FreeHistory
/-! For the theorems about whole histories (`Props/HistoryBlocks.lean`, `Props/HistoryFailCommit.lean`): what the
    tree-free world reads in a state `Sim`-related to a tree-carrying world that satisfies the between-steps invariant, and
    what a block leaves behind whose commit is cut short by the database. -/
namespace PyTrie.HexFree
open PyTrie PyTrie.Hex PyTrie.HexD PyTrie.HexW PyTrie.HexRaw PyTrie.HexRawT

variable (H : Bytes → Bytes)

theorem sim_root (prune : Bool) (fw : FWorld) (w : World) (hs : Sim fw w) (hinv : WInv H prune w) :
    fw.outer.root = rootHash H (w.tries[0]!).tree := by
  rw [hs.2.2.2.2.1]
  exact complete_root_eq H _ _ hinv.comp

theorem sim_get (hlen : ∀ b, (H b).length = 32) (prune : Bool) (fw : FWorld) (w : World) (hs : Sim fw w)
    (hinv : WInv H prune w) (hbk : Dict.get? fw.base (blankRoot H) = none)
    (hsm : ∀ h b, Dict.get? fw.base h = some b → b.length < 2 ^ 64) (key : Bytes) :
    fw.get H false key = .ok (Hex.get (w.tries[0]!).tree (nibs key)) := by
  obtain ⟨hbase, _, _, _, hout, _, _⟩ := hs
  rw [hbase] at hbk hsm
  have hg := getD_of_complete H hlen _ hinv.canon _ hinv.comp hbk hsm w.base (fun _ => rfl) (nibs key)
  show freeGet H fw.outer key fw.opSt = _
  unfold freeGet
  have hdb : storeDb fw.opSt.store = w.base := hbase
  rw [hdb, hout]
  have e0 : (toFree (w.tries[0]!)).root = (w.tries[0]!).root := rfl
  rw [e0, hg]

theorem sim_setFail (fw : FWorld) (w : World) (h : Sim fw w) (fa : Option Nat) :
    Sim { fw with failAfter := fa } { w with failAfter := fa } := by
  obtain ⟨hbase, _, hsz, hcsz, hout, hcnt, hbt⟩ := h
  exact ⟨hbase, rfl, hsz, hcsz, hout, hcnt, hbt⟩

end PyTrie.HexFree

namespace PyTrie.HexW
open PyTrie.Hex hiding get set
open PyTrie.Hex.Node

theorem Dict.get?_of_mem_nodup {α} (d : Dict α) (hd : NoDupKeys d) (h : Hash) (x : α) (hm : (h, x) ∈ d) :
    Dict.get? d h = some x := by
  induction d with
  | nil => cases hm
  | cons a r ih =>
    rw [Dict.get?_cons]
    unfold NoDupKeys at hd
    rw [List.map_cons, List.nodup_cons] at hd
    rcases List.mem_cons.1 hm with rfl | h1
    · simp
    · rw [if_neg, ih hd.2 h1]
      exact fun hb => hd.1 (List.mem_map.2 ⟨(h, x), h1, (beq_iff_eq.1 hb).symm⟩)

/-- **a prefix of a non-deleting commit keeps every binding of the wrapped database** when every buffered write of a key
    the wrapped database holds carries the same body -/
theorem commitLoop_preserved (st : Store) (cache : Dict (Option Bytes)) (hc : st.cache = some cache)
    (hnd : NoDupKeys cache) (hcons : CacheConsistent st) (fa : Option Nat) :
    Preserved st.base (commitLoop false cache st.base fa).2.1 := by
  rcases (commitLoop_noDeletes cache st.base fa).1 with h | ⟨h, b, b', hm, hne, hg⟩
  · exact h
  · obtain ⟨⟨k, o⟩, he, hh⟩ := List.mem_filterMap.1 hm
    cases o with
    | none => cases hh
    | some v =>
      cases hh
      exact (hne (hcons cache _ _ b hc (Dict.get?_of_mem_nodup cache hnd _ _ he) hg).symm).elim

/-- leaving a block whose commit is cut short: only the database (a prefix of the commit), the fault counter and the
    block change -/
theorem World.batchEnd_failed_eq (w : World) (b : Batch) (hb : w.batch = some b)
    (hfail : (w.batchEnd false).1 = .error .writeFailed) :
    (w.batchEnd false).2 =
      { w with base := (commitLoop (w.tries[b.outer]!).prune b.cache w.base w.failAfter).2.1,
               failAfter := (commitLoop (w.tries[b.outer]!).prune b.cache w.base w.failAfter).2.2,
               batch := none } := by
  unfold World.batchEnd at hfail ⊢
  rw [hb] at hfail ⊢
  simp only [Bool.false_eq_true, if_false] at hfail ⊢
  rcases hcl : commitLoop (w.tries[b.outer]!).prune b.cache w.base w.failAfter with ⟨ok, base', fa'⟩
  rw [hcl] at hfail
  cases ok with
  | true => simp at hfail
  | false => simp

end PyTrie.HexW
