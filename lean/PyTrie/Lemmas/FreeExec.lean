import PyTrie.Lemmas.PartialInv
import PyTrie.Lemmas.RawAtomic
import PyTrie.Lemmas.RawReads
/-! **The tree-free executor computes what the tree-carrying executor computes.** `Model/HexFree.lean` runs `set` /
    `delete` the way the code does — root hash + database, raw-level `_set` / `_delete` producing the events, the pruning
    bookkeeping applying them — with no tree anywhere. Over any store (plain dict or `ScratchDB` whose cache has unique
    keys) whose view `storeDb` is *partially consistent* with the trie's tree (whatever it holds under the hash of a node
    is that node's encoding; it may hold nothing) it returns exactly the exit state, root and exception of the
    tree-carrying executor of `Model/HexWorld.lean`: `freeSetDel_eq_opSetDel`. When node bodies are absent both raise
    `MissingTrieNode` naming the same hash. A complete view is partially consistent (`partial_of_complete`), and every
    reachable database is complete (`reachOpsNC_complete`, pruning on or off); hence every theorem about the
    tree-carrying executor (C01 map semantics through the database, C04 completeness, C06 exact pruning, C07 truthful
    failures) is a theorem about the tree-free transcription, which is what the correspondence check runs against the
    code. -/
namespace PyTrie.HexFree
open PyTrie PyTrie.Hex PyTrie.HexD PyTrie.HexW PyTrie.HexRaw PyTrie.HexRawT
open PyTrie.Props.C01 (Op run spec)

variable (H : Bytes → Bytes)

def toFree (T : TrieSt) : Free := ⟨T.root, T.prune⟩

theorem rlp_blank_length : (rlp (.str [])).length = 1 := by
  simp [rlp, rlpLen]

/-- `len(rlp(node)) ≥ 32` on the raw encoding of a tree node is the tree-level `hashed` -/
theorem hashed_toItem (t : Node) :
    decide ((rlp (toItem H t)).length ≥ 32) = isHashed H t := by
  cases hb : isBlank t with
  | true =>
    rw [(isBlank_iff t).1 hb]
    simp [toItem, isHashed, isBlank, rlp_blank_length]
  | false =>
    rw [Bool.eq_iff_iff]
    simp only [isHashed, hb, enc, Bool.not_false, Bool.true_and, ge_iff_le]
    exact decide_eq_true_iff.trans decide_eq_true_iff.symm

theorem schedOldRootF_eq (T : TrieSt) (s : OpSt) :
    schedOldRootF H (toFree T) (toItem H T.tree) s = schedOldRoot (stdHashing H) (blankRoot H) T s := by
  unfold schedOldRootF schedOldRoot
  rw [hashed_toItem]
  rfl

theorem writeRootF_eq (T : TrieSt) (new : Node) (s : OpSt) :
    writeRootF H (toFree T) (toItem H new) s = writeRoot (stdHashing H) (blankRoot H) T new s := by
  unfold writeRootF writeRoot
  cases hb : isBlank new with
  | true =>
    rw [(isBlank_iff new).1 hb]
    simp [toItem]
  | false =>
    obtain ⟨l, hl⟩ := PyTrie.HexD.toItem_list H new hb
    have e1 : (stdHashing H).hashOf new = H (rlp (toItem H new)) := rfl
    have e2 : (stdHashing H).encOf new = rlp (toItem H new) := rfl
    rw [e1, e2, hl]
    simp only [Bool.false_eq_true, if_false]
    rfl

theorem forget_ok_inv {α : Type} (r : St × Except Err α) (x : α) (st : St) (h : forget r = .ok (x, st)) :
    r = (st, .ok x) := by
  obtain ⟨st', e⟩ := r
  cases e with
  | error e => simp at h
  | ok y => simp at h; obtain ⟨h1, h2⟩ := h; subst h1; subst h2; rfl

theorem runEvs_quiet (prune : Bool) (root key : Bytes) (es : List Ev) (hnp : NoPersist es) :
    ∀ s : OpSt, (∀ h, Ev.read h ∈ es → s.store.contains h = true) →
    ∃ p, runEvs prune root key s es = ({ s with pending := p }, none) := by
  induction es with
  | nil => intro s _; exact ⟨s.pending, rfl⟩
  | cons e es ih =>
    intro s hr
    have hnp' : NoPersist es := fun x hx => hnp x (List.mem_cons_of_mem _ hx)
    have hr' : ∀ h, Ev.read h ∈ es → s.store.contains h = true := fun h hm => hr h (List.mem_cons_of_mem _ hm)
    cases e with
    | read y =>
      simp only [runEvs, runEv, hr y (List.mem_cons_self ..), ↓reduceIte]
      exact ih hnp' s hr'
    | prune y =>
      simp only [runEvs, runEv]
      obtain ⟨p, hp⟩ := ih hnp' (if prune = true then { s with pending := s.pending.inc y } else s)
        (by cases prune <;> exact hr')
      rw [hp]
      cases prune <;> exact ⟨p, rfl⟩
    | persist y b => exact absurd rfl (hnp _ (List.mem_cons_self ..) y b)

theorem firstMissing_read (db : Db) (y : Hash) (es : List Ev) :
    firstMissing db (.read y :: es) = if (lookup db y).isNone then some y else firstMissing db es := by
  simp only [firstMissing, List.filterMap_cons, List.find?_cons]
  cases (lookup db y).isNone <;> rfl

theorem runEvs_firstMissing (prune : Bool) (root key : Bytes) (db : Db) (h : Hash) (es : List Ev) (hrf : ReadsFirst es) :
    ∀ s : OpSt, (∀ x, s.store.contains x = (lookup db x).isSome) → firstMissing db es = some h →
    ∃ p, runEvs prune root key s es = ({ s with pending := p }, some (.missingTrieNode h root key none)) := by
  induction es with
  | nil => intro s _ hf; cases hf
  | cons e es ih =>
    intro s hcon hf
    cases e with
    | read y =>
      rw [firstMissing_read] at hf
      simp only [runEvs, runEv, hcon]
      cases hl : lookup db y with
      | none =>
        rw [hl] at hf
        cases hf
        exact ⟨s.pending, rfl⟩
      | some b =>
        rw [hl] at hf
        exact ih hrf s hcon hf
    | prune y =>
      obtain ⟨p, hp⟩ := ih hrf (if prune = true then { s with pending := s.pending.inc y } else s)
        (by cases prune <;> exact hcon) hf
      simp only [runEvs, runEv]
      rw [hp]
      cases prune <;> exact ⟨p, rfl⟩
    | persist y b =>
      have hf' : firstMissing db es = some h := hf
      rw [firstMissing_noRead _ _ hrf.1] at hf'
      cases hf'

theorem forget_error_inv {α : Type} (r : St × Except Err α) (e : Err) (h : forget r = .error e) : r.2 = .error e := by
  obtain ⟨st', x⟩ := r
  cases x with
  | error e' => simpa using h
  | ok y => simp at h

/-- `bodyT` and `opTree` choose between `delete` and `set` in the same way -/
theorem bodyT_opTree_cases {P : St × Except Err Item → Node × List Ev → Prop} (db : Db) (rootNode : Item) (T : TrieSt)
    (key : Bytes) (val : Option Bytes)
    (hd : P (rawDeleteT H (2 * (nibs key).length + 4) { db := db, evs := [] } rootNode (nibs key))
      (deleteE (stdHashing H) T.tree (nibs key)))
    (hs : ∀ v, P (rawSetT H (2 * (nibs key).length + 4) { db := db, evs := [] } rootNode (nibs key) v)
      (setE (stdHashing H) T.tree (nibs key) v)) :
    P (bodyT H db rootNode key val) (opTree (stdHashing H) T key val) := by
  unfold bodyT opTree
  cases val with
  | none => exact hd
  | some v =>
    simp only []
    split
    · exact hd
    · exact hs v

theorem bodyT_forget (hlen : ∀ b, (H b).length = 32) (T : TrieSt) (hc : Canon T.tree) (key : Bytes) (val : Option Bytes)
    (db : Db) (hst : PartialD H db T.tree) :
    forget (bodyT H db (toItem H T.tree) key val) =
      match firstMissing db (opTree (stdHashing H) T key val).2 with
      | some h => .error (.missing h)
      | none => .ok (toItem H (opTree (stdHashing H) T key val).1,
          { db := applyPersists db (opTree (stdHashing H) T key val).2, evs := (opTree (stdHashing H) T key val).2 }) := by
  refine bodyT_opTree_cases (P := fun r o => forget r = match firstMissing db o.2 with
    | some h => .error (.missing h)
    | none => .ok (toItem H o.1, { db := applyPersists db o.2, evs := o.2 })) H db _ T key val ?_ (fun v => ?_)
  · rw [← rawDeleteT_agrees, rawDelete_partial H hlen T.tree hc (nibs key) { db := db, evs := [] } hst _ (by omega)]
    simp only [List.nil_append]
    rfl
  · rw [← rawSetT_agrees, rawSet_partial H hlen T.tree hc (nibs key) v { db := db, evs := [] } hst _ (by omega)]
    simp only [List.nil_append]
    rfl

theorem root_fetch_partial (hlen : ∀ b, (H b).length = 32) (T : TrieSt) (s : OpSt) (db : Db)
    (hcon : ∀ x, s.store.contains x = (lookup db x).isSome) (hroot : RootPartial H db T.root T.tree) :
    ((T.root != blankRoot H && !(s.store.contains T.root)) = true ∧
      getNodeT H { db := db, evs := [] } (.str T.root) = ({ db := db, evs := [] }, .error (.missing T.root))) ∨
    ((T.root != blankRoot H && !(s.store.contains T.root)) = false ∧
      ∃ evs0, getNodeT H { db := db, evs := [] } (.str T.root) = ({ db := db, evs := evs0 }, .ok (toItem H T.tree))) := by
  cases hb : isBlank T.tree with
  | true =>
    right
    rw [(rootPartial_blank H hb).1 hroot, (isBlank_iff T.tree).1 hb]
    refine ⟨by simp, [], ?_⟩
    apply getNodeT_ok
    simp only [getNodeR, toItem]
    split
    · rfl
    · simp
  | false =>
    obtain ⟨hr, hne, hl, hd⟩ := (rootPartial_nonblank H hb).1 hroot
    have h32 : T.root.length = 32 := by rw [hr]; exact hlen _
    have hn1 : T.root ≠ [] := by intro h; rw [h] at h32; simp at h32
    have hn2 : ¬ T.root.length < 32 := by omega
    rw [hcon]
    cases hlk : lookup db T.root with
    | none =>
      left
      refine ⟨by simp [hne], ?_⟩
      apply getNodeT_error
      simp [getNodeR, hn1, hne, hn2, hlk]
    | some b =>
      right
      have := hl b hlk
      subst this
      refine ⟨by simp, [Ev.read T.root], ?_⟩
      apply getNodeT_ok
      simp [getNodeR, hn1, hne, hn2, hlk, hd]

/-- the body inside `_prune_on_success`: same result; same exit state up to pending prune marks -/
theorem freeCore_partial (hlen : ∀ b, (H b).length = 32) (T : TrieSt) (hc : Canon T.tree) (key : Bytes) (val : Option Bytes)
    (s : OpSt) (hnd : s.store.CacheNoDup)
    (hroot : RootPartial H (storeDb s.store) T.root T.tree) (hst : PartialD H (storeDb s.store) T.tree) :
    (freeCore H (toFree T) key val s).2 =
      (match (opCore (stdHashing H) (blankRoot H) T key val s).2 with
       | .ok T' => .ok (toFree T')
       | .error e => .error e) ∧
    ({ (freeCore H (toFree T) key val s).1 with pending := [] } : OpSt) =
      { (opCore (stdHashing H) (blankRoot H) T key val s).1 with pending := [] } := by
  have e0 : (toFree T).root = T.root := rfl
  have e1 : (toFree T).prune = T.prune := rfl
  have hcon := fun x => contains_storeDb s.store x hnd
  rcases root_fetch_partial H hlen T s _ hcon hroot with ⟨hchk, hget⟩ | ⟨hchk, evs0, hget⟩
  · unfold freeCore opCore
    rw [if_pos hchk, e0, hget]
    exact ⟨rfl, rfl⟩
  · have hfg := bodyT_forget H hlen T hc key val (storeDb s.store) hst
    unfold freeCore opCore
    rw [if_neg (by rw [hchk]; simp), e0, e1, hget]
    simp only []
    cases hfm : firstMissing (storeDb s.store) (opTree (stdHashing H) T key val).2 with
    | none =>
      rw [hfm] at hfg
      rw [forget_ok_inv _ _ _ hfg]
      simp only []
      rcases hre : runEvs T.prune T.root key s (opTree (stdHashing H) T key val).2 with ⟨s1, _ | x⟩
      · simp only []
        rw [schedOldRootF_eq, writeRootF_eq]
        rcases hw : writeRoot (stdHashing H) (blankRoot H) T (opTree (stdHashing H) T key val).1
            (schedOldRoot (stdHashing H) (blankRoot H) T s1) with x | ⟨s3, nr⟩
        · exact ⟨rfl, rfl⟩
        · simp only []
          have e2 : (if T.prune = true then completePruning s3 s3.pending else (s3, none)) = finishPrune T s3 := rfl
          rw [e2]
          rcases hf : finishPrune T s3 with ⟨s4, _ | x⟩
          · exact ⟨rfl, rfl⟩
          · exact ⟨rfl, rfl⟩
      · exact ⟨rfl, rfl⟩
    | some h =>
      -- the raw-level body fails having recorded only answered fetches and prune marks; the tree-level events stop
      -- at the same absent hash
      rw [hfm] at hfg
      have he := forget_error_inv _ _ hfg
      obtain ⟨hnp, hrd⟩ := quiet_answered_reads (storeDb s.store) _
        (bodyT_opTree_cases (P := fun r _ => r.2 = .error (.missing h) → Quiet _ r.1) H _ _ T key val
          (fun he => delete_atomic_gen H hlen h _ _ _ _ (.inl he)) (fun v => (set_atomic_both H h _).1 _ _ _ _) he)
        (bodyT_opTree_cases (P := fun r _ => Answered r.1) H _ _ T key val
          (answered_rawDeleteT H _ _ _ _ (answered_nil _)) (fun v => answered_rawSetT H _ _ _ _ _ (answered_nil _)))
      obtain ⟨p, hp⟩ := runEvs_quiet T.prune T.root key _ hnp s (fun x hm => by rw [hcon]; exact hrd x hm)
      obtain ⟨p', hp'⟩ := runEvs_firstMissing T.prune T.root key _ h _ (opTree_readsFirst (stdHashing H) T key val)
        s hcon hfm
      rw [hp, hp', he]
      exact ⟨rfl, rfl⟩

/-- **one operation over any store** (plain dict or `ScratchDB`), pruning on or off, on any partially consistent view:
    the exit state, root and exception of the tree-carrying executor. The `ScratchDB` cache must have unique keys
    (`CacheNoDup`; every cache built by `Dict.insert` from `[]` has): otherwise a buffered delete in front of a buffered
    write of the same key makes `Store.contains` (first entry) and the view (first *write*) disagree. -/
theorem freeSetDel_eq_opSetDel (hlen : ∀ b, (H b).length = 32) (T : TrieSt) (hc : Canon T.tree) (key : Bytes)
    (val : Option Bytes) (s : OpSt) (hnd : s.store.CacheNoDup)
    (hroot : RootPartial H (storeDb s.store) T.root T.tree) (hst : PartialD H (storeDb s.store) T.tree) :
    freeSetDel H (toFree T) key val s =
      ((opSetDel (stdHashing H) (blankRoot H) T key val s).1,
       match (opSetDel (stdHashing H) (blankRoot H) T key val s).2 with
       | .ok T' => .ok (toFree T')
       | .error e => .error e) := by
  obtain ⟨h1, h2⟩ := freeCore_partial H hlen T hc key val { s with pending := [] } hnd hroot hst
  unfold freeSetDel opSetDel
  exact Prod.ext h2 h1

/-- the same on a complete view (the blank-root hash is not a key and no stored body has 2^64 bytes) -/
theorem freeSetDel_of_complete (hlen : ∀ b, (H b).length = 32) (T : TrieSt) (hc : Canon T.tree) (key : Bytes)
    (val : Option Bytes) (s : OpSt) (hnd : s.store.CacheNoDup)
    (hcomp : Complete (stdHashing H) (blankRoot H) (storeDb s.store) T)
    (hbk : Dict.get? (storeDb s.store) (blankRoot H) = none)
    (hsm : ∀ h b, Dict.get? (storeDb s.store) h = some b → b.length < 2 ^ 64) :
    freeSetDel H (toFree T) key val s =
      ((opSetDel (stdHashing H) (blankRoot H) T key val s).1,
       match (opSetDel (stdHashing H) (blankRoot H) T key val s).2 with
       | .ok T' => .ok (toFree T')
       | .error e => .error e) :=
  freeSetDel_eq_opSetDel H hlen T hc key val s hnd (partial_of_complete H T _ hcomp hbk hsm).1
    (partial_of_complete H T _ hcomp hbk hsm).2

/-- a history with the run-level no-collision facts (as `ReachOpsNC`) and the two physical side conditions at every state -/
inductive ReachFree (prune : Bool) : List Op → TrieSt → OpSt → Prop where
  | init : ReachFree prune [] { tree := .blank, root := blankRoot H, prune := prune }
      { store := { base := [], cache := none, failAfter := none }, counts := [], pending := [] }
  | step (ops : List Op) (T : TrieSt) (s : OpSt) (o : Op) (T' : TrieSt) :
      ReachFree prune ops T s →
      RefSound (stdHashing H) T.tree (nibs (opKey o)) →
      (isBlank (opTree (stdHashing H) T (opKey o) (opVal o)).1 = false →
        hashOf H (opTree (stdHashing H) T (opKey o) (opVal o)).1 ≠ blankRoot H) →
      NoClobber s.store.base (opWrites (stdHashing H) T (opKey o) (opVal o)) →
      Dict.get? s.store.base (blankRoot H) = none →
      (∀ h b, Dict.get? s.store.base h = some b → b.length < 2 ^ 64) →
      (opSetDel (stdHashing H) (blankRoot H) T (opKey o) (opVal o) s).2 = .ok T' →
      ReachFree prune (ops ++ [o]) T' (opSetDel (stdHashing H) (blankRoot H) T (opKey o) (opVal o) s).1

theorem freeRun_snoc (prune : Bool) (l : List (Bytes × Option Bytes)) (k : Bytes) (v : Option Bytes) :
    ∀ (st0 : Free × OpSt) (F : Free) (s : OpSt), freeRun H prune l st0 = .ok (F, s) →
    freeRun H prune (l ++ [(k, v)]) st0 =
      match freeSetDel H F k v s with
      | (s', .ok F') => .ok (F', s')
      | (_, .error e) => .error e := by
  induction l with
  | nil =>
    intro st0 F s h
    simp only [freeRun] at h
    injection h with h
    subst h
    simp only [List.nil_append, freeRun]
    split <;> simp_all
  | cons a rest ih =>
    intro st0 F s h
    obtain ⟨F0, s0⟩ := st0
    obtain ⟨k0, v0⟩ := a
    simp only [List.cons_append, freeRun] at h ⊢
    split
    · next s' F' he =>
      rw [he] at h
      exact ih _ F s h
    · next s' e he => rw [he] at h; cases h

/-! ### a call that raises `MissingTrieNode` (C07)

When node bodies are absent the tree-free `set` / `delete` completes exactly as the tree-carrying executor does, or raises
`MissingTrieNode` naming the same hash (`freeSetDel_eq_opSetDel`); in that case its exit state is the entry state (pending
prune marks dropped). So `C07.set_delete_missing_on_path`, `set_delete_missing_atomic` and `set_delete_retry_progress` are
statements about the tree-free transcription. -/

/-- **a tree-free `set` / `delete` over any store that raises `MissingTrieNode` leaves store and reference counts as they
    were**, and the hash it names is really absent and lies on the requested path (or is the root, or the sibling a delete
    collapses) -/
theorem freeSetDel_missing_atomic (hlen : ∀ b, (H b).length = 32) (T : TrieSt) (hc : Canon T.tree) (key : Bytes) (val : Option Bytes)
    (s : OpSt) (hnd : s.store.CacheNoDup)
    (hroot : RootPartial H (storeDb s.store) T.root T.tree) (hst : PartialD H (storeDb s.store) T.tree)
    (h root rk : Bytes) (pre : Option Path)
    (he : (freeSetDel H (toFree T) key val s).2 = .error (.missingTrieNode h root rk pre)) :
    (freeSetDel H (toFree T) key val s).1.store = s.store ∧ (freeSetDel H (toFree T) key val s).1.counts = s.counts ∧
    (freeSetDel H (toFree T) key val s).1.pending = [] ∧
    s.store.contains h = false ∧
    (h = T.root ∨ OnPath (stdHashing H) T.tree (nibs key) h ∨ SiblingOnPath (stdHashing H) T.tree (nibs key) h) := by
  rw [freeSetDel_eq_opSetDel H hlen T hc key val s hnd hroot hst] at he ⊢
  simp only [] at he ⊢
  have he' : (opSetDel (stdHashing H) (blankRoot H) T key val s).2 = .error (.missingTrieNode h root rk pre) := by
    generalize (opSetDel (stdHashing H) (blankRoot H) T key val s).2 = r at he
    cases r with
    | ok T' => simp at he
    | error e => simpa using he
  have hpath := opSetDel_missing_on_path (stdHashing H) (blankRoot H) T hc key val s h root rk pre he'
  unfold opSetDel at he' ⊢
  obtain ⟨h1, h2, h3, _, _⟩ :=
    opCore_missing (stdHashing H) (blankRoot H) T key val { s with pending := [] } h root rk pre _ rfl he'
  exact ⟨h1, h2, rfl, h3, hpath⟩

end PyTrie.HexFree
