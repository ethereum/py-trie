import PyTrie.Lemmas.HexCanon
import PyTrie.Model.HexTrav
/-! The code-shaped lookup `getT` (= `_get` ∘ `_traverse_from`) agrees with the specification lookup `get`
    on canonical trees and never raises there; `nodeAt t p`, the subtree of `t` at a nibble path `p` that
    ends on a node boundary; and the reduction of a traversal `traverseT t p` to a one-step traversal at
    the node where the walk stops. -/
namespace PyTrie.Hex
open Node

theorem traverse_branch_rem (t : Node) (k : Path) :
    ∀ ch v r, traverseT t k = (branch ch v, r) → r = [] := by
  fun_induction traverseT t k <;> try assumption
  all_goals simp

/-- `_get` never reaches its "branch with remaining key" `ValidationError` -/
theorem getT_ne_error (t : Node) (k : Path) : ∃ v, getT t k = .ok v := by
  unfold getT
  generalize h : traverseT t k = r
  obtain ⟨n, rem⟩ := r
  cases n with
  | branch ch v => exact ⟨v, by simp [traverse_branch_rem t k ch v rem h]⟩
  | _ => exact ⟨_, rfl⟩

theorem getT_eq_get (t : Node) (hc : Canon t) (k : Path) : getT t k = .ok (get t k) := by
  unfold getT
  fun_induction traverseT t k with
  | case1 n =>
    cases n with
    | ext p c => simp [get, hc.1]
    | _ => simp [get]
  | case2 | case3 => rfl
  | case4 p v a t h =>
    have : a :: t ≠ p := fun e => h (e ▸ List.prefix_refl _)
    simp [get, this]
  | case5 p c a t n h ih =>
    obtain ⟨r, hr⟩ := (cpl_drop_left_nil_iff _ _).1 h
    rw [ih hc.2.2]
    simp [get, ← hr, n, cpl_append_left]
  | case6 p c a t n h | case7 p c a t n h => simp [get, mt (cpl_drop_left_nil_iff _ _).2 h]
  | case8 ch v a k ih => exact ih (hc.1 a)

theorem traverseT_nil (t : Node) : traverseT t [] = (t, []) := by
  cases t <;> rfl

theorem traverseT_leaf (q : Path) (v : Bytes) (k : Path) (hk : k ≠ []) :
    traverseT (leaf q v) k = if k <+: q then (leaf q v, k) else (blank, []) := by
  cases k with
  | nil => exact absurd rfl hk
  | cons a k => simp only [traverseT]

theorem traverseT_ext (q : Path) (c : Node) (k : Path) (hk : k ≠ []) :
    traverseT (ext q c) k =
      if q <+: k then traverseT c (k.drop q.length)
      else if k <+: q then (ext q c, k) else (blank, []) := by
  cases k with
  | nil => exact absurd rfl hk
  | cons a k =>
    simp only [traverseT, cpl_drop_left_nil_iff, cpl_drop_right_nil_iff]
    split
    · next h => obtain ⟨r, hr⟩ := h; rw [← hr, cpl_append_left]
    · rfl

def nodeAt : Node → Path → Option Node
  | n, [] => some n
  | blank, _ :: _ => none
  | leaf _ _, _ :: _ => none
  | ext p c, k@(_ :: _) => if p <+: k then nodeAt c (k.drop p.length) else none
  | branch ch _, a :: k => nodeAt (ch a) k

theorem nodeAt_nil (t : Node) : nodeAt t [] = some t := by cases t <;> rfl

theorem nodeAt_ext_append (p : Path) (c : Node) (q : Path) (n : Node) (h : nodeAt c q = some n) :
    p ≠ [] → nodeAt (ext p c) (p ++ q) = some n := by
  intro hp
  cases hpq : p ++ q with
  | nil => simp at hpq; exact absurd hpq.1 hp
  | cons a r =>
    simp only [nodeAt]
    rw [← hpq]
    simp [h]

theorem nodeAt_induct {n : Node} {motive : Node → Path → Prop} (nil : motive n [])
    (ext : ∀ q c r, q ++ r ≠ [] → nodeAt c r = some n → motive c r → motive (ext q c) (q ++ r))
    (branch : ∀ ch v a r, nodeAt (ch a) r = some n → motive (ch a) r → motive (branch ch v) (a :: r))
    (t : Node) (p : Path) (h : nodeAt t p = some n) : motive t p := by
  fun_induction nodeAt t p with
  | case1 t => cases h; exact nil
  | case2 | case3 => cases h
  | case4 q c a k hq ih =>
    obtain ⟨r, hr⟩ := hq
    simp only [← hr, List.drop_left] at ih h ⊢
    exact ext q c r (by simp [hr]) h (ih h)
  | case5 => cases h
  | case6 ch v a k ih => exact branch ch v a k h (ih h)

theorem get_nodeAt (t : Node) (tr : Path) (n : Node) (h : nodeAt t tr = some n) (k : Path) :
    get t (tr ++ k) = get n k := by
  refine nodeAt_induct (motive := fun t tr => get t (tr ++ k) = get n k) rfl ?_ ?_ t tr h
  · intro q c r _ _ ih; simpa [get] using ih
  · intro ch v a r _ ih; exact ih

theorem canon_nodeAt (t : Node) (hc : Canon t) (tr : Path) (n : Node) (h : nodeAt t tr = some n) :
    Canon n :=
  nodeAt_induct (motive := fun t _ => Canon t → Canon n) id (fun _ _ _ _ _ ih hc => ih hc.2.2)
    (fun _ _ a _ _ ih hc => ih (hc.1 a)) t tr h hc

/-- `traverse_from(node obtained at prefix, segment)` = `traverse(prefix ++ segment)` on trees -/
theorem traverseT_nodeAt (t : Node) (p : Path) (n : Node) (hn : nodeAt t p = some n) (s : Path) :
    traverseT n s = traverseT t (p ++ s) := by
  refine nodeAt_induct (motive := fun t p => traverseT n s = traverseT t (p ++ s)) rfl ?_ ?_ t p hn
  · intro q c r hne _ ih
    rw [ih, traverseT_ext _ _ _ (by simp_all)]
    simp [List.append_assoc]
  · intro ch v a r _ ih; exact ih

/-- the traversal of `rem` from `n` is decided by `n` alone -/
def Local : Node → Path → Prop
  | _, [] => True
  | blank, _ :: _ => True
  | leaf _ _, _ :: _ => True
  | ext q _, k@(_ :: _) => ¬ q <+: k
  | branch _ _, _ :: _ => False

/-- every traversal is a walk along node boundaries followed by a one-step traversal -/
theorem trav_local (t : Node) (hc : Canon t) (p : Path) :
    ∃ tr n rem, nodeAt t tr = some n ∧ Canon n ∧ p = tr ++ rem ∧
      traverseT t p = traverseT n rem ∧ Local n rem := by
  induction t generalizing p with
  | blank => exact ⟨[], blank, p, rfl, trivial, rfl, rfl, by cases p <;> trivial⟩
  | leaf q v => exact ⟨[], leaf q v, p, rfl, hc, rfl, rfl, by cases p <;> trivial⟩
  | ext q c ih =>
    cases p with
    | nil => exact ⟨[], ext q c, [], rfl, hc, rfl, rfl, trivial⟩
    | cons a r =>
      by_cases hq : q <+: a :: r
      · obtain ⟨r', hr'⟩ := hq
        obtain ⟨tr, n, rem, h1, h2, h3, h4, h5⟩ := ih hc.2.2 r'
        refine ⟨q ++ tr, n, rem, nodeAt_ext_append q c tr n h1 hc.1, h2, ?_, ?_, h5⟩
        · rw [← hr', h3]; simp
        · rw [traverseT_ext _ _ _ (by simp), if_pos ⟨r', hr'⟩, ← hr']
          simpa using h4
      · exact ⟨[], ext q c, a :: r, rfl, hc, rfl, rfl, hq⟩
  | branch ch v ih =>
    cases p with
    | nil => exact ⟨[], branch ch v, [], rfl, hc, rfl, rfl, trivial⟩
    | cons a r =>
      obtain ⟨tr, n, rem, h1, h2, h3, h4, h5⟩ := ih a (hc.1 a) r
      exact ⟨a :: tr, n, rem, by simpa [nodeAt] using h1, h2, by simp [h3], by simpa [traverseT] using h4, h5⟩

theorem local_cases (n : Node) (rem : Path) (hL : Local n rem) :
    (rem = [] ∧ traverseT n rem = (n, [])) ∨
    (rem ≠ [] ∧ traverseT n rem = (blank, []) ∧ ∀ k, rem <+: k → get n k = []) ∨
    (rem ≠ [] ∧ ∃ q v, n = leaf q v ∧ rem <+: q ∧ traverseT n rem = (n, rem)) ∨
    (rem ≠ [] ∧ ∃ q c, n = ext q c ∧ rem <+: q ∧ ¬ q <+: rem ∧ traverseT n rem = (n, rem)) := by
  cases rem with
  | nil => exact Or.inl ⟨rfl, traverseT_nil n⟩
  | cons a r =>
    have hne : a :: r ≠ [] := by simp
    right
    cases n with
    | blank => exact Or.inl ⟨hne, rfl, fun _ _ => rfl⟩
    | leaf q v =>
      rw [traverseT_leaf _ _ _ hne]
      by_cases hpre : a :: r <+: q
      · exact Or.inr (Or.inl ⟨hne, q, v, rfl, hpre, by simp [hpre]⟩)
      · exact Or.inl ⟨hne, by simp [hpre], fun k hk => if_neg fun e : k = q => hpre (e ▸ hk)⟩
    | ext q c =>
      have hq : ¬ q <+: a :: r := hL
      rw [traverseT_ext _ _ _ hne]
      by_cases hpre : a :: r <+: q
      · exact Or.inr (Or.inr ⟨hne, q, c, rfl, hpre, hq, by simp [hq, hpre]⟩)
      · exact Or.inl ⟨hne, by simp [hq, hpre], fun k hk => if_neg fun hqk =>
          (List.prefix_or_prefix_of_prefix hqk hk).elim hq hpre⟩
    | branch ch v => exact absurd hL (by simp [Local])

end PyTrie.Hex
