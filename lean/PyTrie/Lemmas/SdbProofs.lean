import PyTrie.Model.Sdb
import PyTrie.Lemmas.PruneDict
/-! ScratchDB (C17): a batch is a list of buffered actions applied to a fresh ScratchDB over any
    pre-existing wrapped database. -/
namespace PyTrie.Sdb
open PyTrie.HexW

inductive Act where
  | write (k v : Bytes)
  | delete (k : Bytes)

def Act.key : Act → Bytes
  | .write k _ => k
  | .delete k => k

def applyAct (s : Sdb) : Act → Sdb
  | .write k v => setItem s k v
  | .delete k => delItem s k

def runActs (s : Sdb) (acts : List Act) : Sdb := acts.foldl applyAct s

/-- the latest buffered action on a key: `none` = never touched, `some none` = deleted, `some (some v)` = written -/
def lastAct : List Act → Bytes → Option (Option Bytes)
  | [], _ => none
  | a :: rest, k =>
    match lastAct rest k with
    | some x => some x
    | none => if a.key = k then (match a with | .write _ v => some (some v) | .delete _ => some none) else none

/-- the wrapped dict is a well-formed dict: no key occurs twice -/
def NoDupKeys {α} (d : Dict α) : Prop := (d.map (·.1)).Nodup

theorem get?_insert {α} (d : Dict α) (k k' : Bytes) (x : α) :
    Dict.get? (Dict.insert d k x) k' = if k = k' then some x else Dict.get? d k' := by
  split
  · next h => rw [← h, Dict.get?_insert_self']
  · next h => exact Dict.get?_insert_other' d k k' x (Ne.symm h)

theorem get?_erase {α} (d : Dict α) (k k' : Bytes) :
    Dict.get? (Dict.erase d k) k' = if k = k' then none else Dict.get? d k' := by
  split
  · next h => rw [← h, Dict.get?_erase_self]
  · next h => exact Dict.get?_erase_other d k k' (Ne.symm h)

theorem get?_eq_none_of_not_mem_keys {α} (d : Dict α) (k : Bytes) (h : k ∉ d.map (·.1)) :
    Dict.get? d k = none :=
  Dict.get?_eq_none_of_not_contains d k (by rwa [← Bool.not_eq_true, Dict.contains_iff_mem_keys])

theorem get?_take {α} (d : Dict α) (m : Nat) (k : Bytes) (x : α) (h : Dict.get? (d.take m) k = some x) :
    Dict.get? d k = some x := by
  rw [← List.take_append_drop m d, Dict.get?_append, h]; rfl

theorem NoDupKeys.insert {α} {d : Dict α} (h : NoDupKeys d) (k : Bytes) (x : α) :
    NoDupKeys (Dict.insert d k x) := HexW.NoDupKeys.insert h k x

theorem NoDupKeys.tail {α} {e : Bytes × α} {r : Dict α} (h : NoDupKeys (e :: r)) :
    e.1 ∉ r.map (·.1) ∧ NoDupKeys r := List.nodup_cons.1 h

theorem NoDupKeys.sublist {α} {d d' : Dict α} (hs : d'.Sublist d) (h : NoDupKeys d) : NoDupKeys d' :=
  List.Nodup.sublist (hs.map _) h

/-- a fold over a dict with unique keys whose step only touches the binding of the entry's own key can
    be read off key by key: the order of the entries does not matter -/
theorem foldl_get? {α β} (g : Dict β → Bytes × α → Dict β) (F : α → Option β → Option β)
    (hg : ∀ acc e k, Dict.get? (g acc e) k = if e.1 = k then F e.2 (Dict.get? acc k) else Dict.get? acc k)
    (c : Dict α) (hc : NoDupKeys c) (acc : Dict β) (k : Bytes) :
    Dict.get? (c.foldl g acc) k =
      match Dict.get? c k with
      | some x => F x (Dict.get? acc k)
      | none => Dict.get? acc k := by
  induction c generalizing acc with
  | nil => rfl
  | cons e rest ih =>
    obtain ⟨hnm, hr⟩ := hc.tail
    rw [List.foldl_cons, ih hr, hg, Dict.get?_cons]
    by_cases hk : e.1 = k
    · subst hk; simp [get?_eq_none_of_not_mem_keys rest _ hnm]
    · simp [hk]

theorem foldl_nodup {α β} (g : Dict β → α → Dict β) (hg : ∀ acc e, NoDupKeys acc → NoDupKeys (g acc e))
    (l : List α) (acc : Dict β) (h : NoDupKeys acc) : NoDupKeys (l.foldl g acc) := by
  induction l generalizing acc with
  | nil => exact h
  | cons e l ih => exact ih _ (hg _ _ h)

theorem runActs_wrapped (s : Sdb) (acts : List Act) : (runActs s acts).wrapped = s.wrapped := by
  induction acts generalizing s with
  | nil => rfl
  | cons a rest ih => exact (ih _).trans (by cases a <;> rfl)

/-- while the batch is open the wrapped database is never written -/
theorem wrapped_untouched (w : Dict Bytes) (acts : List Act) :
    (runActs { wrapped := w, cache := [] } acts).wrapped = w :=
  runActs_wrapped _ _

theorem applyAct_cache_get? (s : Sdb) (a : Act) (k : Bytes) :
    Dict.get? (applyAct s a).cache k =
      if a.key = k then (match a with | .write _ v => some (some v) | .delete _ => some none)
      else Dict.get? s.cache k := by
  cases a <;> exact get?_insert _ _ _ _

theorem runActs_cache (s : Sdb) (acts : List Act) (k : Bytes) (hs : NoDupKeys s.cache) :
    Dict.get? (runActs s acts).cache k =
      (match lastAct acts k with | some x => some x | none => Dict.get? s.cache k) ∧
    NoDupKeys (runActs s acts).cache := by
  induction acts generalizing s with
  | nil => exact ⟨rfl, hs⟩
  | cons a rest ih =>
    obtain ⟨h1, h2⟩ := ih (applyAct s a) (by cases a <;> exact hs.insert _ _)
    refine ⟨?_, h2⟩
    rw [show runActs s (a :: rest) = runActs (applyAct s a) rest from rfl, h1, applyAct_cache_get?]
    simp only [lastAct]
    cases lastAct rest k with
    | some x => rfl
    | none => by_cases h : a.key = k <;> simp only [h, if_true, if_false] <;> cases a <;> rfl

theorem cache_lastAct (w : Dict Bytes) (acts : List Act) (k : Bytes) :
    Dict.get? (runActs { wrapped := w, cache := [] } acts).cache k = lastAct acts k ∧
    NoDupKeys (runActs { wrapped := w, cache := [] } acts).cache := by
  obtain ⟨h1, h2⟩ := runActs_cache { wrapped := w, cache := [] } acts k List.nodup_nil
  refine ⟨?_, h2⟩
  rw [h1]
  cases lastAct acts k <;> rfl

/-- reads see the latest buffered write; a key whose latest buffered action is a delete (or that was
    never touched) reads through to the wrapped database -/
theorem read_latest (w : Dict Bytes) (acts : List Act) (k : Bytes) :
    getItem (runActs { wrapped := w, cache := [] } acts) k =
      match lastAct acts k with
      | some (some v) => some v
      | _ => Dict.get? w k := by
  rw [getItem, (cache_lastAct w acts k).1, wrapped_untouched]
  rfl

theorem contains_latest (w : Dict Bytes) (acts : List Act) (k : Bytes) :
    contains (runActs { wrapped := w, cache := [] } acts) k =
      match lastAct acts k with
      | some (some _) => true
      | _ => Dict.contains w k := by
  rw [contains, (cache_lastAct w acts k).1, wrapped_untouched]
  rfl

/-- one round of the commit loop whose write goes through -/
def commitStep (dd : Bool) (base : Dict Bytes) (e : Bytes × Option Bytes) : Dict Bytes :=
  match e.2 with
  | some v => Dict.insert base e.1 v
  | none => if dd then Dict.erase base e.1 else base

/-- what a round leaves under its key, given what was there -/
def commitVal (dd : Bool) (x : Option Bytes) (old : Option Bytes) : Option Bytes :=
  match x with
  | some v => some v
  | none => if dd then none else old

theorem commitStep_get? (dd : Bool) (base : Dict Bytes) (e : Bytes × Option Bytes) (k : Bytes) :
    Dict.get? (commitStep dd base e) k =
      if e.1 = k then commitVal dd e.2 (Dict.get? base k) else Dict.get? base k := by
  obtain ⟨k0, _ | v⟩ := e
  · cases dd <;> simp only [commitStep, commitVal, get?_erase, Bool.false_eq_true, if_false, if_true, ite_self]
  · exact get?_insert _ _ _ _

theorem commitLoop_none (dd : Bool) (cache : Dict (Option Bytes)) (base : Dict Bytes) :
    commitLoop dd cache base none = (true, cache.foldl (commitStep dd) base, none) := by
  induction cache generalizing base with
  | nil => rfl
  | cons e rest ih => obtain ⟨k, _ | v⟩ := e <;> exact ih _

/-- with or without failure, what the loop leaves is the fold of its rounds over a prefix of the buffer -/
theorem commitLoop_prefix (dd : Bool) (cache : Dict (Option Bytes)) (base : Dict Bytes) (fa : Option Nat) :
    ∃ m, (commitLoop dd cache base fa).2.1 = (cache.take m).foldl (commitStep dd) base := by
  induction cache generalizing base fa with
  | nil => exact ⟨0, rfl⟩
  | cons e rest ih =>
    obtain ⟨k, _ | v⟩ := e
    · obtain ⟨m, h⟩ := ih (commitStep dd base (k, none)) fa
      exact ⟨m + 1, h⟩
    · rcases fa with _ | _ | n
      · obtain ⟨m, h⟩ := ih (commitStep dd base (k, some v)) none
        exact ⟨m + 1, h⟩
      · exact ⟨0, rfl⟩
      · obtain ⟨m, h⟩ := ih (commitStep dd base (k, some v)) (some n)
        exact ⟨m + 1, h⟩

/-- **normal exit**: every buffered write is applied with last-write-wins, buffered deletes are
    applied only if deletes were requested, everything else is left alone; the buffer is empty -/
theorem commit_spec (w : Dict Bytes) (hw : NoDupKeys w) (acts : List Act) (dd : Bool) (k : Bytes) :
    let r := commit (runActs { wrapped := w, cache := [] } acts) dd none
    r.1 = true ∧ r.2.1.cache = [] ∧
    Dict.get? r.2.1.wrapped k =
      match lastAct acts k with
      | some (some v) => some v
      | some none => if dd then none else Dict.get? w k
      | none => Dict.get? w k := by
  have _ := hw
  obtain ⟨h1, h2⟩ := cache_lastAct w acts k
  simp only [commit, commitLoop_none, foldl_get? _ _ (commitStep_get? dd) _ h2, h1, wrapped_untouched, true_and]
  cases lastAct acts k with
  | none => rfl
  | some o => cases o <;> rfl

/-- **exceptional exit**: the wrapped database is exactly as it was and the buffer is empty -/
theorem abort_spec (w : Dict Bytes) (acts : List Act) :
    abort (runActs { wrapped := w, cache := [] } acts) = { wrapped := w, cache := [] } := by
  rw [abort, wrapped_untouched]

/-- a commit whose n-th write fails still empties the buffer, and every binding of the wrapped
    database afterwards is an old one or a buffered write -/
theorem commit_failure_spec (w : Dict Bytes) (acts : List Act) (dd : Bool) (n : Nat) :
    let r := commit (runActs { wrapped := w, cache := [] } acts) dd (some n)
    r.2.1.cache = [] ∧
    ∀ k v, Dict.get? r.2.1.wrapped k = some v → Dict.get? w k = some v ∨ lastAct acts k = some (some v) := by
  refine ⟨rfl, fun k v h => ?_⟩
  obtain ⟨h1, h2⟩ := cache_lastAct w acts k
  obtain ⟨m, hm⟩ := commitLoop_prefix dd (runActs { wrapped := w, cache := [] } acts).cache
    (runActs { wrapped := w, cache := [] } acts).wrapped (some n)
  rw [show (commit _ dd (some n)).2.1.wrapped = _ from hm, wrapped_untouched,
    foldl_get? _ _ (commitStep_get? dd) _ (h2.sublist (List.take_sublist _ _))] at h
  -- the key's entry, if the committed prefix has one, is its entry in the whole buffer
  have hpre := get?_take (runActs { wrapped := w, cache := [] } acts).cache m k
  rw [h1] at hpre
  cases hc : Dict.get? (List.take m (runActs { wrapped := w, cache := [] } acts).cache) k with
  | none => rw [hc] at h; exact Or.inl h
  | some x =>
    rw [hc] at h
    cases x with
    | some v' => exact Or.inr (by rw [hpre _ hc]; exact congrArg some h)
    | none => cases dd <;> simp [commitVal] at h; exact Or.inl h

theorem NoDupKeys.erase' {α} {d : Dict α} (h : NoDupKeys d) (k : Bytes) : NoDupKeys (Dict.erase d k) :=
  h.sublist List.filter_sublist

theorem commitLoop_nodup (dd : Bool) (cache : Dict (Option Bytes)) (base : Dict Bytes) (fa : Option Nat)
    (hb : NoDupKeys base) : NoDupKeys (commitLoop dd cache base fa).2.1 := by
  obtain ⟨m, hm⟩ := commitLoop_prefix dd cache base fa
  rw [hm]
  refine foldl_nodup _ (fun acc e h => ?_) _ _ hb
  obtain ⟨k, _ | v⟩ := e
  · cases dd
    · exact h
    · exact h.erase' k
  · exact h.insert k v

theorem get?_map_some (w : Dict Bytes) (k : Bytes) :
    Dict.get? (w.map fun e => (e.1, some e.2)) k = (Dict.get? w k).map some := by
  induction w with
  | nil => rfl
  | cons e r ih =>
    rw [List.map_cons, Dict.get?_cons, Dict.get?_cons, ih]
    cases (e.1 == k) <;> rfl

/-- dropping the `DELETED` entries of a dict with unique keys -/
theorem get?_filterMap (m : Dict (Option Bytes)) (hm : NoDupKeys m) (k : Bytes) :
    Dict.get? (m.filterMap fun e => e.2.map fun v => (e.1, v)) k =
      match Dict.get? m k with
      | some (some v) => some v
      | _ => none := by
  induction m with
  | nil => rfl
  | cons e r ih =>
    obtain ⟨hnm, hr⟩ := hm.tail
    obtain ⟨k0, _ | v⟩ := e
    · rw [List.filterMap_cons_none (by rfl), Dict.get?_cons, ih hr]
      by_cases hk : k0 = k
      · -- the dropped entry was the only one for its key
        subst hk; simp [get?_eq_none_of_not_mem_keys r k0 hnm]
      · simp [hk]
    · rw [List.filterMap_cons_some (b := (k0, v)) (by rfl), Dict.get?_cons, Dict.get?_cons, ih hr]
      by_cases hk : k0 = k <;> simp [hk]

theorem copy_get? (s : Sdb) (hw : NoDupKeys s.wrapped) (hc : NoDupKeys s.cache) (k : Bytes) :
    Dict.get? (copy s) k =
      match Dict.get? s.cache k with
      | some (some v) => some v
      | some none => none
      | none => Dict.get? s.wrapped k := by
  have hnd : NoDupKeys (s.wrapped.map fun e => ((e.1, some e.2) : Bytes × Option Bytes)) := by
    unfold NoDupKeys at hw ⊢; rwa [List.map_map]
  rw [copy, get?_filterMap _ (foldl_nodup _ (fun _ e h => h.insert e.1 e.2) _ _ hnd),
    foldl_get? _ (fun x _ => some x) (fun acc e k => get?_insert acc e.1 k e.2) _ hc, get?_map_some]
  cases Dict.get? s.cache k with
  | some x => cases x <;> rfl
  | none => cases Dict.get? s.wrapped k <;> rfl

end PyTrie.Sdb
