import PyTrie.Lemmas.WorldBatch
/-! `squash_changes` on a **non-pruning** trie (C05): the batch trie is a pruning trie over a ScratchDB whose
    reference counts start *empty* although the wrapped database is not — so counts of pre-existing nodes
    are meaningless (they are clamped at zero) and buffered deletes of such nodes are mere markers that the
    commit (`do_deletes=False`) ignores, while reads fall through them. The invariant tracks exactness only
    for hashes that are **not** keys of the wrapped database ("new" hashes): for those, count = true number of
    references and "buffered as a write" ⇔ referenced. Consequences at commit (`C05.np_batch_commit`): every
    node of the final tree is in the database, nothing pre-existing is removed, and every *added* key is a
    node of the final tree (no intermediate-only node is added). -/
namespace PyTrie.HexW
open PyTrie.Hex hiding get set
open PyTrie.Hex.Node

variable (Hs : Hashing) (blankRootHash : Hash)

/-- invariant of the batch trie of a non-pruning outer trie whose database was `base0` when the block began -/
structure BatchInvNP (base0 : Dict Bytes) (T : TrieSt) (s : OpSt) : Prop where
  prune : T.prune = true
  base : s.store.base = base0
  cached : ∃ c, s.store.cache = some c ∧ NoDupKeys c
  root : if isBlank T.tree then T.root = blankRootHash else T.root = Hs.hashOf T.tree ∧ T.root ≠ blankRootHash
  /-- for hashes that are not keys of the wrapped database the counts are exact … -/
  newCounts : ∀ h, Dict.contains base0 h = false → s.counts.val h = occRoot Hs T.tree h
  /-- … and such a hash will be committed iff it is referenced -/
  newKeys : ∀ h, Dict.contains base0 h = false → (s.store.view h = true ↔ 0 < occRoot Hs T.tree h)
  /-- everything referenced is readable (pre-existing nodes through the wrapped database, whatever was buffered) -/
  readable : ∀ h, 0 < occRoot Hs T.tree h → s.store.contains h = true
  pending : s.pending = []

theorem batchInvNP_begin (base0 : Dict Bytes) (T : TrieSt)
    (hroot : if isBlank T.tree then T.root = blankRootHash else T.root = Hs.hashOf T.tree ∧ T.root ≠ blankRootHash)
    (hkeys : ∀ h, 0 < occRoot Hs T.tree h → Dict.contains base0 h = true) (fa : Option Nat) :
    BatchInvNP Hs blankRootHash base0 { T with prune := true }
      { store := { base := base0, cache := some [], failAfter := fa }, counts := [], pending := [] } := by
  have hz : ∀ h, Dict.contains base0 h = false → occRoot Hs T.tree h = 0 := fun h hb =>
    Nat.eq_zero_of_not_pos fun hp => by rw [hkeys h hp] at hb; cases hb
  refine ⟨rfl, rfl, ⟨[], rfl, NoDupKeys.nil⟩, hroot, ?_, ?_, ?_, rfl⟩
  · intro h hb
    show Counts.val [] h = occRoot Hs T.tree h
    rw [hz h hb, Counts.val_nil]
  · intro h hb
    show Store.view _ h = true ↔ 0 < occRoot Hs T.tree h
    rw [hz h hb]
    simp [Store.view, Dict.get?_nil, hb]
  · intro h hp
    exact Store.contains_of_base _ h (hkeys h hp)

theorem opSetDel_batchInvNP (base0 : Dict Bytes) (T : TrieSt) (hc : Canon T.tree) (key : Bytes) (val : Option Bytes)
    (s : OpSt) (hinv : BatchInvNP Hs blankRootHash base0 T s)
    (hrs : RefSound Hs T.tree (nibs key))
    (hblank : isBlank (opTree Hs T key val).1 = false → Hs.hashOf (opTree Hs T key val).1 ≠ blankRootHash) :
    ∃ T', (opSetDel Hs blankRootHash T key val s).2 = .ok T' ∧
      T'.tree = (opTree Hs T key val).1 ∧
      BatchInvNP Hs blankRootHash base0 T' (opSetDel Hs blankRootHash T key val s).1 := by
  have hc4 := opSetDel_stable Hs blankRootHash (Store.cachedOn_stable base0) T key val s ⟨hinv.base, hinv.cached⟩
  obtain ⟨c, hcc, _⟩ := hinv.cached
  obtain ⟨s4, r, hop, _, hrootNew, hcounts, hkeys⟩ :=
    opSetDel_exact Hs blankRootHash (fun h => Dict.contains base0 h = false) T key val s hinv.prune hinv.root
      (fun h => by rw [hcc] at h; cases h) hinv.newCounts hinv.newKeys hinv.readable hrs hblank
  rw [hop] at hc4 ⊢
  refine ⟨_, rfl, rfl, hinv.prune, hc4.1, hc4.2, hrootNew, hcounts, hkeys, fun h hp => ?_, rfl⟩
  show s4.store.contains h = true
  cases hb : Dict.contains base0 h
  · rw [Store.contains_eq_view_of_new _ _ (by rw [hc4.1]; exact hb)]
    exact (hkeys h hb).2 hp
  · exact Store.contains_of_base _ _ (by rw [hc4.1]; exact hb)

end PyTrie.HexW
