import PyTrie.Lemmas.RawAtomic
/-! **Every fetch the raw level records was answered by the database.** `Answered st`: each `read h` in the event list
    of a raw-level state names a key of that state's database. The raw-level `get_node` / `_prune_node` / `_persist_node` /
    `_set` / `_delete` / `_normalize_branch_node` (`Model/HexRawT.lean`) preserve it on *every* input (the database only
    grows). With `Quiet` (`Lemmas/RawAtomic.lean`) this gives: the events recorded by a call that stops at a missing node
    are prune marks and fetches of keys of the *entry* database. -/
namespace PyTrie.HexRawT
open PyTrie PyTrie.Hex PyTrie.HexD PyTrie.HexRaw
open PyTrie.HexW (NoPersist)

variable (H : Bytes → Bytes)

/-- every recorded fetch names a key of the database -/
def Answered (st : St) : Prop := ∀ h, Ev.read h ∈ st.evs → (lookup st.db h).isSome = true

theorem answered_nil (db : Db) : Answered { db := db, evs := [] } := by
  intro h hm; simp at hm

theorem answered_prune (st : St) (node : Item) (hg : Answered st) : Answered (pruneNodeR H st node) := by
  unfold pruneNodeR
  split
  · intro h hm
    simp only [List.mem_append, List.mem_singleton] at hm
    rcases hm with hm | hm
    · exact hg h hm
    · cases hm
  · exact hg

theorem answered_persist (st : St) (node : Item) (hg : Answered st) : Answered (persistNodeR H st node).2 := by
  unfold persistNodeR
  split
  · intro h hm
    simp only [List.mem_append, List.mem_singleton] at hm
    rcases hm with hm | hm
    · rw [lookup_cons]
      split
      · rfl
      · exact hg h hm
    · cases hm
  · exact hg

theorem answered_getNodeT (st : St) (ref : Item) (hg : Answered st) : Answered (getNodeT H st ref).1 := by
  rcases getNodeT_state H st ref with h | ⟨x, hx, h⟩ <;> rw [h]
  · exact hg
  · intro y hm
    simp only [List.mem_append, List.mem_singleton] at hm
    rcases hm with hm | hm
    · exact hg y hm
    · cases hm; exact hx

/-- sequencing for a property of the state that every step keeps -/
theorem seqT_keeps {β : Type} (P : St → Prop) (x : St × Except Err Item) (K : St → Item → St × Except Err β)
    (hx : P x.1) (hK : ∀ st1 a, P st1 → P (K st1 a).1) : P (seqT x K).1 :=
  seqT_inv P (fun _ => True) x K hx (fun st1 a h _ => hK st1 a h) trivial

/-- a property of the state that both branches of a conditional have -/
theorem ite_state {α : Type} (P : St → Prop) {c : Prop} [Decidable c] {x y : St × α} (hx : P x.1) (hy : P y.1) :
    P (if c then x else y).1 := by
  split <;> assumption

theorem answered_kvFinish (node : Item) (value : Bytes) (common : Path) (inner : St × Except Err (Option Item))
    (hg : Answered inner.1) : Answered (kvFinish H node value common inner).1 := by
  obtain ⟨st1, r⟩ := inner
  unfold kvFinish
  cases r with
  | error e => exact hg
  | ok o =>
    cases o with
    | none => simp only []; split <;> exact hg
    | some newNode => exact ite_state Answered (answered_persist H st1 newNode hg) hg

theorem answered_set_both (fuel : Nat) :
    (∀ st node key value,
      Answered st → Answered (rawSetT H fuel st node key value).1) ∧
    (∀ st node p x isExt key value,
      Answered st → Answered (rawSetKvT H fuel st node p x isExt key value).1) := by
  induction fuel with
  | zero => exact ⟨fun _ _ _ _ hg => hg, fun _ _ _ _ _ _ _ hg => hg⟩
  | succ fuel ih =>
    obtain ⟨ih1, ih2⟩ := ih
    constructor
    · intro st node key value hg
      simp only [rawSetT]
      have hp := answered_prune H st node hg
      cases classify node with
      | blank => exact hp
      | invalid => exact hp
      | leaf p x => exact ih2 _ _ _ _ _ _ _ hp
      | ext p x => exact ih2 _ _ _ _ _ _ _ hp
      | branch l =>
        cases key with
        | nil => exact hp
        | cons a rest =>
          exact seqT_keeps Answered _ _ (answered_getNodeT H _ _ hp) fun st1 sub h1 =>
            seqT_keeps Answered _ _ (ih1 _ _ _ _ h1) fun st2 r h2 => answered_persist H st2 r h2
    · intro st node p x isExt key value hg
      simp only [rawSetKvT]
      generalize p.drop (cpl p key) = ckr
      generalize key.drop (cpl p key) = tkr
      generalize p.take (cpl p key) = common
      refine answered_kvFinish H node value common _ ?_
      have hslot : ∀ crest : Path, Answered (if crest = [] ∧ isExt = true then (x, st)
          else persistNodeR H st (Item.list [if isExt = true then extKey crest else leafKey crest, x])).2 := by
        intro crest
        split
        · exact hg
        · exact answered_persist H st _ hg
      cases ckr with
      | cons c0 crest =>
        cases tkr with
        | nil => exact hslot crest
        | cons t0 trest => simp only []; exact answered_persist H _ _ (hslot crest)
      | nil =>
        cases isExt with
        | false =>
          cases tkr with
          | nil => exact hg
          | cons t0 trest => simp only [Bool.false_eq_true, ↓reduceIte]; exact answered_persist H st _ hg
        | true =>
          cases tkr <;>
          exact seqT_keeps Answered _ _ (answered_getNodeT H _ _ hg) fun st1 sub h1 =>
            seqT_keeps Answered _ _ (ih1 _ _ _ _ h1) fun st2 r h2 => h2

theorem answered_rawSetT (fuel : Nat) (st : St) (node : Item) (key : Path) (value : Bytes) (hg : Answered st) :
    Answered (rawSetT H fuel st node key value).1 := (answered_set_both H fuel).1 st node key value hg

theorem answered_normalizeT (st : St) (l : List Item) (hg : Answered st) : Answered (rawNormalizeT H st l).1 := by
  unfold rawNormalizeT
  refine ite_state Answered hg (ite_state Answered hg ?_)
  cases List.find? _ (List.range 16) with
  | none => exact hg
  | some idx =>
    refine seqT_keeps Answered _ _ (answered_getNodeT H _ _ hg) fun st1 sub h1 => ?_
    cases classify sub with
    | leaf p x => exact answered_prune H st1 sub h1
    | ext p x => exact answered_prune H st1 sub h1
    | branch l' => exact h1
    | blank => exact h1
    | invalid => exact h1

theorem answered_rawDeleteT (fuel : Nat) : ∀ st node key, Answered st →
    Answered (rawDeleteT H fuel st node key).1 := by
  induction fuel with
  | zero => exact fun _ _ _ hg => hg
  | succ fuel ih =>
    intro st node key hg
    simp only [rawDeleteT]
    have hp := answered_prune H st node hg
    cases classify node with
    | blank => exact hp
    | invalid => exact hp
    | leaf p x => exact ite_state Answered hp (ite_state Answered hp hp)
    | ext p x =>
      refine ite_state Answered hp (seqT_keeps Answered _ _ (answered_getNodeT H _ _ hp) fun st1 sub h1 =>
        seqT_keeps Answered _ _ (ih _ _ _ h1) fun st2 newSub h2 => ?_)
      have h3 := answered_persist H st2 newSub h2
      refine ite_state Answered h3 (ite_state Answered h3 ?_)
      cases classify newSub with
      | leaf p' x' => exact answered_prune H _ newSub h3
      | ext p' x' => exact answered_prune H _ newSub h3
      | branch l' => exact h3
      | blank => exact h3
      | invalid => exact h3
    | branch l =>
      cases key with
      | nil => exact answered_normalizeT H _ _ hp
      | cons a rest =>
        refine seqT_keeps Answered _ _ (answered_getNodeT H _ _ hp) fun st1 sub h1 =>
          seqT_keeps Answered _ _ (ih _ _ _ h1) fun st2 newSub h2 => ?_
        have h3 := answered_persist H st2 newSub h2
        exact ite_state Answered h3 (ite_state Answered (answered_normalizeT H _ _ h3) h3)

/-- the events of a call that stopped at a missing node: no writes, and every fetch is a key of the entry database -/
theorem quiet_answered_reads (db : Db) (st' : St) (hq : Quiet { db := db, evs := [] } st') (ha : Answered st') :
    NoPersist st'.evs ∧ ∀ h, Ev.read h ∈ st'.evs → (lookup db h).isSome = true := by
  obtain ⟨hdb, evs', he, hnp⟩ := hq
  simp only [List.nil_append] at he
  refine ⟨he ▸ hnp, fun h hm => ?_⟩
  have := ha h hm
  rwa [hdb] at this

end PyTrie.HexRawT
