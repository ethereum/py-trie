import PyTrie.Lemmas.PruneDict
import PyTrie.Lemmas.HexEff
import PyTrie.Lemmas.CacheNoDupPres
/-! Exact behaviour of `runEvs` and `completePruning` on a pruning trie (C06) over any store on which the
    operation cannot be refused: a `ScratchDB` (never refuses), or a plain dict without injected write
    failure that holds the keys to be deleted. The effect on the database is stated over `Store.view`
    (`runEvs_exact`); `RunSpec`, `RunSpecV`, `RunSpecNP` are its readings for a plain dict, for any store without
    injected write failure, and for a ScratchDB in front of a fixed database. -/
namespace PyTrie.HexW
open PyTrie.Hex hiding get set
open PyTrie.Hex.Node

theorem cntPrune_cons (e : Ev) (es : List Ev) (h : Hash) :
    cntPrune (e :: es) h = cntPrune es h + (if e = Ev.prune h then 1 else 0) := by
  unfold cntPrune
  rw [List.count_cons]
  simp only [beq_iff_eq]

theorem cntPersist_cons (e : Ev) (es : List Ev) (h : Hash) :
    cntPersist (e :: es) h = cntPersist es h + (if isPersistOf h e = true then 1 else 0) := by
  unfold cntPersist
  rw [List.countP_cons]

/-- state after a successful event list: the store is of the kind it was, counts and pending marks have
    grown by the persists and prunes, the view by the persisted keys, and whatever was readable still is -/
structure RunOk (s : OpSt) (es : List Ev) (s' : OpSt) : Prop where
  fa : s'.store.failAfter = s.store.failAfter
  plain : s'.store.cache = none ↔ s.store.cache = none
  nodup : NoDupKeys s'.pending
  pos : PosVals s'.pending
  counts : ∀ h, s'.counts.val h = s.counts.val h + cntPersist es h
  pending : ∀ h, s'.pending.val h = s.pending.val h + cntPrune es h
  keys : ∀ h, s'.store.view h = true ↔ (s.store.view h = true ∨ 0 < cntPersist es h)
  readable : ∀ h, s.store.contains h = true → s'.store.contains h = true

theorem runEvs_exact (root key : Bytes) (es : List Ev) (s : OpSt)
    (hw : s.store.cache = none → s.store.failAfter = none)
    (hnd : NoDupKeys s.pending) (hpos : PosVals s.pending)
    (hreads : ∀ h, Ev.read h ∈ es → s.store.contains h = true) :
    ∃ s', runEvs true root key s es = (s', none) ∧ RunOk s es s' := by
  induction es generalizing s with
  | nil =>
    exact ⟨s, rfl, rfl, Iff.rfl, hnd, hpos, fun h => by simp, fun h => by simp, fun h => by simp, fun h a => a⟩
  | cons e es ih =>
    have hreads' := fun h hm => hreads h (List.mem_cons_of_mem _ hm)
    cases e with
    | read x =>
      have hx : s.store.contains x = true := hreads x (List.mem_cons_self ..)
      obtain ⟨s', h1, R⟩ := ih s hw hnd hpos hreads'
      refine ⟨s', ?_, R.fa, R.plain, R.nodup, R.pos, ?_, ?_, ?_, R.readable⟩
      · simp only [runEvs, runEv, hx, ↓reduceIte]; exact h1
      · intro h; rw [R.counts, cntPersist_cons]; simp [isPersistOf]
      · intro h; rw [R.pending, cntPrune_cons]; simp
      · intro h; rw [R.keys, cntPersist_cons]; simp [isPersistOf]
    | prune x =>
      obtain ⟨s', h1, R⟩ := ih { s with pending := s.pending.inc x } hw (hnd.inc x) (hpos.inc x) hreads'
      refine ⟨s', ?_, R.fa, R.plain, R.nodup, R.pos, ?_, ?_, ?_, R.readable⟩
      · simp only [runEvs, runEv, ↓reduceIte]; exact h1
      · intro h; rw [R.counts, cntPersist_cons]; simp [isPersistOf]
      · intro h
        rw [R.pending, cntPrune_cons, Counts.val_inc]
        simp only [Ev.prune.injEq]
        omega
      · intro h; rw [R.keys, cntPersist_cons]; simp [isPersistOf]
    | persist x b =>
      obtain ⟨st, hst, hfa, hpl, hv, hr⟩ := Store.write_view s.store hw x b
      obtain ⟨s', h1, R⟩ := ih { s with store := st, counts := s.counts.inc x }
        (fun hc => hfa.trans (hw (hpl.1 hc))) hnd hpos (fun h hm => hr h (hreads' h hm))
      refine ⟨s', ?_, R.fa.trans hfa, R.plain.trans hpl, R.nodup, R.pos, ?_, ?_, ?_,
        fun h a => R.readable h (hr h a)⟩
      · simp only [runEvs, runEv, setDbValue, hst, ↓reduceIte]; exact h1
      · intro h
        rw [R.counts, cntPersist_cons, Counts.val_inc]
        simp only [isPersistOf, beq_iff_eq]
        omega
      · intro h; rw [R.pending, cntPrune_cons]; simp
      · intro h
        rw [R.keys, cntPersist_cons]
        show (st.view h = true ∨ _) ↔ _
        rw [hv]
        simp only [isPersistOf, beq_iff_eq, eq_comm (a := h)]
        split <;> simp [*]

/-- one step of `_complete_pruning` that cannot raise: over a plain dict the key has to be there -/
theorem pruneStep_exact (s : OpSt) (kn : Hash × Nat) (hk : s.store.cache = none → s.store.view kn.1 = true) :
    ∃ s', pruneStep s kn = .ok s' ∧ s'.pending = s.pending ∧ (s'.store.cache = none ↔ s.store.cache = none) ∧
      (∀ k, s'.counts.val k = if k = kn.1 then s.counts.val k - kn.2 else s.counts.val k) ∧
      (∀ k, s'.store.view k = true ↔
        (s.store.view k = true ∧ (k = kn.1 → kn.2 < s.counts.val k))) := by
  unfold pruneStep
  simp only
  split
  · next hle =>
    obtain ⟨st, hd, _, hpl, hv⟩ := Store.del_view s.store kn.1 hk
    rw [hd]
    refine ⟨_, rfl, rfl, hpl, fun k => ?_, fun k => ?_⟩
    · simp only [Counts.val_erase]
      split
      · next e => subst e; omega
      · rfl
    · simp only [hv]
      exact and_congr_right' ⟨fun b e => absurd e b, fun b e => by have := b e; subst e; omega⟩
  · next hlt =>
    refine ⟨_, rfl, rfl, Iff.rfl, fun k => ?_, fun k => ⟨fun a => ⟨a, fun e => by subst e; omega⟩, And.left⟩⟩
    simp only [Counts.val_insert]
    split
    · next e => subst e; rfl
    · rfl

/-- `_complete_pruning` over a list of distinct keys (over a plain dict: all present): nothing raises, counts
    drop by the pending amounts (clamped at zero), and exactly the keys whose count does not exceed the
    pending amount leave the view -/
theorem completePruning_exact (l : List (Hash × Nat)) (hnd : NoDupKeys l) (s : OpSt)
    (hk : s.store.cache = none → ∀ e ∈ l, s.store.view e.1 = true) :
    ∃ s', completePruning s l = (s', none) ∧ s'.pending = s.pending ∧
      (s'.store.cache = none ↔ s.store.cache = none) ∧
      (∀ k, s'.counts.val k = s.counts.val k - Counts.val l k) ∧
      (∀ k, s'.store.view k = true ↔
        (s.store.view k = true ∧ (Dict.contains l k = true → Counts.val l k < s.counts.val k))) := by
  induction l generalizing s with
  | nil =>
    exact ⟨s, rfl, rfl, Iff.rfl, fun k => by simp [Counts.val_nil], fun k => by simp [Dict.contains_nil]⟩
  | cons kn rest ih =>
    obtain ⟨hrest, hnd'⟩ := hnd.cons
    obtain ⟨s1, h1, hp1, hc1, hcnt1, hkeys1⟩ := pruneStep_exact s kn (fun hc => hk hc kn (List.mem_cons_self ..))
    have hk1 : s1.store.cache = none → ∀ e ∈ rest, s1.store.view e.1 = true := by
      intro hc e he
      refine (hkeys1 _).2 ⟨hk (hc1.1 hc) e (List.mem_cons_of_mem _ he), fun h => ?_⟩
      rw [← h, (Dict.contains_iff_mem_keys rest e.1).2 (List.mem_map.2 ⟨e, he, rfl⟩)] at hrest
      cases hrest
    obtain ⟨s2, h2, hp2, hc2, hcnt2, hkeys2⟩ := ih hnd' s1 hk1
    refine ⟨s2, ?_, hp2.trans hp1, hc2.trans hc1, fun k => ?_, fun k => ?_⟩
    · simp only [completePruning, h1]; exact h2
    · rw [hcnt2, hcnt1, Counts.val_cons]
      by_cases hkk : k = kn.1
      · subst hkk
        simp [Counts.val_of_not_contains rest _ hrest]
      · simp [hkk, Ne.symm hkk]
    · rw [hkeys2, hkeys1, hcnt1, Dict.contains_cons, Counts.val_cons]
      by_cases hkk : k = kn.1
      · subst hkk
        simp [hrest, Counts.val_of_not_contains rest _ hrest]
      · simp [hkk, Ne.symm hkk]

/-- `RunOk` read over a plain dict without injected write failures -/
structure RunSpec (s : OpSt) (es : List Ev) (s' : OpSt) : Prop where
  cache : s'.store.cache = none
  fa : s'.store.failAfter = none
  nodup : NoDupKeys s'.pending
  pos : PosVals s'.pending
  counts : ∀ h, s'.counts.val h = s.counts.val h + cntPersist es h
  pending : ∀ h, s'.pending.val h = s.pending.val h + cntPrune es h
  keys : ∀ h, s'.store.base.contains h = true ↔ (s.store.base.contains h = true ∨ 0 < cntPersist es h)

theorem runEvs_spec (root key : Bytes) (es : List Ev) (s : OpSt)
    (hc : s.store.cache = none) (hfa : s.store.failAfter = none)
    (hnd : NoDupKeys s.pending) (hpos : PosVals s.pending)
    (hreads : ∀ h, Ev.read h ∈ es → s.store.base.contains h = true) :
    ∃ s', runEvs true root key s es = (s', none) ∧ RunSpec s es s' := by
  obtain ⟨s', h1, R⟩ := runEvs_exact root key es s (fun _ => hfa) hnd hpos
    (fun h hm => (Store.contains_plain _ hc h).trans (hreads h hm))
  have hc' := R.plain.2 hc
  refine ⟨s', h1, hc', R.fa.trans hfa, R.nodup, R.pos, R.counts, R.pending, fun h => ?_⟩
  rw [← Store.view_plain _ hc', ← Store.view_plain _ hc]
  exact R.keys h

structure RunSpecV (s : OpSt) (es : List Ev) (s' : OpSt) : Prop where
  wf : s'.store.CacheNoDup
  fa : s'.store.failAfter = none
  nodup : NoDupKeys s'.pending
  pos : PosVals s'.pending
  counts : ∀ h, s'.counts.val h = s.counts.val h + cntPersist es h
  pending : ∀ h, s'.pending.val h = s.pending.val h + cntPrune es h
  keys : ∀ h, s'.store.view h = true ↔ (s.store.view h = true ∨ 0 < cntPersist es h)

theorem runEvs_specV (root key : Bytes) (es : List Ev) (s : OpSt)
    (hwf : s.store.CacheNoDup) (hfa : s.store.failAfter = none)
    (hnd : NoDupKeys s.pending) (hpos : PosVals s.pending)
    (hreads : ∀ h, Ev.read h ∈ es → s.store.view h = true) :
    ∃ s', runEvs true root key s es = (s', none) ∧ RunSpecV s es s' := by
  obtain ⟨s', h1, R⟩ := runEvs_exact root key es s (fun _ => hfa) hnd hpos
    (fun h hm => contains_of_view _ _ (hreads h hm))
  have hwf' := runEvs_stable Store.cacheNoDup_stable true root key es s hwf
  rw [h1] at hwf'
  exact ⟨s', h1, hwf', R.fa.trans hfa, R.nodup, R.pos, R.counts, R.pending, R.keys⟩

/-- the store is a ScratchDB (unique cache keys) in front of `base0` -/
def Store.CachedOn (s : Store) (base0 : Dict Bytes) : Prop :=
  s.base = base0 ∧ ∃ c, s.cache = some c ∧ NoDupKeys c

theorem Store.cachedOn_stable (base0 : Dict Bytes) : Store.Stable (Store.CachedOn · base0) := by
  constructor <;> intro s s' h
  · intro b hc hw
    obtain ⟨rfl, c, hcc, hnd⟩ := hc
    simp only [Store.write, hcc, Option.some.injEq] at hw
    subst hw
    exact ⟨rfl, _, rfl, hnd.insert _ _⟩
  · intro hc hd
    obtain ⟨rfl, c, hcc, hnd⟩ := hc
    simp only [Store.del, hcc, Option.some.injEq] at hd
    subst hd
    exact ⟨rfl, _, rfl, hnd.insert _ _⟩

structure RunSpecNP (base0 : Dict Bytes) (s : OpSt) (es : List Ev) (s' : OpSt) : Prop where
  cached : s'.store.CachedOn base0
  nodup : NoDupKeys s'.pending
  pos : PosVals s'.pending
  counts : ∀ h, s'.counts.val h = s.counts.val h + cntPersist es h
  pending : ∀ h, s'.pending.val h = s.pending.val h + cntPrune es h
  keys : ∀ h, s'.store.view h = true ↔ (s.store.view h = true ∨ 0 < cntPersist es h)
  readable : ∀ h, s.store.contains h = true → s'.store.contains h = true

theorem runEvs_specNP (base0 : Dict Bytes) (root key : Bytes) (es : List Ev) (s : OpSt)
    (hc : s.store.CachedOn base0)
    (hnd : NoDupKeys s.pending) (hpos : PosVals s.pending)
    (hreads : ∀ h, Ev.read h ∈ es → s.store.contains h = true) :
    ∃ s', runEvs true root key s es = (s', none) ∧ RunSpecNP base0 s es s' := by
  obtain ⟨c, hcc, _⟩ := hc.2
  obtain ⟨s', h1, R⟩ := runEvs_exact root key es s (fun h => by rw [hcc] at h; cases h) hnd hpos hreads
  have hc' := runEvs_stable (Store.cachedOn_stable base0) true root key es s hc
  rw [h1] at hc'
  exact ⟨s', h1, hc', R.nodup, R.pos, R.counts, R.pending, R.keys, R.readable⟩

end PyTrie.HexW
