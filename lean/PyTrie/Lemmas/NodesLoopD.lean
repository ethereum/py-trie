import PyTrie.Lemmas.WalkDRefines
import PyTrie.Lemmas.NodesLoop
import PyTrie.Lemmas.PartialInv
/-! `NodeIterator.nodes()` at raw level (`nodesLoopD`: root hash + database + cache of raw node bodies) yields exactly the
    annotated images of what the tree-level loop yields, as far as the database can be read (`nodesLoopD_sim`): on a
    database that stores the trie nothing is missing — hence the pre-order sequence (`C10.nodes_loop_is_preorder`) —, on an
    incomplete one (bodies withheld, pruned, not yet downloaded) the loop may stop with `MissingTraversalNode`, but only for
    a node that really is absent. -/
namespace PyTrie.HexD
open PyTrie PyTrie.Hex PyTrie.Fog PyTrie.HexRaw PyTrie.HexW

variable (H : Bytes → Bytes)

/-- the raw image of a frontier cache of tree nodes -/
def mapCache (c : Frontier Node) : Frontier Item := c.map (fun e => (e.1, (toItem H e.2.1, e.2.2)))

theorem mapCache_eq_mapC (c : Frontier Node) : mapCache H c = mapC H c := rfl

/-- **the raw-level loop is the tree-level loop, or reports a missing node**, over a database that reads the nodes
    satisfying `P` — the trie's and the cached parents' — truthfully up to the errors `E` -/
theorem nodesLoopD_sim {E : Hash → Path → Prop} {P : Node → Prop} (hlen : ∀ b, (H b).length = 32) (db : Db)
    (root : Hash) (t : Node) (hroot : RootPartial H db root t)
    (hrootE : isBlank t = false → lookup db root = none → E root []) (hreads : Reads H db E P)
    (hsub : ∀ v q, P v → P (traverseT v q).1) (ht : P t) (fuel : Nat) :
    ∀ (fog : Fog) (cache : Frontier Node), CacheAll (fun _ n _ => P n) cache →
    (∃ h pre, nodesLoopD H db root fuel fog (mapCache H cache) = .error (.missing h pre) ∧ E h pre) ∨
    nodesLoopD H db root fuel fog (mapCache H cache) =
      .ok ((nodesLoop t fuel fog cache).map (fun e => (e.1, Ann.toD H (annotate e.2)))) := by
  induction fuel with
  | zero => intro fog cache _; exact Or.inr rfl
  | succ fuel ih =>
    intro fog cache hcache
    rw [nodesLoop_succ]
    unfold nodesLoopD
    cases hnr : nearestRight fog [] with
    | error e => exact Or.inr rfl
    | ok p =>
      simp only
      rw [show (⟨fog, mapCache H cache, []⟩ : CStateD) = toCD H ⟨fog, cache, []⟩ from rfl]
      rcases walkTraverseD_sim H hlen db root t hroot hrootE hreads ht ⟨fog, cache, []⟩ p (hcache p) with
        ⟨h, pre, he, hl⟩ | hok
      · rw [he]
        exact Or.inl ⟨h, pre, rfl, hl⟩
      · rw [hok]
        obtain ⟨v, q, hv, e⟩ := iterOut_from ht hcache p
        simp only [e]
        cases ho : traverseOut v q with
        | partialPath tr a tail sim => exact Or.inr rfl
        | node a =>
          have ha := (traverseOut_node ho).2
          have hraw : P a.raw := by rw [ha, annotate_raw]; exact hsub v q hv
          have hann : annotate a.raw = a := by rw [ha, annotate_raw]
          simp only [TravOut.toD]
          rw [show (Ann.toD H a).subs = a.subs from rfl, show (Ann.toD H a).raw = toItem H a.raw from rfl]
          cases he : Fog.explore fog p a.subs with
          | error e => exact Or.inr rfl
          | ok fog' =>
            simp only
            rw [mapCache_eq_mapC, mapC_update, ← mapCache_eq_mapC]
            rcases ih fog' _ (cacheAll_update hcache fun _ _ => hraw) with ⟨h, pre, he', hl⟩ | hok'
            · rw [he']
              exact Or.inl ⟨h, pre, rfl, hl⟩
            · rw [hok']
              right
              simp only [List.map_cons, hann]

/-- **the raw-level loop = the tree-level loop** on a stored canonical trie (complete database: no node is missing) -/
theorem nodesLoopD_refines (hlen : ∀ b, (H b).length = 32) (db : Db) (root : Hash) (t : Node) (hc : Canon t)
    (hroot : RootPartial H db root t) (hrootIn : isBlank t = false → (lookup db root).isSome)
    (hst : StoredD H db t) (fuel : Nat) (fog : Fog) (cache : Frontier Node)
    (hcache : ∀ p parent seg, Frontier.get cache p = some (parent, seg) → Canon parent ∧ StoredD H db parent) :
    nodesLoopD H db root fuel fog (mapCache H cache) =
      .ok ((nodesLoop t fuel fog cache).map (fun e => (e.1, Ann.toD H (annotate e.2)))) :=
  (nodesLoopD_sim H hlen db root t hroot (fun hb hl => by simpa [hl] using hrootIn hb)
    (reads_stored H hlen db)
    (fun v q => traverseT_closed (P := fun n => Canon n ∧ StoredD H db n) ⟨trivial, trivial⟩
      (fun _ _ h => ⟨h.1.2.2, h.2.2⟩) (fun _ _ i h => ⟨h.1.1 i, (h.2 i).2⟩) v q)
    ⟨hc, hst⟩ fuel fog cache hcache).resolve_left fun ⟨_, _, _, h⟩ => h

/-- a database complete for a trie (what the executor leaves, pruning on or off) stores it: the root reference
    resolves, the root body is present, every node below is stored -/
theorem stored_of_complete (T : TrieSt) (d : Dict Bytes) (hcomp : Complete (stdHashing H) (blankRoot H) d T)
    (hbk : Dict.get? d (blankRoot H) = none) (hsm : ∀ h b, Dict.get? d h = some b → b.length < 2 ^ 64) :
    RootPartial H d T.root T.tree ∧ (isBlank T.tree = false → (lookup d T.root).isSome) ∧ StoredD H d T.tree := by
  refine ⟨(HexFree.partial_of_complete H T d hcomp hbk hsm).1, fun hb => ?_,
    storedD_of_storedBelow H (fun _ => rfl) hbk hsm T.tree hcomp.2⟩
  have h1 := hcomp.1
  simp only [hb, Bool.false_eq_true, if_false] at h1
  show (Dict.get? d T.root).isSome
  rw [h1.2.2]; rfl

theorem nodesOfD_complete (hlen : ∀ b, (H b).length = 32) (T : TrieSt) (hc : Canon T.tree) (d : Dict Bytes)
    (hcomp : Complete (stdHashing H) (blankRoot H) d T)
    (hbk : Dict.get? d (blankRoot H) = none) (hsm : ∀ h b, Dict.get? d h = some b → b.length < 2 ^ 64) (fuel : Nat) :
    nodesOfD H d T.root fuel = .ok ((nodesOf T.tree fuel).map (fun e => (e.1, Ann.toD H (annotate e.2)))) := by
  obtain ⟨hroot, hrootIn, hst⟩ := stored_of_complete H T d hcomp hbk hsm
  exact nodesLoopD_refines H hlen d T.root T.tree hc hroot hrootIn hst fuel Fog.init [] cacheAll_nil

theorem nodesLoopD_partial (hlen : ∀ b, (H b).length = 32) (db : Db) (root : Hash) (t : Node) (hc : Canon t)
    (hroot : RootPartial H db root t) (hst : PartialD H db t) (fuel : Nat) (fog : Fog) (cache : Frontier Node)
    (hcache : CacheOkD H db cache) :
    (∃ h pre, nodesLoopD H db root fuel fog (mapCache H cache) = .error (.missing h pre) ∧ lookup db h = none) ∨
    nodesLoopD H db root fuel fog (mapCache H cache) =
      .ok ((nodesLoop t fuel fog cache).map (fun e => (e.1, Ann.toD H (annotate e.2)))) :=
  nodesLoopD_sim H hlen db root t hroot (fun _ h => h) (reads_partial H hlen db)
    (fun v q => canon_partial_traverseT H db v q) ⟨hc, hst⟩ fuel fog cache hcache

end PyTrie.HexD
