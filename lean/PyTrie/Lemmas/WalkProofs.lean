import PyTrie.Lemmas.FogProofs
import PyTrie.Lemmas.HexTravProofs
/-! The fog-guided walk (C09), abstractly. A walk state is the fog plus the (key, value) pairs met so
    far. One step takes an unexplored prefix `p` and the description (`traverseOut … |>.desc`: the node, or
    the simulated node when the path ends inside a leaf / extension) of *some version* `t` of the trie at
    `p` — the current one when traversing from the root, an older one when a frontier-cache entry is
    used (`traverse_from (node at parent) seg = traverse (parent ++ seg)`, C08) — and explores. -/
namespace PyTrie.Walk
open PyTrie PyTrie.Hex PyTrie.Fog

structure WState where
  fog : Fog
  met : List (Path × Bytes)

def start : WState := ⟨Fog.init, []⟩

/-- one walk step with version `t` at prefix `p`; `none` = the step could not be carried out
    (no description, or `explore` rejected it) -/
def wstep (s : WState) (t : Node) (p : Path) : Option WState :=
  match (traverseOut t p).desc with
  | none => none
  | some d =>
    match Fog.explore s.fog p d.subs with
    | .ok f' => some ⟨f', if d.value ≠ [] then (p ++ d.suffix, d.value) :: s.met else s.met⟩
    | .error _ => none

/-- a schedule: which version is consulted at which prefix, step by step (mutations between steps
    only change which versions appear later) -/
def wrun (s : WState) : List (Node × Path) → Option WState
  | [] => some s
  | (t, p) :: rest => match wstep s t p with
    | some s' => wrun s' rest
    | none => none

/-- every step takes a prefix that is unexplored at that moment -/
def Valid (s : WState) : List (Node × Path) → Prop
  | [] => True
  | (t, p) :: rest => p ∈ s.fog ∧ ∀ s', wstep s t p = some s' → Valid s' rest

theorem annotate_subs_small (n : Node) : (annotate n).subs.Nodup ∧ (annotate n).subs.length ≤ 16 := by
  cases n with
  | blank => simp [annotate]
  | leaf q v => simp [annotate]
  | ext q c => simp [annotate]
  | branch ch v =>
    simp only [annotate, List.length_map]
    refine ⟨?_, ?_⟩
    · refine List.Pairwise.map _ ?_ (liveIdx_nodup ch)
      intro a b hab h
      exact hab (by simpa using h)
    · have := List.length_filter_le (fun i => !(isBlank (ch i))) (List.finRange 16)
      simpa [liveIdx] using this

theorem simulate_annotate {n : Node} {tail : Path} {d : Ann} (h : simulate (annotate n) tail = some d) :
    (∃ q v, n = .leaf q v ∧ tail <+: q ∧
      d = ⟨[], v, q.drop tail.length, .leaf (q.drop tail.length) v, .leaf⟩) ∨
    (∃ q c, n = .ext q c ∧ tail <+: q ∧ tail.length ≠ q.length ∧
      d = ⟨[q.drop tail.length], [], [], .ext (q.drop tail.length) c, .ext⟩) := by
  cases n with
  | blank => simp [simulate, annotate, rewrapLeaf] at h
  | leaf q v =>
    simp only [simulate, annotate, rewrapLeaf] at h
    by_cases hp : tail <+: q
    · simp only [hp, ↓reduceIte, Option.map_some, Option.some.injEq] at h
      exact Or.inl ⟨q, v, rfl, hp, h.symm⟩
    · simp [hp] at h
  | ext q c =>
    simp only [simulate, annotate, rewrapExt] at h
    split at h
    · cases h
    · next hpre =>
      split at h
      · cases h
      · next hlen =>
        simp only [Option.map_some, Option.some.injEq] at h
        exact Or.inr ⟨q, c, rfl, by simpa using hpre, hlen, h.symm⟩
  | branch ch v =>
    simp only [simulate, annotate] at h
    split at h
    · simp [rewrapLeaf] at h
    · split at h
      · cases h
      · split at h <;> simp [rewrapExt] at h
    · cases h

theorem desc_subs_small (t : Node) (p : Path) (d : Ann) (hd : (traverseOut t p).desc = some d) :
    d.subs.Nodup ∧ d.subs.length ≤ 16 := by
  rw [desc_eq] at hd
  unfold descOf at hd
  split at hd
  · cases hd; exact annotate_subs_small _
  · rcases simulate_annotate hd with ⟨_, _, _, _, rfl⟩ | ⟨_, _, _, _, _, rfl⟩ <;> simp

theorem desc_exists (t : Node) (hc : Canon t) (p : Path) : ∃ d, (traverseOut t p).desc = some d := by
  cases h : traverseOut t p with
  | node a => exact ⟨a, rfl⟩
  | partialPath tr a tail sim =>
    have := (traverse_partial_sim t hc p tr tail a sim h).1
    cases sim with
    | none => simp at this
    | some d => exact ⟨d, rfl⟩

theorem wstep_some {s s' : WState} {t : Node} {p : Path} (h : wstep s t p = some s') :
    ∃ d f', (traverseOut t p).desc = some d ∧ Fog.explore s.fog p d.subs = .ok f' ∧
      s' = ⟨f', if d.value ≠ [] then (p ++ d.suffix, d.value) :: s.met else s.met⟩ := by
  unfold wstep at h
  split at h
  · cases h
  · next d hd =>
    split at h
    · next f' hf =>
      cases h
      exact ⟨d, f', hd, hf, rfl⟩
    · cases h

theorem wrun_cons {s s' : WState} {t : Node} {p : Path} {rest : List (Node × Path)} :
    wrun s ((t, p) :: rest) = some s' ↔ ∃ s1, wstep s t p = some s1 ∧ wrun s1 rest = some s' := by
  simp only [wrun]
  cases wstep s t p <;> simp

theorem wstep_wf {s s' : WState} {t : Node} {p : Path} (hw : Wf s.fog) (h : wstep s t p = some s') : Wf s'.fog := by
  obtain ⟨d, f', _, hf, rfl⟩ := wstep_some h
  exact (explore_spec s.fog hw p d.subs f' hf).1

theorem wstep_invariant {s s1 : WState} {t : Node} (hc : Canon t) {p : Path}
    (h1 : wstep s t p = some s1) (k : Path) (val : Bytes) (hval : val ≠ []) (hst : get t k = val)
    (hinv : (k, val) ∈ s.met ∨ ∃ q ∈ s.fog, q <+: k) :
    (k, val) ∈ s1.met ∨ ∃ q ∈ s1.fog, q <+: k := by
  obtain ⟨d, f', hd, hf, rfl⟩ := wstep_some h1
  have hmem := explore_mem hf
  simp only
  rcases hinv with hm | ⟨q, hq, hqk⟩
  · left
    split
    · exact List.mem_cons_of_mem _ hm
    · exact hm
  · by_cases hqp : q = p
    · subst hqp
      have hk : get t k ≠ [] := by rw [hst]; exact hval
      rcases traverse_covers t hc q d hd k hqk hk with ⟨e1, e2⟩ | ⟨s0, hs0, hsk⟩
      · left
        rw [hst] at e2
        have hv : d.value ≠ [] := by rw [e2]; exact hval
        rw [if_pos hv, e2, ← e1]
        exact List.mem_cons_self
      · exact Or.inr ⟨q ++ s0, (hmem _).2 (Or.inr ⟨s0, hs0, rfl⟩), hsk⟩
    · exact Or.inr ⟨q, (hmem q).2 (Or.inl ⟨hq, hqp⟩), hqk⟩

theorem wstep_sound {s s1 : WState} {t : Node} (hc : Canon t) {p : Path}
    (h1 : wstep s t p = some s1) (k : Path) (v : Bytes) (hm : (k, v) ∈ s1.met) :
    (k, v) ∈ s.met ∨ (v ≠ [] ∧ get t k = v) := by
  obtain ⟨d, f', hd, hf, rfl⟩ := wstep_some h1
  simp only at hm
  split at hm
  · next hv =>
    rcases List.mem_cons.1 hm with e | hm
    · simp only [Prod.mk.injEq] at e
      obtain ⟨rfl, rfl⟩ := e
      exact Or.inr ⟨hv, traverse_value t hc p d hd hv⟩
    · exact Or.inl hm
  · exact Or.inl hm

theorem wstep_defined (s : WState) (hw : Wf s.fog) (t : Node) (hc : Canon t) (p : Path) (hp : p ∈ s.fog) :
    ∃ s', wstep s t p = some s' ∧ Wf s'.fog := by
  obtain ⟨d, hd⟩ := desc_exists t hc p
  obtain ⟨f', hf⟩ := (explore_ok_iff s.fog p d.subs).2
    ⟨hp, (desc_subs_small t p d hd).1, (traverse_subs t hc p d hd).2⟩
  refine ⟨⟨f', if d.value ≠ [] then (p ++ d.suffix, d.value) :: s.met else s.met⟩, ?_,
    (explore_spec s.fog hw p d.subs f' hf).1⟩
  unfold wstep
  rw [hd]
  simp only [hf]

theorem walk_invariant (sched : List (Node × Path)) (s s' : WState)
    (hcanon : ∀ e ∈ sched, Canon e.1) (k : Path) (val : Bytes) (hval : val ≠ [])
    (hstable : ∀ e ∈ sched, get e.1 k = val)
    (hinv : (k, val) ∈ s.met ∨ ∃ q ∈ s.fog, q <+: k)
    (hrun : wrun s sched = some s') :
    (k, val) ∈ s'.met ∨ ∃ q ∈ s'.fog, q <+: k := by
  induction sched generalizing s with
  | nil => cases hrun; exact hinv
  | cons e rest ih =>
    obtain ⟨t, p⟩ := e
    obtain ⟨s1, h1, hrun⟩ := wrun_cons.1 hrun
    exact ih s1 (fun e he => hcanon e (List.mem_cons_of_mem _ he))
      (fun e he => hstable e (List.mem_cons_of_mem _ he))
      (wstep_invariant (hcanon (t, p) List.mem_cons_self) h1 k val hval (hstable (t, p) List.mem_cons_self) hinv) hrun

theorem walk_finds_stable (sched : List (Node × Path)) (s' : WState)
    (hcanon : ∀ e ∈ sched, Canon e.1) (k : Path) (val : Bytes) (hval : val ≠ [])
    (hstable : ∀ e ∈ sched, get e.1 k = val)
    (hrun : wrun start sched = some s') (hdone : s'.fog = []) : (k, val) ∈ s'.met := by
  have := walk_invariant sched start s' hcanon k val hval hstable
    (Or.inr ⟨[], by simp [start, Fog.init], List.nil_prefix⟩) hrun
  rcases this with h | ⟨q, hq, _⟩
  · exact h
  · rw [hdone] at hq; cases hq

/-- **nothing is met that was never stored** -/
theorem walk_sound (sched : List (Node × Path)) (s s' : WState)
    (hcanon : ∀ e ∈ sched, Canon e.1) (hrun : wrun s sched = some s') (k : Path) (v : Bytes)
    (hm : (k, v) ∈ s'.met) : (k, v) ∈ s.met ∨ ∃ e ∈ sched, v ≠ [] ∧ get e.1 k = v := by
  induction sched generalizing s with
  | nil => cases hrun; exact Or.inl hm
  | cons e rest ih =>
    obtain ⟨t, p⟩ := e
    obtain ⟨s1, h1, hrun⟩ := wrun_cons.1 hrun
    rcases ih s1 (fun e he => hcanon e (List.mem_cons_of_mem _ he)) hrun with h | ⟨e, he, h⟩
    · rcases wstep_sound (hcanon (t, p) List.mem_cons_self) h1 k v h with h | h
      · exact Or.inl h
      · exact Or.inr ⟨(t, p), List.mem_cons_self, h⟩
    · exact Or.inr ⟨e, List.mem_cons_of_mem _ he, h⟩

/-- **exactness on an unchanging trie** -/
theorem walk_exact (t : Node) (hc : Canon t) (ps : List Path) (s' : WState)
    (hrun : wrun start (ps.map fun p => (t, p)) = some s') (hdone : s'.fog = []) (k : Path) (v : Bytes) :
    (k, v) ∈ s'.met ↔ v ≠ [] ∧ get t k = v := by
  have hall : ∀ {Q : Node → Prop}, Q t → ∀ e ∈ ps.map (fun p => (t, p)), Q e.1 := by
    intro Q h e he
    obtain ⟨p, _, rfl⟩ := List.mem_map.1 he
    exact h
  constructor
  · intro hm
    rcases walk_sound _ start s' (hall hc) hrun k v hm with h | ⟨e, he, h⟩
    · cases h
    · obtain ⟨p, _, rfl⟩ := List.mem_map.1 he
      exact h
  · rintro ⟨hv, hg⟩
    exact walk_finds_stable _ s' (hall hc) k v hv (hall (Q := (get · k = v)) hg) hrun hdone

/-! ### Termination -/

/-- measure for termination, `L` bounding the key length (in nibbles) of all consulted versions: an unexplored prefix
    `q` weighs `17 ^ (L + 1 - |q|)`, i.e. 17 times a prefix one nibble longer, so exploring it (at most 16 longer prefixes
    in its place) lowers the sum -/
def mu (L : Nat) (f : Fog) : Nat := (f.map fun q => 17 ^ (L + 1 - q.length)).sum

def Grounded (L : Nat) (f : Fog) : Prop := ∀ q ∈ f, q.length ≤ L

theorem sum_insert_le (w : Path → Nat) (f : Fog) (q : Path) :
    ((Fog.insert f q).map w).sum ≤ (f.map w).sum + w q := by
  induction f with
  | nil => simp [Fog.insert]
  | cons x rest ih =>
    unfold Fog.insert
    split
    · simp only [List.map_cons, List.sum_cons]
      omega
    · split
      · exact Nat.le_add_right _ _
      · simp only [List.map_cons, List.sum_cons]
        omega

theorem sum_foldl_insert_le (w : Path → Nat) (l : List Path) (f : Fog) :
    ((l.foldl Fog.insert f).map w).sum ≤ (f.map w).sum + (l.map w).sum := by
  induction l generalizing f with
  | nil => simp
  | cons x xs ih =>
    simp only [List.foldl_cons, List.map_cons, List.sum_cons]
    have := ih (Fog.insert f x)
    have := sum_insert_le w f x
    omega

theorem sum_erase (w : Path → Nat) (f : Fog) (p : Path) (hs : Sorted f) (hp : p ∈ f) :
    (f.map w).sum = ((erase f p).map w).sum + w p := by
  induction f with
  | nil => cases hp
  | cons x xs ih =>
    have ⟨hx, hxs⟩ := List.pairwise_cons.1 hs
    by_cases hxp : x = p
    · subst hxp
      rw [erase_head x xs hx, List.map_cons, List.sum_cons]
      omega
    · have hp' : p ∈ xs := (List.mem_cons.1 hp).resolve_left (Ne.symm hxp)
      have : erase (x :: xs) p = x :: erase xs p := by simp [erase, hxp]
      rw [this, List.map_cons, List.map_cons, List.sum_cons, List.sum_cons, ih hxs hp']
      omega

theorem sum_le_length_mul (l : List Path) (g : Path → Nat) (B : Nat) (h : ∀ q ∈ l, g q ≤ B) :
    (l.map g).sum ≤ l.length * B := by
  induction l with
  | nil => simp
  | cons x xs ih =>
    have h1 := h x List.mem_cons_self
    have h2 := ih (fun q hq => h q (List.mem_cons_of_mem _ hq))
    simp only [List.map_cons, List.sum_cons, List.length_cons, Nat.succ_mul]
    omega

theorem pow_succ_sub (a n k : Nat) (h : k ≤ n) : a ^ (n + 1 - k) = a * a ^ (n - k) := by
  rw [Nat.succ_sub h, Nat.pow_succ, Nat.mul_comm]

theorem wstep_decreases (L : Nat) (s s' : WState) (hw : Wf s.fog) (hg : Grounded L s.fog) (t : Node) (hc : Canon t)
    (hL : ∀ k, get t k ≠ [] → k.length ≤ L) (p : Path) (h : wstep s t p = some s') :
    mu L s'.fog < mu L s.fog ∧ Grounded L s'.fog := by
  obtain ⟨d, f', hd, hf, rfl⟩ := wstep_some h
  obtain ⟨hnd, hlen⟩ := desc_subs_small t p d hd
  obtain ⟨hsub, _⟩ := traverse_subs t hc p d hd
  have hmem := explore_mem hf
  obtain ⟨⟨hp, _⟩, rfl⟩ := (explore_eq_ok_iff s.fog p d.subs f').1 hf
  have hpL : p.length ≤ L := hg p hp
  refine ⟨?_, ?_⟩
  · -- with `W` the weight of a prefix one nibble longer than `p`: `p` weighs `17 * W`, its at most 16 continuations `≤ W` each
    have h3 : ((d.subs.map (p ++ ·)).map fun q => 17 ^ (L + 1 - q.length)).sum ≤ 16 * 17 ^ (L - p.length) := by
      refine Nat.le_trans (sum_le_length_mul _ _ (17 ^ (L - p.length)) fun q hq => ?_)
        (Nat.mul_le_mul_right _ (by simpa using hlen))
      obtain ⟨s0, hs0, rfl⟩ := List.mem_map.1 hq
      have : 0 < s0.length := List.length_pos_iff.2 (hsub s0 hs0).1
      apply Nat.pow_le_pow_right (by omega)
      simp only [List.length_append]
      omega
    have h4 := pow_succ_sub 17 L p.length hpL
    have h5 : 0 < 17 ^ (L - p.length) := Nat.pow_pos (by omega)
    calc mu L _ ≤ mu L (erase s.fog p) + _ := sum_foldl_insert_le _ (d.subs.map (p ++ ·)) (erase s.fog p)
      _ ≤ mu L (erase s.fog p) + 16 * 17 ^ (L - p.length) := Nat.add_le_add_left h3 _
      _ < mu L (erase s.fog p) + 17 * 17 ^ (L - p.length) := by omega
      _ = mu L s.fog := by rw [← h4]; exact (sum_erase _ s.fog p hw.1 hp).symm
  · intro q hq
    rcases (hmem q).1 hq with ⟨hq, _⟩ | ⟨s0, hs0, rfl⟩
    · exact hg q hq
    · obtain ⟨_, k, hk, hkv⟩ := hsub s0 hs0
      exact Nat.le_trans hk.length_le (hL k hkv)

theorem mu_start (L : Nat) : mu L Fog.init = 17 ^ (L + 1) ∧ Grounded L Fog.init := by
  refine ⟨by simp [mu, Fog.init], ?_⟩
  intro q hq
  simp [Fog.init] at hq
  subst hq
  simp

theorem length_le_mu (L : Nat) (f : Fog) : f.length ≤ mu L f := by
  induction f with
  | nil => exact Nat.zero_le _
  | cons x xs ih =>
    have : 0 < 17 ^ (L + 1 - x.length) := Nat.pow_pos (by omega)
    simp only [mu, List.map_cons, List.sum_cons, List.length_cons] at ih ⊢
    omega

theorem wrun_bound (L : Nat) (sched : List (Node × Path)) :
    ∀ (s s' : WState), Wf s.fog → Grounded L s.fog → (∀ e ∈ sched, Canon e.1) →
      (∀ e ∈ sched, ∀ k, get e.1 k ≠ [] → k.length ≤ L) → wrun s sched = some s' →
      sched.length + mu L s'.fog ≤ mu L s.fog := by
  induction sched with
  | nil => intro s s' _ _ _ _ hrun; cases hrun; simp
  | cons e rest ih =>
    obtain ⟨t, p⟩ := e
    intro s s' hw hg hcanon hL hrun
    obtain ⟨s1, h1, hrun⟩ := wrun_cons.1 hrun
    obtain ⟨hlt, hg1⟩ := wstep_decreases L s s1 hw hg t (hcanon (t, p) List.mem_cons_self)
      (hL (t, p) List.mem_cons_self) p h1
    have := ih s1 s' (wstep_wf hw h1) hg1 (fun e he => hcanon e (List.mem_cons_of_mem _ he))
      (fun e he => hL e (List.mem_cons_of_mem _ he)) hrun
    simp only [List.length_cons]
    omega

end PyTrie.Walk
