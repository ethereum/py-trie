import PyTrie.Lemmas.WorldComplete
import PyTrie.Lemmas.HexTrav
import PyTrie.Lemmas.PruneDict
/-! What `set` / `delete` do, for every outcome.

* `opCore_ok_inv`: the stages of a successful `set` / `delete` (events, root write, pruning) and the trie it returns.
* `opSetDel_adds`: whatever the outcome (success, missing node, failing write, failing prune), pruning on or off, plain
  dict or scratch cache, every binding of the exit base is a binding of the entry base or one of the operation's writes. -/
namespace PyTrie.HexW
open PyTrie.Hex hiding get set
open PyTrie.Hex.Node

variable (Hs : Hashing) (blankRootHash : Hash)

theorem allBelow_of_nodeAt {P : Node → Prop} (t : Node) (hc : Canon t)
    (h : ∀ q m, nodeAt t q = some m → Hs.hashed m = true → P m) : AllBelow Hs P t := by
  induction t with
  | blank => trivial
  | leaf p v => trivial
  | ext p c ih =>
    obtain ⟨hpne, _, hcc⟩ := hc
    refine ⟨fun hh => h (p ++ []) c (nodeAt_ext_append p c [] c (by simp [nodeAt]) hpne) hh, ?_⟩
    exact ih hcc (fun q m hq hh => h (p ++ q) m (nodeAt_ext_append p c q m hq hpne) hh)
  | branch ch v ih =>
    intro i
    refine ⟨fun hh => h [i] (ch i) (by simp [nodeAt]) hh, ?_⟩
    exact ih i (hc.1 i) (fun q m hq hh => h (i :: q) m (by simpa [nodeAt] using hq) hh)

theorem root_mem_opWrites (T : TrieSt) (key : Bytes) (val : Option Bytes) (hb : isBlank (opTree Hs T key val).1 = false) :
    (Hs.hashOf (opTree Hs T key val).1, Hs.encOf (opTree Hs T key val).1) ∈ opWrites Hs T key val := by
  unfold opWrites
  rw [hb]
  exact List.mem_append_right _ (List.mem_singleton.2 rfl)

theorem writeRoot_ok_inv (T : TrieSt) (new : Node) (s s' : OpSt) (r : Hash)
    (h : writeRoot Hs blankRootHash T new s = .ok (s', r)) :
    r = (if isBlank new then blankRootHash else Hs.hashOf new) ∧
    (if isBlank new then s'.store = s.store else s.store.write (Hs.hashOf new) (Hs.encOf new) = some s'.store) := by
  unfold writeRoot at h
  cases hb : isBlank new
  · simp only [hb, Bool.false_eq_true, if_false] at h ⊢
    split at h
    · next h1 => cases h; exact ⟨rfl, setDbValue_store h1⟩
    · cases h
  · simp only [hb, if_true] at h ⊢
    cases h
    exact ⟨rfl, rfl⟩

theorem opCore_ok_inv (T : TrieSt) (key : Bytes) (val : Option Bytes) (s : OpSt) (T' : TrieSt)
    (h : (opCore Hs blankRootHash T key val s).2 = .ok T') :
    ∃ s1 s3, runEvs T.prune T.root key s (opTree Hs T key val).2 = (s1, none) ∧
      writeRoot Hs blankRootHash T (opTree Hs T key val).1 (schedOldRoot Hs blankRootHash T s1) =
        .ok (s3, if isBlank (opTree Hs T key val).1 then blankRootHash else Hs.hashOf (opTree Hs T key val).1) ∧
      finishPrune T s3 = ((opCore Hs blankRootHash T key val s).1, none) ∧
      T' = { T with tree := (opTree Hs T key val).1,
                    root := if isBlank (opTree Hs T key val).1 then blankRootHash
                            else Hs.hashOf (opTree Hs T key val).1 } := by
  unfold opCore at h ⊢
  split at h
  · cases h
  · next hr =>
    rw [if_neg hr]
    generalize runEvs T.prune T.root key s (opTree Hs T key val).2 = q1 at h ⊢
    obtain ⟨s1, _ | x⟩ := q1
    · dsimp only at h ⊢
      generalize h3 : writeRoot Hs blankRootHash T (opTree Hs T key val).1 (schedOldRoot Hs blankRootHash T s1) = q3
        at h ⊢
      obtain x | ⟨s3, r⟩ := q3
      · cases h
      · dsimp only at h ⊢
        generalize h4 : finishPrune T s3 = q4 at h ⊢
        obtain ⟨s4, _ | x⟩ := q4
        · cases h
          obtain ⟨rfl, _⟩ := writeRoot_ok_inv Hs blankRootHash T _ _ s3 r h3
          exact ⟨s1, s3, rfl, h3, h4, rfl⟩
        · cases h
    · cases h

theorem opSetDel_ok_shape (T : TrieSt) (key : Bytes) (val : Option Bytes) (s : OpSt) (T' : TrieSt)
    (h : (opSetDel Hs blankRootHash T key val s).2 = .ok T') :
    T' = { T with tree := (opTree Hs T key val).1,
                  root := if isBlank (opTree Hs T key val).1 then blankRootHash
                          else Hs.hashOf (opTree Hs T key val).1 } :=
  (opCore_ok_inv Hs blankRootHash T key val { s with pending := [] } T' h).choose_spec.choose_spec.2.2.2

theorem OnlyAdds.refl (d : Dict Bytes) (ws : List (Hash × Bytes)) : OnlyAdds d d ws := fun _ _ h => Or.inl h

theorem get?_erase_sub (d : Dict Bytes) (k h : Hash) (b : Bytes) (hg : Dict.get? (Dict.erase d k) h = some b) :
    Dict.get? d h = some b := by
  by_cases he : h = k
  · subst he; rw [Dict.get?_erase_self] at hg; cases hg
  · rw [Dict.get?_erase_other d k h he] at hg; exact hg

theorem OnlyAdds.insert {d d' : Dict Bytes} {ws : List (Hash × Bytes)} (g : OnlyAdds d d' ws) (h : Hash) (b : Bytes)
    (hm : (h, b) ∈ ws) : OnlyAdds d (Dict.insert d' h b) ws := by
  intro h0 b0 h0b
  by_cases he : h0 = h
  · subst he
    rw [get?_insert_self] at h0b
    cases h0b
    exact Or.inr hm
  · rw [get?_insert_other _ _ _ _ he] at h0b
    exact g h0 b0 h0b

theorem write_adds (d : Dict Bytes) (ws : List (Hash × Bytes)) (st st' : Store) (h : Hash) (b : Bytes)
    (hm : (h, b) ∈ ws) (g : OnlyAdds d st.base ws) (hw : st.write h b = some st') : OnlyAdds d st'.base ws := by
  unfold Store.write at hw
  split at hw
  · cases hw; exact g
  · split at hw
    · cases hw
    · cases hw; exact g.insert h b hm
    · cases hw; exact g.insert h b hm

theorem del_adds (d : Dict Bytes) (ws : List (Hash × Bytes)) (st st' : Store) (h : Hash)
    (g : OnlyAdds d st.base ws) (hw : st.del h = some st') : OnlyAdds d st'.base ws := by
  unfold Store.del at hw
  split at hw
  · cases hw; exact g
  · split at hw
    · cases hw; exact fun x b hg => g x b (get?_erase_sub _ h x b hg)
    · cases hw

theorem opSetDel_adds (T : TrieSt) (key : Bytes) (val : Option Bytes) (s : OpSt) :
    OnlyAdds s.store.base (opSetDel Hs blankRootHash T key val s).1.store.base (opWrites Hs T key val) :=
  opSetDel_store_inv (P := fun st => OnlyAdds s.store.base st.base (opWrites Hs T key val)) Hs blankRootHash T key val
    (fun st st' h b => write_adds _ _ st st' h b) (fun _ st st' h => del_adds _ _ st st' h) s (OnlyAdds.refl _ _)

theorem opSetDel_cache (T : TrieSt) (key : Bytes) (val : Option Bytes) (s : OpSt) (hc : s.store.cache = none) :
    (opSetDel Hs blankRootHash T key val s).1.store.cache = none := by
  refine opSetDel_store_inv (P := fun st => st.cache = none) Hs blankRootHash T key val
    (fun st st' h b _ h0 hw => (write_plain st h0 h b st' hw).1) (fun _ st st' h h0 hd => ?_) s hc
  unfold Store.del at hd
  rw [h0] at hd
  simp only at hd
  split at hd <;> cases hd
  rfl

end PyTrie.HexW
