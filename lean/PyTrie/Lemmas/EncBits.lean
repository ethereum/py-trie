import PyTrie.Model.BinEnc
/-! Bit strings ↔ bytes, key-path packing and the equations of `parseNode` (for C16). -/
namespace PyTrie.EncBits
open PyTrie PyTrie.Bin

/-- a byte has 256 values: both directions of byte ↔ 8 bits are checked on all of them -/
theorem chunkVal_byteBits (b : UInt8) : chunkVal (byteBits b) = b.toNat := by
  have h : ∀ n, n < 256 → chunkVal (byteBits (UInt8.ofNat n)) = n := by decide +kernel
  have := h b.toNat b.toNat_lt
  rwa [UInt8.ofNat_toNat] at this

theorem byteBits_chunkVal (c : Bits) (hc : c.length = 8) : byteBits (UInt8.ofNat (chunkVal c)) = c :=
  have h : ∀ b7 b6 b5 b4 b3 b2 b1 b0 : Bool, byteBits (UInt8.ofNat (chunkVal [b7, b6, b5, b4, b3, b2, b1, b0])) =
      [b7, b6, b5, b4, b3, b2, b1, b0] := by decide +kernel
  match c, hc with
  | [b7, b6, b5, b4, b3, b2, b1, b0], _ => h b7 b6 b5 b4 b3 b2 b1 b0

theorem ofBits_cons8 (c : Bits) (hc : c.length = 8) (rest : Bits) :
    ofBits (c ++ rest) = UInt8.ofNat (chunkVal c) :: ofBits rest := by
  match c, hc with
  | a :: c', hc =>
    rw [List.cons_append, ofBits]
    rw [← List.cons_append, List.take_left' hc, List.drop_left' hc]

theorem byteBits_length (b : UInt8) : (byteBits b).length = 8 := rfl

theorem ofBits_nil : ofBits [] = [] := by rw [ofBits]

theorem ofBits_toBits (b : Bytes) : ofBits (toBits b) = b := by
  induction b with
  | nil => simp [toBits, ofBits_nil]
  | cons a r ih =>
    have : toBits (a :: r) = byteBits a ++ toBits r := by simp [toBits]
    rw [this, ofBits_cons8 _ (byteBits_length a), ih, chunkVal_byteBits]
    simp

theorem toBits_ofBits_aux : ∀ (n : Nat) (bits : Bits), bits.length = 8 * n → toBits (ofBits bits) = bits
  | 0, bits, h => by
    have : bits = [] := List.eq_nil_of_length_eq_zero (by omega)
    subst this; simp [ofBits_nil, toBits]
  | n + 1, bits, h => by
    have h8 : (bits.take 8).length = 8 := by simp; omega
    have hd : (bits.drop 8).length = 8 * n := by simp; omega
    have ih := toBits_ofBits_aux n _ hd
    conv => lhs; rw [← List.take_append_drop 8 bits]
    rw [ofBits_cons8 _ h8]
    have : ∀ x xs, toBits (x :: xs) = byteBits x ++ toBits xs := by intro x xs; simp [toBits]
    rw [this, ih, byteBits_chunkVal _ h8, List.take_append_drop]

theorem toBits_ofBits (bits : Bits) (h : bits.length % 8 = 0) : toBits (ofBits bits) = bits :=
  toBits_ofBits_aux (bits.length / 8) bits (by omega)

theorem dk_false (a b : Bool) (q : Bits) (bs : Bytes) (h : toBits bs = false :: false :: a :: b :: q) :
    decodeKeypath bs = .ok (q.drop ((4 - ((if a then 2 else 0) + (if b then 1 else 0))) % 4)) := by
  unfold decodeKeypath
  rw [h]
  simp only [List.drop_succ_cons, List.drop_zero, ne_eq]
  rw [Nat.add_comm]; rfl

theorem dk_true (x1 x2 x3 a b : Bool) (q : Bits) (bs : Bytes)
    (h : toBits bs = true :: x1 :: x2 :: x3 :: false :: false :: a :: b :: q) :
    decodeKeypath bs = .ok (q.drop ((4 - ((if a then 2 else 0) + (if b then 1 else 0))) % 4)) := by
  unfold decodeKeypath
  rw [h]
  simp only [List.drop_succ_cons, List.drop_zero, List.take_succ_cons, List.take_zero, List.headD_cons,
    ne_eq, not_true_eq_false, ↓reduceIte]
  rw [Nat.add_comm]; rfl

theorem ek_case (q : Bits) (a b : Bool) (hq : q.length % 4 = 0) :
    decodeKeypath (if q.length % 8 = 4 then ofBits ([false, false] ++ [a, b] ++ q)
      else ofBits ([true, false, false, false, false, false] ++ [a, b] ++ q)) =
    .ok (q.drop ((4 - ((if a then 2 else 0) + (if b then 1 else 0))) % 4)) := by
  split
  · exact dk_false a b q _
      (toBits_ofBits _ (by simp only [List.length_append, List.length_cons, List.length_nil]; omega))
  · exact dk_true false false false a b q _
      (toBits_ofBits _ (by simp only [List.length_append, List.length_cons, List.length_nil]; omega))

theorem decodeKeypath_encodeKeypath (p : Bits) : decodeKeypath (encodeKeypath p) = .ok p := by
  -- the two flag bits spell the number of padding bits that were left out
  have hm : ∀ m, m < 4 →
      (4 - ((if decide (m / 2 % 2 = 1) then 2 else 0) + (if decide (m % 2 = 1) then 1 else 0))) % 4 = (4 - m) % 4 := by
    decide
  unfold encodeKeypath twoBits
  refine (ek_case _ _ _ (by simp only [List.length_append, List.length_replicate]; omega)).trans ?_
  rw [hm _ (Nat.mod_lt _ (by decide)), List.drop_left' (List.length_replicate ..)]

theorem ofBits_length_pos (a : Bool) (l : Bits) : 0 < (ofBits (a :: l)).length := by
  rw [ofBits]; simp

theorem encodeKeypath_length_pos (p : Bits) : 0 < (encodeKeypath p).length := by
  unfold encodeKeypath
  simp only
  split <;> exact ofBits_length_pos _ _

theorem parseNode_one (body : Bytes) : parseNode (1 :: body) =
    if (1 :: body).length ≠ 65 then .error .invalidNode else .ok (.branch (body.take 32) (body.drop 32)) := by
  rw [parseNode, if_pos rfl]

theorem parseNode_two (body : Bytes) : parseNode (2 :: body) =
    if body = [] then .error .invalidNode else .ok (.leaf body) := by
  rw [parseNode, if_neg (by decide), if_neg (by decide), if_pos rfl]

theorem parseNode_zero_short (body : Bytes) (h : (0 :: body).length ≤ 33) :
    parseNode (0 :: body) = .error .invalidNode := by
  rw [parseNode, if_neg (by decide), if_pos rfl, if_pos h]

theorem parseNode_zero (body : Bytes) (h : ¬ (0 :: body).length ≤ 33) (p : Bits)
    (hd : decodeKeypath (body.take (body.length - 32)) = .ok p) :
    parseNode (0 :: body) = .ok (.kv p (body.drop (body.length - 32))) := by
  rw [parseNode, if_neg (by decide), if_pos rfl, if_neg h]
  simp only [hd]

theorem parseNode_other (t : UInt8) (body : Bytes) (h0 : t ≠ 0) (h1 : t ≠ 1) (h2 : t ≠ 2) :
    parseNode (t :: body) = .error .invalidNode := by
  rw [parseNode, if_neg h1, if_neg h0, if_neg h2]

end PyTrie.EncBits
