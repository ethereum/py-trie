import PyTrie.Model.BinRaw
import PyTrie.Lemmas.BranchProofs
/-! **Refinement** for the binary trie: the raw-level `_set` (`Model/BinRaw.lean`, over node hashes and a
    database of encoded nodes) computes, on a database that stores a canonical tree, the hash of the
    tree-level result of `bset` and saves exactly the nodes `bsetS` lists, in order; it raises
    `NodeOverrideError` exactly when `bset` does. Collisions are excluded by a run-level predicate on the
    concrete nodes involved (no injectivity of the hash is assumed).

    The proof (`rawSet_main`) is one induction on the fuel: `rawSet` is unfolded once at the stored root and
    `fun_cases bsetS` delivers the cases of the tree level with their guards; each case is a short chain of the
    step lemmas below (`bind_ok`, `saveKv_mkKv`, `saveVal`, `saveOld`, `saveSub`). -/
namespace PyTrie.BinRaw
open PyTrie.Bin PyTrie.Bin.BNode

variable (H : Bytes → Bytes)

abbrev TRes := Except Bin.Err (Option BNode) × List BNode
abbrev RRes := Except BinRaw.Err (Hash × St)

def saveAll (db : Db) (saves : List BNode) : Db :=
  saves.foldl (fun d n => (hashNode H n, encNode H n) :: d) db

def after (st : St) (l : List BNode) : St := { db := saveAll H st.db l }

theorem after_nil (st : St) : after H st [] = st := rfl

theorem after_append (st : St) (a b : List BNode) : after H st (a ++ b) = after H (after H st a) b := by
  simp [after, saveAll, List.foldl_append]

theorem after_cons (st : St) (a : BNode) (b : List BNode) : after H st (a :: b) = after H (after H st [a]) b :=
  after_append H st [a] b

/-- what the raw level returns when the tree level returns `r` -/
def expected (st : St) (r : TRes) : RRes :=
  match r.1 with
  | .ok t' => .ok (rootOf H t', after H st r.2)
  | .error _ => .error .override

theorem expected_error (st : St) (e : Bin.Err) (s : List BNode) : expected H st (.error e, s) = .error .override := rfl
theorem expected_ok (st : St) (o : Option BNode) (s : List BNode) :
    expected H st (.ok o, s) = .ok (rootOf H o, after H st s) := rfl

theorem saveLeaf_enc (st : St) (v : Bytes) (hv : v ≠ []) :
    saveLeaf H st v = .ok (hashNode H (leaf v), after H st [leaf v]) := by
  simp [saveLeaf, encodeLeaf, hv, save, after, saveAll, hashNode, encNode]

theorem saveKv_enc (hlen : ∀ b, (H b).length = 32) (st : St) (p : Bits) (hp : p ≠ []) (c : BNode) :
    saveKv H st p (hashNode H c) = .ok (hashNode H (kv p c), after H st [kv p c]) := by
  simp [saveKv, encodeKv, hp, hashNode_length H hlen c, save, after, saveAll, hashNode, encNode]

theorem saveBranch_enc (hlen : ∀ b, (H b).length = 32) (st : St) (l r : BNode) :
    saveBranch H st (hashNode H l) (hashNode H r) = .ok (hashNode H (branch l r), after H st [branch l r]) := by
  simp [saveBranch, encodeBranch, hashNode_length H hlen l, hashNode_length H hlen r, save, after, saveAll,
    hashNode, encNode]

theorem load_stored (hlen : ∀ b, (H b).length = 32) (st : St) (n : BNode) (hc : BCanon n)
    (hl : lookup st.db (hashNode H n) = some (encNode H n)) :
    load st (hashNode H n) = .ok (parsedOf H n) := by
  simp only [load, hl, parseNode_encNode H hlen n hc]

theorem lookup_cons (db : Db) (h h' : Hash) (b : Bytes) :
    lookup ((h', b) :: db) h = if h' = h then some b else lookup db h := by
  simp only [lookup, List.find?_cons]
  by_cases e : h' = h
  · simp [e]
  · have he : (h' == h) = false := beq_false_of_ne e
    simp [e, he]

/-- looking up, after a list of saves, a node that was saved or was stored before: the first match in the
    write log carries the node's encoding as soon as equal hashes mean equal encodings among the saves -/
theorem lookup_saveAll (db : Db) (saves : List BNode) (n : BNode)
    (hcol : ∀ s ∈ saves, hashNode H s = hashNode H n → encNode H s = encNode H n)
    (hin : n ∈ saves ∨ lookup db (hashNode H n) = some (encNode H n)) :
    lookup (saveAll H db saves) (hashNode H n) = some (encNode H n) := by
  induction saves generalizing db with
  | nil =>
    rcases hin with h | h
    · cases h
    · exact h
  | cons x rest ih =>
    show lookup (saveAll H ((hashNode H x, encNode H x) :: db) rest) (hashNode H n) = _
    apply ih
    · intro s hs; exact hcol s (List.mem_cons_of_mem _ hs)
    · by_cases hx : hashNode H x = hashNode H n
      · right
        rw [lookup_cons, if_pos hx, hcol x List.mem_cons_self hx]
      · rcases hin with h | h
        · rcases List.mem_cons.1 h with h | h
          · subst h; exact absurd rfl hx
          · exact .inl h
        · right
          rw [lookup_cons, if_neg hx]; exact h

/-! ### steps of `_set` on the hashes of tree nodes

`rawSet.match_1` is the body's `match` on a result, `rawSet.match_3` the one on the node loaded after the recursive call. -/

theorem bind_ok {a : RRes} {h : Hash} {st : St} (ha : a = .ok (h, st)) (f : Hash → St → RRes) :
    rawSet.match_1 (fun _ => RRes) a (fun e => .error e) f = f h st := by
  subst ha; rfl

/-- `_set_kv_node` / `_set_branch_node` after the recursive call, on a child `x` that loads as itself -/
theorem saveKv_mkKv (hlen : ∀ b, (H b).length = 32) (st : St) (p : Bits) (hp : p ≠ []) (x : BNode)
    (hx : load st (hashNode H x) = .ok (parsedOf H x)) (f : Bits → Bits) (hf : ∀ p2, f p2 = p ++ p2) :
    rawSet.match_3 (fun _ => RRes) (load st (hashNode H x)) (fun e => .error e)
        (fun p2 c2 => saveKv H st (f p2) c2) (fun _ => saveKv H st p (hashNode H x)) =
      .ok (hashNode H (mkKv p x), after H st [mkKv p x]) := by
  rw [hx]
  cases x with
  | kv p2 c2 => exact (congrArg (saveKv H st · _) (hf p2)).trans (saveKv_enc H hlen st (p ++ p2) (by simp [hp]) c2)
  | _ => exact saveKv_enc H hlen st p hp _

/-! ### the split of a kv node (`_set_kv_node`, key and path diverge after `n` bits)

Each of its three steps saves the tree node `bsetS` builds at that point. -/

/-- `valnode`: the new leaf, under a kv node for what is left of the key -/
theorem saveVal (hlen : ∀ b, (H b).length = 32) (st : St) (k : Bits) (n : Nat) (v : Bytes) (hv : v ≠ [])
    (hk : n < k.length) :
    (if k.length = n + 1 then saveLeaf H st v
      else if k.length ≤ n then .error .override
      else rawSet.match_1 (fun _ => RRes) (saveLeaf H st v) (fun e => .error e)
        fun lh st1 => saveKv H st1 (k.drop (n + 1)) lh) =
      .ok (hashNode H (if k.length = n + 1 then leaf v else kv (k.drop (n + 1)) (leaf v)),
        after H st (if k.length = n + 1 then [leaf v] else [leaf v, kv (k.drop (n + 1)) (leaf v)])) := by
  split
  · exact saveLeaf_enc H st v hv
  · rw [if_neg (by omega), bind_ok (saveLeaf_enc H st v hv)]
    exact saveKv_enc H hlen _ _ (by simp; omega) (leaf v)

/-- `oldnode`: the old child, under a kv node for what is left of the old path -/
theorem saveOld (hlen : ∀ b, (H b).length = 32) (st : St) (p : Bits) (n : Nat) (c : BNode) (hn : n < p.length) :
    (if p.length = n + 1 then .ok (hashNode H c, st) else saveKv H st (p.drop (n + 1)) (hashNode H c)) =
      .ok (hashNode H (if p.length = n + 1 then c else kv (p.drop (n + 1)) c),
        after H st (if p.length = n + 1 then [] else [kv (p.drop (n + 1)) c])) := by
  split
  · rfl
  · exact saveKv_enc H hlen _ _ (by simp; omega) c

/-- the branch over both, the side chosen by the key's next bit -/
theorem saveSub (hlen : ∀ b, (H b).length = 32) (st : St) (c : Prop) [Decidable c] (o vn : BNode) :
    (if c then saveBranch H st (hashNode H o) (hashNode H vn) else saveBranch H st (hashNode H vn) (hashNode H o)) =
      .ok (hashNode H (if c then branch o vn else branch vn o), after H st [if c then branch o vn else branch vn o]) := by
  split <;> exact saveBranch_enc H hlen st _ _

theorem bcanon_sub (t x : BNode) (hc : BCanon t) (h : Sub x t) : BCanon x := by
  induction h with
  | refl => exact hc
  | kv p _ ih => exact ih hc.2.2
  | left r _ ih => exact ih hc.1
  | right l _ ih => exact ih hc.2

section induction
/-- hypotheses of the refinement for one call, in unfolded form -/
structure Hyp (st : St) (t : BNode) (saves : List BNode) : Prop where
  stored : ∀ n, Sub n t → hashNode H n ≠ H [] ∧ lookup st.db (hashNode H n) = some (encNode H n)
  nb : ∀ s ∈ saves, hashNode H s ≠ H []
  old : ∀ s ∈ saves, ∀ n, Sub n t → hashNode H s = hashNode H n → encNode H s = encNode H n
  new : ∀ s ∈ saves, ∀ s' ∈ saves, hashNode H s = hashNode H s' → encNode H s = encNode H s'

variable {H} {st : St} {t : BNode} {saves : List BNode}

theorem Hyp.mono {c : BNode} {s : List BNode} (h : Hyp H st t saves) (hsub : ∀ n, Sub n c → Sub n t)
    (hs : ∀ x ∈ s, x ∈ saves) : Hyp H st c s :=
  ⟨fun n hn => h.stored n (hsub n hn), fun a ha => h.nb a (hs a ha),
    fun a ha n hn => h.old a (hs a ha) n (hsub n hn), fun a ha b hb => h.new a (hs a ha) b (hs b hb)⟩

theorem Hyp.load (hyp : Hyp H st t saves) (hlen : ∀ b, (H b).length = 32) (s : List BNode) (hs : ∀ a ∈ s, a ∈ saves)
    (x : BNode) (hcx : BCanon x) (hx : x ∈ s ∨ Sub x t) :
    hashNode H x ≠ H [] ∧ load (after H st s) (hashNode H x) = .ok (parsedOf H x) := by
  refine ⟨hx.elim (fun h => hyp.nb x (hs x h)) fun h => (hyp.stored x h).1, load_stored H hlen _ x hcx ?_⟩
  rcases hx with hx | hx
  · exact lookup_saveAll H st.db s x (fun a ha => hyp.new a (hs a ha) x (hs x hx)) (.inl hx)
  · exact lookup_saveAll H st.db s x (fun a ha => hyp.old a (hs a ha) x hx) (.inr (hyp.stored x hx).2)

theorem Hyp.child {s : List BNode} {k : Bits} {v : Bytes} {sub : Bool} {x : BNode} (hyp : Hyp H st t s)
    (hlen : ∀ b, (H b).length = 32) (hc : BCanon t) (hr : bsetS t k v sub = (.ok (some x), s)) :
    hashNode H x ≠ H [] ∧ BinRaw.load (after H st s) (hashNode H x) = .ok (parsedOf H x) := by
  have hx : (bsetS t k v sub).1 = .ok (some x) := by rw [hr]
  refine hyp.load hlen s (fun _ h => h) x (bcanon_bset t k v sub hc x (bsetS_fst t k v sub ▸ hx)) ?_
  rw [← mem_trieNodes_iff, ← show (bsetS t k v sub).2 = s by rw [hr]]
  exact bsetS_complete t k v sub x hx x (self_mem_trieNodes x)

theorem fuel_drop {p k : Bits} {f : Nat} (hp : p ≠ []) (hpre : p <+: k) (hf : k.length + 1 < f + 1) :
    (k.drop p.length).length + 1 < f := by
  have := hpre.length_le
  have := List.length_pos_iff.2 hp
  simp only [List.length_drop]
  omega

variable (H)

theorem rawSet_main (hlen : ∀ b, (H b).length = 32) (t : BNode) (hc : BCanon t) (k : Bits) (v : Bytes) (sub : Bool)
    (st : St) (hyp : Hyp H st t (bsetS t k v sub).2) (fuel : Nat) (hf : k.length + 1 < fuel) :
    rawSet H (H []) fuel st (hashNode H t) k v sub = expected H st (bsetS t k v sub) := by
  induction fuel generalizing t k with
  | zero => omega
  | succ f ih =>
    replace ih : ∀ (c : BNode) (k' : Bits) (r : TRes), BCanon c → bsetS c k' v sub = r → Hyp H st c r.2 →
        k'.length + 1 < f → rawSet H (H []) f st (hashNode H c) k' v sub = expected H st r := by
      intro c k' r hc' hr
      subst hr
      exact ih c hc' k'
    obtain ⟨hne, hl⟩ := hyp.load hlen [] nofun t hc (.inr (.refl t))
    rw [rawSet, if_neg hne, show load st _ = _ from hl]
    revert hyp
    -- the cases in which nothing is saved and no recursive call is made close here
    fun_cases bsetS t k v sub <;>
      simp only [parsedOf, Bool.and_eq_true, Bool.or_eq_true, decide_eq_true_eq, and_assoc, *, -ih, if_true, if_false,
        ne_eq, not_false_eq_true, Bool.false_eq_true, Bool.true_eq_false, and_self, or_true,
        expected_ok, expected_error, rootOf, after_nil, implies_true] <;>
      intro hyp
    · -- a leaf is overwritten
      exact saveLeaf_enc H st v ‹_›
    · -- kv node, the call below it raises
      rename_i p c e s _ hpre _ hrec
      rw [ih c _ _ hc.2.2 hrec (hyp.mono (fun _ => .kv p) fun _ h => h) (fuel_drop hc.1 hpre hf)]
      rfl
    · -- … returns the empty trie
      rename_i p c s _ hpre _ hrec
      rw [bind_ok (h := H []) (ih c _ _ hc.2.2 hrec (hyp.mono (fun _ => .kv p) fun _ h => h) (fuel_drop hc.1 hpre hf)),
        if_pos rfl]
    · -- … returns `x`
      rename_i p c x s _ hpre _ hrec
      have hyp' := hyp.mono (fun _ => .kv p) fun _ => List.mem_append_left _
      obtain ⟨hx, hlx⟩ := hyp'.child hlen hc.2.2 hrec
      rw [bind_ok (h := hashNode H x) (ih c _ _ hc.2.2 hrec hyp' (fuel_drop hc.1 hpre hf)), if_neg hx,
        saveKv_mkKv H hlen _ p hc.1 x hlx _ fun _ => rfl, after_append]
    · -- kv node, key and path diverge; the key ends first
      rename_i p c _ _ n hk _ _
      rw [if_neg (by omega), if_pos (hk : k.length ≤ cpl p k)]
    · -- … the path has no bit in common with the key
      rename_i p c _ hpre n hk _ _ h0 _ _ _ _ hvs
      rw [bind_ok (saveVal H hlen st k _ v (fun e => hvs (.inl e)) (Nat.lt_of_not_le hk)),
        bind_ok (saveOld H hlen _ p _ c (cpl_lt_left hpre)), bind_ok (saveSub H hlen _ _ _ _), if_neg fun h => h h0, after_append,
        after_append]
    · -- … path and key have `cpl p k ≠ 0` bits in common, kept in a kv node above the branch
      rename_i p c _ hpre n hk _ _ h0 _ _ _ _ hvs
      rw [bind_ok (saveVal H hlen st k _ v (fun e => hvs (.inl e)) (Nat.lt_of_not_le hk)),
        bind_ok (saveOld H hlen _ p _ c (cpl_lt_left hpre)), bind_ok (saveSub H hlen _ _ _ _), if_pos h0,
        saveKv_enc H hlen _ _ (fun e => (List.take_eq_nil_iff.1 e).elim h0 hc.1), after_append, after_append]
      rfl
    · -- branch node, the call into the left child raises
      rename_i l r k' e s hrec
      rw [ih l k' _ hc.1 hrec (hyp.mono (fun _ => .left r) fun _ h => h) (Nat.lt_of_succ_lt_succ hf)]
      rfl
    · -- … returns the empty trie: the right child moves under a kv node
      rename_i l r k' s hrec
      obtain ⟨hr, hlr⟩ := hyp.load hlen s (fun _ => List.mem_append_left _) r hc.2 (.inr (.right l (.refl r)))
      rw [bind_ok (h := H []) (ih l k' _ hc.1 hrec (hyp.mono (fun _ => .left r) fun _ => List.mem_append_left _)
          (Nat.lt_of_succ_lt_succ hf)),
        if_pos (.inl rfl), if_neg fun h => h rfl, if_pos hr, saveKv_mkKv H hlen _ [true] nofun r hlr (true :: ·) fun _ => rfl,
        after_append]
    · -- … returns `x`
      rename_i l r k' x s hrec
      have hyp' := hyp.mono (fun _ => .left r) fun _ => List.mem_append_left _
      have hr := (hyp.stored r (.right l (.refl r))).1
      obtain ⟨hx, -⟩ := hyp'.child hlen hc.1 hrec
      rw [bind_ok (h := hashNode H x) (ih l k' _ hc.1 hrec hyp' (Nat.lt_of_succ_lt_succ hf)),
        if_neg fun h => h.elim hx hr, saveBranch_enc H hlen, after_append]
    · -- branch node, the call into the right child raises
      rename_i l r _ k' _ e s hrec
      rw [ih r k' _ hc.2 hrec (hyp.mono (fun _ => .right l) fun _ h => h) (Nat.lt_of_succ_lt_succ hf)]
      rfl
    · -- … returns the empty trie: the left child moves under a kv node
      rename_i l r _ k' _ s hrec
      obtain ⟨hl', hll⟩ := hyp.load hlen s (fun _ => List.mem_append_left _) l hc.1 (.inr (.left r (.refl l)))
      rw [bind_ok (h := H []) (ih r k' _ hc.2 hrec (hyp.mono (fun _ => .right l) fun _ => List.mem_append_left _)
          (Nat.lt_of_succ_lt_succ hf)),
        if_pos (.inr rfl), if_pos hl', if_neg fun h => h rfl, saveKv_mkKv H hlen _ [false] nofun l hll (false :: ·) fun _ => rfl,
        after_append]
    · -- … returns `x`
      rename_i l r _ k' _ x s hrec
      have hyp' := hyp.mono (fun _ => .right l) fun _ => List.mem_append_left _
      have hl' := (hyp.stored l (.left r (.refl l))).1
      obtain ⟨hx, -⟩ := hyp'.child hlen hc.2 hrec
      rw [bind_ok (h := hashNode H x) (ih r k' _ hc.2 hrec hyp' (Nat.lt_of_succ_lt_succ hf)),
        if_neg fun h => h.elim hl' hx, saveBranch_enc H hlen, after_append]

end induction

/-! ### the refinement in terms of the run-level predicates -/

/-- every node of `t` is stored in `db` under its hash with its encoding, and no node hashes to the blank hash -/
def AllStored (db : Db) (t : BNode) : Prop :=
  ∀ n, Sub n t → hashNode H n ≠ H [] ∧ lookup db (hashNode H n) = some (encNode H n)

/-- the database after saving the listed tree nodes in order (newest first) -/
def applySaves (db : Db) (saves : List BNode) : Db :=
  saves.foldl (fun d n => (hashNode H n, encNode H n) :: d) db

/-- run-level no-collision predicate for one operation: among the old nodes of `t` and the nodes saved by
    the operation, equal hashes mean equal encodings, and no saved node hashes to the blank hash -/
def NoCollisionOp (t : BNode) (saves : List BNode) : Prop :=
  (∀ s ∈ saves, hashNode H s ≠ H []) ∧
  (∀ s ∈ saves, ∀ n, Sub n t → hashNode H s = hashNode H n → encNode H s = encNode H n) ∧
  (∀ s ∈ saves, ∀ s' ∈ saves, hashNode H s = hashNode H s' → encNode H s = encNode H s')

/-- **`_set` on a non-empty trie refines `bsetS`** (store, delete and delete_subtrie modes) -/
theorem rawSet_refines (hlen : ∀ b, (H b).length = 32) (t : BNode) (hc : BCanon t) (k : Bits) (v : Bytes) (sub : Bool)
    (st : St) (hst : AllStored H st.db t) (hnc : NoCollisionOp H t (bsetS t k v sub).2)
    (fuel : Nat) (hf : k.length + 1 < fuel) :
    rawSet H (H []) fuel st (hashNode H t) k v sub =
      match (bsetS t k v sub).1 with
      | .ok t' => .ok (rootOf H t', { db := applySaves H st.db (bsetS t k v sub).2 })
      | .error _ => .error .override := by
  have hyp : Hyp H st t (bsetS t k v sub).2 := ⟨hst, hnc.1, hnc.2.1, hnc.2.2⟩
  rw [rawSet_main H hlen t hc k v sub st hyp fuel hf]
  rfl

/-- **`_set` on the empty trie** -/
theorem rawSet_blank (hlen : ∀ b, (H b).length = 32) (k : Bits) (hk : k ≠ []) (v : Bytes) (sub : Bool) (st : St) (fuel : Nat) (hf : 0 < fuel) :
    rawSet H (H []) fuel st (H []) k v sub =
      .ok (rootOf H (match bsetTop none k v sub with | .ok t' => t' | .error _ => none),
           { db := applySaves H st.db (bsetTopS none k v sub).2 }) := by
  cases fuel with
  | zero => omega
  | succ f =>
    rw [rawSet, if_pos rfl]
    by_cases hv : v ≠ []
    · rw [if_pos hv, bind_ok (saveLeaf_enc H st v hv), saveKv_enc H hlen _ k hk (leaf v)]
      simp only [bsetTop, bsetTopS, if_pos hv]
      rfl
    · rw [if_neg hv]
      simp only [bsetTop, bsetTopS, if_neg hv]
      rfl

end PyTrie.BinRaw
