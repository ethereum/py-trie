import PyTrie.Lemmas.BinProofs
import PyTrie.Lemmas.EncProofs
import PyTrie.Lemmas.BranchTree
/-! Binary-trie branches and witnesses (C13): tree-level facts about `get_branch`,
    `check_if_branch_exist`, `get_trie_nodes`, `get_witness_for_key_prefix`, and the Layer-D reader
    `bgetD` / `if_branch_valid` over an arbitrary list of offered byte strings. No injectivity of the
    hash: collisions are excluded by run-level predicates about the concrete node list. -/
namespace PyTrie.Bin
open BNode

/-- `x` is a node of the trie `t` (reflexive-transitive child relation) -/
inductive Sub : BNode → BNode → Prop where
  | refl (t : BNode) : Sub t t
  | kv {x : BNode} (p : Bits) {c : BNode} : Sub x c → Sub x (kv p c)
  | left {x l : BNode} (r : BNode) : Sub x l → Sub x (branch l r)
  | right {x r : BNode} (l : BNode) : Sub x r → Sub x (branch l r)

theorem mem_trieNodes_iff (t x : BNode) : x ∈ trieNodes t ↔ Sub x t := by
  constructor
  · intro h
    induction t with
    | leaf v => cases List.mem_singleton.1 h; exact .refl _
    | kv p c ih =>
      rcases List.mem_cons.1 h with rfl | h
      · exact .refl _
      · exact .kv p (ih h)
    | branch l r ihl ihr =>
      rcases List.mem_cons.1 h with rfl | h
      · exact .refl _
      · rcases List.mem_append.1 h with h | h
        · exact .left r (ihl h)
        · exact .right l (ihr h)
  · intro h
    induction h with
    | refl => exact self_mem_trieNodes _
    | kv p _ ih => exact List.mem_cons_of_mem _ ih
    | left r _ ih => exact List.mem_cons_of_mem _ (List.mem_append_left _ ih)
    | right l _ ih => exact List.mem_cons_of_mem _ (List.mem_append_right _ ih)

theorem sub_of_mem_pathNodes (t : BNode) (k : Bits) (n : BNode) (h : n ∈ pathNodes t k) : Sub n t :=
  (mem_trieNodes_iff t n).1 (pathNodes_sub_trieNodes t k n h)

theorem bget_kv_append (p : Bits) (c : BNode) (k : Bits) (hp : p ≠ []) : bget (kv p c) (p ++ k) = bget c k := by
  rw [bget_kv, if_neg (by simp [hp]), if_pos (List.prefix_append _ _), List.drop_left]

/-- some stored key starts with `q` -/
def KeyUnder (t : BNode) (q : Bits) : Prop := ∃ k v, bget t k = some v ∧ q <+: k

theorem keyUnder_nil (t : BNode) (hc : BCanon t) : KeyUnder t [] :=
  let ⟨k, v, h⟩ := exists_key t hc
  ⟨k, v, h, List.nil_prefix⟩

theorem keyUnder_kv_append (p : Bits) (c : BNode) (q : Bits) (hp : p ≠ []) :
    KeyUnder (kv p c) (p ++ q) ↔ KeyUnder c q := by
  constructor
  · rintro ⟨k, v, h1, h2⟩
    obtain ⟨_, r, rfl, g⟩ := (bget_kv_some ..).1 h1
    exact ⟨r, v, g, (List.prefix_append_right_inj p).1 h2⟩
  · rintro ⟨k, v, h1, h2⟩
    exact ⟨p ++ k, v, (bget_kv_append p c k hp).trans h1, (List.prefix_append_right_inj p).2 h2⟩

theorem keyUnder_branch_cons (l r : BNode) (b : Bool) (q : Bits) :
    KeyUnder (branch l r) (b :: q) ↔ KeyUnder (if b = false then l else r) q := by
  constructor
  · rintro ⟨k, v, h1, h2⟩
    cases k with
    | nil => simp at h2
    | cons b' k =>
      obtain ⟨rfl, h3⟩ := List.cons_prefix_cons.1 h2
      exact ⟨k, v, (bget_branch_cons' ..).symm.trans h1, h3⟩
  · rintro ⟨k, v, h1, h2⟩
    exact ⟨b :: k, v, (bget_branch_cons' ..).trans h1, List.cons_prefix_cons.2 ⟨rfl, h2⟩⟩

theorem branchExists_iff (t : BNode) (hc : BCanon t) (p : Bits) : branchExists t p = true ↔ KeyUnder t p := by
  fun_induction branchExists t p with
  | case1 v k =>
    rw [decide_eq_true_eq]
    constructor
    · rintro rfl; exact ⟨[], v, rfl, List.prefix_refl _⟩
    · rintro ⟨k', v', h1, h2⟩
      rw [bget_leaf] at h1
      split at h1
      · next hk => subst hk; exact List.prefix_nil.1 h2
      · cases h1
  | case2 q c => exact iff_of_true rfl (keyUnder_nil _ hc)
  | case3 q c k hk hlt =>
    rw [decide_eq_true_eq]
    constructor
    · intro h
      obtain ⟨k0, v, h0⟩ := exists_key c hc.2.2
      exact ⟨q ++ k0, v, (bget_kv_append q c k0 hc.1).trans h0, h.trans (List.prefix_append _ _)⟩
    · rintro ⟨k', v, h1, h2⟩
      obtain ⟨_, r, rfl, _⟩ := (bget_kv_some ..).1 h1
      exact List.prefix_of_prefix_length_le h2 (List.prefix_append _ _) (by omega)
  | case4 q c k hk hlt hqp ih =>
    obtain ⟨p', rfl⟩ := hqp
    rw [List.drop_left] at ih ⊢
    rw [ih hc.2.2, keyUnder_kv_append q c p' hc.1]
  | case5 q c k hk hlt hqp =>
    refine iff_of_false (by simp) ?_
    rintro ⟨k', v, h1, h2⟩
    obtain ⟨_, r, rfl, _⟩ := (bget_kv_some ..).1 h1
    exact hqp (List.prefix_of_prefix_length_le (List.prefix_append _ _) h2 (by omega))
  | case6 l r => exact iff_of_true rfl (keyUnder_nil _ hc)
  | case7 l r k ih => rw [ih hc.1]; exact (keyUnder_branch_cons l r false k).symm
  | case8 l r b k hb ih => rw [ih hc.2, keyUnder_branch_cons, if_neg hb]

/-- stored keys diverge right after `q`: one continues with bit 0, another with bit 1
    (in a canonical trie: there is a branch node at position `q`) -/
def Splits (t : BNode) (q : Bits) : Prop :=
  ∃ k1 v1 k2 v2, bget t k1 = some v1 ∧ bget t k2 = some v2 ∧ q ++ [false] <+: k1 ∧ q ++ [true] <+: k2

/-- `k` ends at a node of the trie, not strictly inside the path of a kv node: it is empty (the root),
    or stored keys diverge right after it (a branch node), or right before its last bit (a child of a branch node) -/
def AtNode (t : BNode) (k : Bits) : Prop := k = [] ∨ Splits t k ∨ Splits t k.dropLast

theorem related_append (p a b : Bits) : Related (p ++ a) (p ++ b) ↔ Related a b := by
  simp [Related, List.prefix_append_right_inj]

theorem related_cons (x : Bool) (a b : Bits) : Related (x :: a) (x :: b) ↔ Related a b := by
  simp [Related, List.cons_prefix_cons]

theorem splits_iff (t : BNode) (q : Bits) : Splits t q ↔ KeyUnder t (q ++ [false]) ∧ KeyUnder t (q ++ [true]) := by
  constructor
  · rintro ⟨k1, v1, k2, v2, h1, h2, h3, h4⟩
    exact ⟨⟨k1, v1, h1, h3⟩, k2, v2, h2, h4⟩
  · rintro ⟨⟨k1, v1, h1, h3⟩, k2, v2, h2, h4⟩
    exact ⟨k1, v1, k2, v2, h1, h2, h3, h4⟩

theorem splits_kv_prefix (p : Bits) (c : BNode) (q : Bits) (h : Splits (kv p c) q) : p <+: q := by
  obtain ⟨k1, v1, k2, v2, h1, h2, h3, h4⟩ := h
  obtain ⟨_, r1, rfl, _⟩ := (bget_kv_some ..).1 h1
  obtain ⟨_, r2, rfl, _⟩ := (bget_kv_some ..).1 h2
  by_cases hlen : p.length ≤ q.length
  · exact List.prefix_of_prefix_length_le (List.prefix_append _ _) ((List.prefix_append q [false]).trans h3) hlen
  · -- otherwise both `q ++ [0]` and `q ++ [1]` are prefixes of `p`
    have hle : ∀ x : Bool, (q ++ [x]).length ≤ p.length := fun x => by
      rw [List.length_append]; exact Nat.lt_of_not_le hlen
    have a1 := List.prefix_of_prefix_length_le h3 (List.prefix_append _ _) (hle false)
    have a2 := List.prefix_of_prefix_length_le h4 (List.prefix_append _ _) (hle true)
    have := (List.prefix_append_right_inj q).1 (List.prefix_of_prefix_length_le a1 a2 (by rw [List.length_append, List.length_append]; exact Nat.le_refl _))
    cases List.cons_prefix_cons.1 this |>.1

theorem splits_kv_iff (p : Bits) (c : BNode) (q : Bits) (hp : p ≠ []) : Splits (kv p c) (p ++ q) ↔ Splits c q := by
  simp only [splits_iff, List.append_assoc, keyUnder_kv_append _ _ _ hp]

theorem splits_branch_cons (l r : BNode) (b : Bool) (q : Bits) :
    Splits (branch l r) (b :: q) ↔ Splits (if b = false then l else r) q := by
  simp only [splits_iff, List.cons_append, keyUnder_branch_cons]

theorem splits_branch_nil (l r : BNode) (hc : BCanon (branch l r)) : Splits (branch l r) [] :=
  (splits_iff ..).2 ⟨(keyUnder_branch_cons l r false []).2 (keyUnder_nil l hc.1),
    (keyUnder_branch_cons l r true []).2 (keyUnder_nil r hc.2)⟩

/-- the exact refusal condition of `get_branch` -/
def GBErr (t : BNode) (k : Bits) : Prop :=
  bget t k = none ∧ ∃ k' v', bget t k' = some v' ∧ Related k' k ∧ (k <+: k' → AtNode t k)

theorem gbErr_nil (t : BNode) (hc : BCanon t) (h : bget t [] = none) : GBErr t [] := by
  obtain ⟨k, v, hk⟩ := exists_key t hc
  exact ⟨h, k, v, hk, ⟨(fun e => by rw [e, h] at hk; cases hk), .inr List.nil_prefix⟩, fun _ => .inl rfl⟩

theorem atNode_kv_append (p : Bits) (c : BNode) (k1 : Bits) (hp : p ≠ []) (hk1 : k1 ≠ []) :
    AtNode (kv p c) (p ++ k1) ↔ AtNode c k1 := by
  unfold AtNode
  rw [List.dropLast_append_of_ne_nil hk1, splits_kv_iff p c _ hp, splits_kv_iff p c _ hp]
  simp [hk1]

theorem gbErr_kv_append (p : Bits) (c : BNode) (k1 : Bits) (hc : BCanon (kv p c)) :
    GBErr (kv p c) (p ++ k1) ↔ GBErr c k1 := by
  obtain ⟨hp, hnk, hcc⟩ := hc
  -- at `k1 = []` the key ends at the child `c`, which is a branch node as soon as `bget c [] = none`
  have hat : bget c k1 = none → (AtNode (kv p c) (p ++ k1) ↔ AtNode c k1) := by
    intro h0
    by_cases hk1 : k1 = []
    · subst hk1
      refine iff_of_true (.inr (.inl ((splits_kv_iff p c [] hp).2 ?_))) (.inl rfl)
      cases c with
      | leaf v => cases h0
      | kv p' c' => exact absurd rfl (hnk p' c')
      | branch l r => exact splits_branch_nil l r hcc
    · exact atNode_kv_append p c k1 hp hk1
  unfold GBErr
  rw [bget_kv_append p c k1 hp]
  constructor
  · rintro ⟨h0, k', v', h1, h2, h3⟩
    obtain ⟨_, r, rfl, g⟩ := (bget_kv_some ..).1 h1
    exact ⟨h0, r, v', g, (related_append ..).1 h2, fun hpre => (hat h0).1 (h3 ((List.prefix_append_right_inj p).2 hpre))⟩
  · rintro ⟨h0, k', v', h1, h2, h3⟩
    exact ⟨h0, p ++ k', v', (bget_kv_append p c k' hp).trans h1, (related_append ..).2 h2,
      fun hpre => (hat h0).2 (h3 ((List.prefix_append_right_inj p).1 hpre))⟩

theorem atNode_branch_cons (l r : BNode) (hc : BCanon (branch l r)) (b : Bool) (k1 : Bits) :
    AtNode (branch l r) (b :: k1) ↔ AtNode (if b = false then l else r) k1 := by
  unfold AtNode
  by_cases hk1 : k1 = []
  · subst hk1
    simp [splits_branch_nil l r hc]
  · rw [List.dropLast_cons_of_ne_nil hk1, splits_branch_cons, splits_branch_cons]
    simp [hk1]

theorem gbErr_branch_cons (l r : BNode) (hc : BCanon (branch l r)) (b : Bool) (k1 : Bits) :
    GBErr (branch l r) (b :: k1) ↔ GBErr (if b = false then l else r) k1 := by
  unfold GBErr
  rw [bget_branch_cons', atNode_branch_cons l r hc]
  constructor
  · rintro ⟨h0, k', v', h1, h2, h3⟩
    cases k' with
    | nil => cases h1
    | cons b' k'' =>
      have hb : b' = b := by
        rcases h2.2 with h | h
        · exact (List.cons_prefix_cons.1 h).1
        · exact (List.cons_prefix_cons.1 h).1.symm
      subst hb
      rw [bget_branch_cons'] at h1
      exact ⟨h0, k'', v', h1, (related_cons ..).1 h2, fun hpre => h3 (List.cons_prefix_cons.2 ⟨rfl, hpre⟩)⟩
  · rintro ⟨h0, k', v', h1, h2, h3⟩
    exact ⟨h0, b :: k', v', (bget_branch_cons' ..).trans h1, (related_cons ..).2 h2,
      fun hpre => h3 (List.cons_prefix_cons.1 hpre).2⟩

/-- `get_branch` refuses a key (InvalidKeyError) exactly when the key is not stored and is a proper extension of a
    stored key (“too long”), or a proper prefix of a stored key that ends AT a node of the trie (“too short”). A proper
    prefix that ends strictly inside the path of a kv node is NOT refused (`get_branch` returns the nodes down to that
    kv node). `AtNode t k` says in terms of the stored keys only that `k` ends at a node. -/
theorem getBranch_error_iff (t : BNode) (hc : BCanon t) (k : Bits) : (∃ e, getBranch t k = .error e) ↔ GBErr t k := by
  fun_induction getBranch t k with
  | case1 v => exact iff_of_false (fun ⟨e, h⟩ => by cases h) (fun ⟨h, _⟩ => by cases h)
  | case2 v k hk =>
    exact iff_of_true ⟨_, rfl⟩ ⟨by simp [bget_leaf, hk], [], v, rfl, ⟨fun e => hk e.symm, .inl List.nil_prefix⟩,
      fun hpre => absurd (List.prefix_nil.1 hpre) hk⟩
  | case3 p c => exact iff_of_true ⟨_, rfl⟩ (gbErr_nil _ hc rfl)
  | case4 p c k hk hp ih =>
    obtain ⟨k1, rfl⟩ := hp
    rw [List.drop_left] at ih ⊢
    simp only [except_map_error]
    exact (ih hc.2.2).trans (gbErr_kv_append p c k1 hc).symm
  | case5 p c k hk hp =>
    refine iff_of_false (fun ⟨e, h⟩ => by cases h) ?_
    rintro ⟨_, k', v', h1, ⟨_, hrel⟩, h3⟩
    obtain ⟨_, r, rfl, _⟩ := (bget_kv_some ..).1 h1
    rcases hrel with hrel | hrel
    · exact hp ((List.prefix_append _ _).trans hrel)
    · rcases h3 hrel with e | s | s
      · exact hk e
      · exact hp (splits_kv_prefix p c k s)
      · exact hp ((splits_kv_prefix _ _ _ s).trans (List.dropLast_prefix k))
  | case6 l r => exact iff_of_true ⟨_, rfl⟩ (gbErr_nil _ hc rfl)
  | case7 l r k ih =>
    simp only [except_map_error]
    exact (ih hc.1).trans (gbErr_branch_cons l r hc false k).symm
  | case8 l r b k hb ih =>
    simp only [except_map_error]
    rw [gbErr_branch_cons l r hc, if_neg hb]
    exact ih hc.2

/-- `get_branch` does not raise for every absent key related to a stored one: in the trie `{01 ↦ v}` the key `0` is a
    proper prefix of the stored key `01`, yet the key ends strictly inside the kv node's path and `_get_branch` just
    returns `[root]`. -/
theorem getBranch_error_iff_original_false :
    ¬ ∀ (t : BNode) (_ : BCanon t) (k : Bits),
      ((∃ e, getBranch t k = .error e) ↔ bget t k = none ∧ ∃ k' v', bget t k' = some v' ∧ Related k' k) := by
  intro h
  have hcanon : BCanon (kv [false, true] (leaf [1])) := ⟨by simp, (by intro _ _ e; cases e), (by simp [BCanon])⟩
  obtain ⟨e, he⟩ := (h (kv [false, true] (leaf [1])) hcanon [false]).2
    ⟨by decide, [false, true], [1], by decide, by decide, .inr (by decide)⟩
  simp [getBranch] at he

/-- a proper extension of a stored key is always refused -/
theorem getBranch_error_of_extension (t : BNode) (hc : BCanon t) (k k' : Bits) (v' : Bytes)
    (h1 : bget t k' = some v') (h2 : k' <+: k) (h3 : k' ≠ k) : ∃ e, getBranch t k = .error e := by
  refine (getBranch_error_iff t hc k).2 ⟨?_, k', v', h1, ⟨h3, .inl h2⟩, fun hpre => ?_⟩
  · cases hk : bget t k with
    | none => rfl
    | some v => exact absurd (prefix_key_eq t k' k v' v h1 hk h2) h3
  · exact absurd (h2.eq_of_length_le hpre.length_le) h3

section layerD
variable (H : Bytes → Bytes)

/-- the database answers for node `n` with its encoding, and its hash is not mistaken for the blank hash -/
def Resolves (db : Db) (n : BNode) : Prop :=
  hashNode H n ≠ H [] ∧ lookup db (hashNode H n) = some (encNode H n)

/-- whatever the database holds under the hash of `n` is the encoding of `n` (it may hold nothing) -/
def Compatible (db : Db) (n : BNode) : Prop :=
  hashNode H n ≠ H [] ∧ ∀ b, lookup db (hashNode H n) = some b → b = encNode H n

theorem hashNode_eq (n : BNode) : hashNode H n = H (encNode H n) := by
  cases n <;> simp [hashNode, encNode]

theorem hashNode_length (hlen : ∀ b, (H b).length = 32) (n : BNode) : (hashNode H n).length = 32 := by
  rw [hashNode_eq]; exact hlen _

/-- what `parse_node` returns for the encoding of a tree node -/
def parsedOf : BNode → Parsed
  | leaf v => .leaf v
  | kv p c => .kv p (hashNode H c)
  | branch l r => .branch (hashNode H l) (hashNode H r)

theorem parseNode_encNode (hlen : ∀ b, (H b).length = 32) (n : BNode) (hc : BCanon n) :
    parseNode (encNode H n) = .ok (parsedOf H n) := by
  cases n with
  | leaf v => rw [encNode, EncBits.parseNode_two, if_neg hc]; rfl
  | kv p c => rw [encNode]; exact EncSpec.parseNode_kv p _ (hashNode_length H hlen c)
  | branch l r =>
    rw [encNode]; exact EncSpec.parseNode_branch _ _ (hashNode_length H hlen l) (hashNode_length H hlen r)

/-- one step of `bgetD` once the node is found and parsed -/
theorem bgetD_step (blank : Hash) (db : Db) (fuel : Nat) (h : Hash) (k : Bits) (body : Bytes) (pn : Parsed)
    (hne : h ≠ blank) (hl : lookup db h = some body) (hp : parseNode body = .ok pn) :
    bgetD blank db (fuel + 1) h k = (match pn with
      | .leaf v => if k ≠ [] then .ok none else .ok (some v)
      | .kv p c => if k = [] then .ok none
          else if p <+: k then bgetD blank db fuel c (k.drop p.length) else .ok none
      | .branch l r => match k with
        | [] => .ok none
        | b :: k' => bgetD blank db fuel (if b = false then l else r) k') := by
  rw [bgetD, if_neg hne]
  simp only [hl, hp]
  cases pn <;> rfl

theorem bgetD_missing (blank : Hash) (db : Db) (fuel : Nat) (h : Hash) (k : Bits)
    (hne : h ≠ blank) (hl : lookup db h = none) :
    bgetD blank db (fuel + 1) h k = .error (.keyError h) := by
  rw [bgetD, if_neg hne]
  simp only [hl]

/-- if the database does not contradict the nodes on the key's path (all of them in `L`), the reader returns the
    trie's answer, or stops at a node of `L` the database does not hold -/
theorem bgetD_path (hlen : ∀ b, (H b).length = 32) (t : BNode) (hc : BCanon t) (db : Db) (k : Bits)
    (L : List BNode) (hL : pathNodes t k ⊆ L) (hcomp : ∀ n ∈ L, Compatible H db n) (fuel : Nat) (hf : k.length < fuel) :
    bgetD (H []) db fuel (hashNode H t) k = .ok (bget t k) ∨
    ∃ n ∈ L, lookup db (hashNode H n) = none ∧
      bgetD (H []) db fuel (hashNode H t) k = .error (.keyError (hashNode H n)) := by
  induction fuel generalizing t k with
  | zero => omega
  | succ f ih =>
    have ht := hL (self_mem_pathNodes t k)
    obtain ⟨hne, hb⟩ := hcomp t ht
    cases hl : lookup db (hashNode H t) with
    | none => exact .inr ⟨t, ht, hl, bgetD_missing _ _ _ _ _ hne hl⟩
    | some body =>
      cases hb body hl
      rw [bgetD_step _ _ _ _ _ _ _ hne hl (parseNode_encNode H hlen t hc)]
      cases t with
      | leaf v =>
        left
        simp only [parsedOf]
        rw [bget_leaf]
        by_cases hk : k = [] <;> simp [hk]
      | kv p c =>
        simp only [parsedOf]
        rw [bget_kv]
        by_cases hk : k = []
        · left; simp [hk]
        · by_cases hpk : p <+: k
          · rw [pathNodes_kv, if_neg hk, if_pos hpk] at hL
            simp only [hk, hpk, ↓reduceIte]
            have := length_drop_lt hc.1 hk
            exact ih c hc.2.2 _ (List.cons_subset.1 hL).2 (by omega)
          · left; simp [hk, hpk]
      | branch l r =>
        simp only [parsedOf]
        cases k with
        | nil => exact .inl rfl
        | cons b k' =>
          rw [pathNodes_branch_cons] at hL
          rw [bget_branch_cons']
          have := ih _ (bcanon_child hc b) k' (List.cons_subset.1 hL).2 (Nat.lt_of_succ_lt_succ hf)
          cases b <;> exact this

theorem compatible_of_resolves (db : Db) (n : BNode) (h : Resolves H db n) : Compatible H db n :=
  ⟨h.1, fun b hb => by rw [h.2] at hb; exact (Option.some.inj hb).symm⟩

theorem bgetD_complete (hlen : ∀ b, (H b).length = 32) (t : BNode) (hc : BCanon t) (db : Db) (k : Bits)
    (hres : ∀ n ∈ pathNodes t k, Resolves H db n) (fuel : Nat) (hf : k.length < fuel) :
    bgetD (H []) db fuel (hashNode H t) k = .ok (bget t k) := by
  rcases bgetD_path H hlen t hc db k _ (List.Subset.refl _)
      (fun n hn => compatible_of_resolves H db n (hres n hn)) fuel hf with h | ⟨n, hn, h1, _⟩
  · exact h
  · have := (hres n hn).2
    rw [h1] at this
    cases this

/-- the reader answers `get(k)` over any database in which the nodes of a `get_branch` path, or all nodes of the
    trie, resolve -/
theorem bgetD_of_path (hlen : ∀ b, (H b).length = 32) (t : BNode) (hc : BCanon t) (db : Db) (k : Bits)
    (path : List BNode) (hp : getBranch t k = .ok path ∨ (∀ x, Sub x t → x ∈ path))
    (hres : ∀ n ∈ path, Resolves H db n) (fuel : Nat) (hf : k.length + 1 < fuel) :
    bgetD (H []) db fuel (hashNode H t) k = .ok (bget t k) := by
  apply bgetD_complete H hlen t hc db k _ fuel (by omega)
  intro n hn
  rcases hp with hp | hp
  · rw [getBranch_ok_eq t k path hp] at hres
    exact hres n hn
  · exact hres n (hp n ((mem_trieNodes_iff t n).1 (pathNodes_sub_trieNodes t k n hn)))

/-- **soundness of the reader**: over ANY database that does not contradict the trie's nodes, `_get`
    returns the trie's answer or fails with a missing node — never another answer -/
theorem bgetD_sound (hlen : ∀ b, (H b).length = 32) (t : BNode) (hc : BCanon t) (db : Db) (k : Bits)
    (hcomp : ∀ n, Sub n t → Compatible H db n) (fuel : Nat) (hf : k.length + 1 < fuel) :
    bgetD (H []) db fuel (hashNode H t) k = .ok (bget t k) ∨
    ∃ h, bgetD (H []) db fuel (hashNode H t) k = .error (.keyError h) :=
  (bgetD_path H hlen t hc db k _ (pathNodes_sub_trieNodes t k)
    (fun n hn => hcomp n ((mem_trieNodes_iff t n).1 hn)) fuel (by omega)).imp_right fun ⟨_, _, _, h⟩ => ⟨_, h⟩

/-- the database `if_branch_valid` builds from the offered nodes -/
def offeredDb (nodes : List Bytes) : Db := (nodes.map fun n => (H n, n)).reverse

/-- no offered byte string collides with a node of the trie: an offered string hashing to a trie
    node's hash is that node's encoding, and no trie node hashes to the blank hash -/
def NoCollision (t : BNode) (nodes : List Bytes) : Prop :=
  ∀ n, Sub n t → hashNode H n ≠ H [] ∧ ∀ b ∈ nodes, H b = hashNode H n → b = encNode H n

theorem lookup_offered_some (nodes : List Bytes) (h : Hash) (b : Bytes)
    (hl : lookup (offeredDb H nodes) h = some b) : b ∈ nodes ∧ H b = h := by
  unfold lookup at hl
  obtain ⟨e, he, rfl⟩ := Option.map_eq_some_iff.1 hl
  have h1 := List.find?_some he
  have h2 := List.mem_of_find?_eq_some he
  simp only [offeredDb, List.mem_reverse, List.mem_map] at h2
  obtain ⟨a, ha, rfl⟩ := h2
  exact ⟨ha, by simpa using h1⟩

theorem lookup_offered_mem (nodes : List Bytes) (h : Hash) (b : Bytes) (hb : b ∈ nodes) (hh : H b = h)
    (hu : ∀ b' ∈ nodes, H b' = h → b' = b) : lookup (offeredDb H nodes) h = some b := by
  cases hl : lookup (offeredDb H nodes) h with
  | none =>
    exfalso
    unfold lookup at hl
    simp only [Option.map_eq_none_iff, List.find?_eq_none] at hl
    have := hl (H b, b) (by simp only [offeredDb, List.mem_reverse, List.mem_map]; exact ⟨b, hb, rfl⟩)
    simp [hh] at this
  | some b' =>
    obtain ⟨h1, h2⟩ := lookup_offered_some H nodes h b' hl
    rw [hu b' h1 h2]

theorem compatible_of_noCollision (t : BNode) (nodes : List Bytes) (hnc : NoCollision H t nodes)
    (n : BNode) (hn : Sub n t) : Compatible H (offeredDb H nodes) n :=
  ⟨(hnc n hn).1, fun b hl =>
    have ⟨h1, h2⟩ := lookup_offered_some H nodes _ b hl
    (hnc n hn).2 b h1 h2⟩

theorem resolves_of_noCollision (t : BNode) (nodes : List Bytes) (hnc : NoCollision H t nodes)
    (n : BNode) (hn : Sub n t) (hmem : encNode H n ∈ nodes) : Resolves H (offeredDb H nodes) n :=
  ⟨(hnc n hn).1, lookup_offered_mem H nodes _ _ hmem (hashNode_eq H n).symm (hnc n hn).2⟩

theorem isBinNode_encNode (n : BNode) : isBinNode (H []) (encNode H n) = true := by
  cases n <;> simp [isBinNode, encNode]

/-- `if_branch_valid` confirms exactly when the offered list is non-empty, all its members pass
    `validate_is_bin_node`, and `_get` over the database built from it returns the claimed answer -/
theorem ifBranchValid_valid_iff (nodes : List Bytes) (root : Hash) (key : Bits) (value : Option Bytes) :
    ifBranchValid H nodes root key value = .valid ↔ nodes ≠ [] ∧ nodes.all (isBinNode (H [])) = true ∧
      bgetD (H []) (offeredDb H nodes) (nodes.length + key.length + 2) root key = .ok value := by
  unfold ifBranchValid offeredDb
  by_cases hne : nodes = []
  · simp [hne]
  · by_cases hall : nodes.all (isBinNode (H [])) = true
    · simp only [hne, hall, Bool.not_true, Bool.false_eq_true, ↓reduceIte, ne_eq, not_false_eq_true, true_and]
      cases bgetD (H []) ((nodes.map fun n => (H n, n)).reverse) (nodes.length + key.length + 2) root key with
      | ok r => by_cases e : r = value <;> simp [e]
      | error e => cases e <;> simp
    · simp [hne, hall]

theorem bgetD_offered (hlen : ∀ b, (H b).length = 32) (t : BNode) (hc : BCanon t) (k : Bits) (w : List BNode)
    (hw : pathNodes t k ⊆ w) (hnc : NoCollision H t (w.map (encNode H))) (fuel : Nat) (hf : k.length < fuel) :
    bgetD (H []) (offeredDb H (w.map (encNode H))) fuel (hashNode H t) k = .ok (bget t k) :=
  bgetD_complete H hlen t hc _ k (fun n hn => resolves_of_noCollision H t _ hnc n
    (sub_of_mem_pathNodes t k n hn) (List.mem_map_of_mem (hw hn))) fuel hf

/-- **a branch validates the trie's answer**: `if_branch_valid(get_branch(key), root, key, get(key))` -/
theorem branch_valid (hlen : ∀ b, (H b).length = 32) (t : BNode) (hc : BCanon t) (k : Bits) (path : List BNode)
    (hp : getBranch t k = .ok path) (hnc : NoCollision H t (path.map (encNode H))) :
    ifBranchValid H (path.map (encNode H)) (hashNode H t) k (bget t k) = .valid := by
  cases getBranch_ok_eq t k path hp
  refine (ifBranchValid_valid_iff ..).2 ⟨?_, ?_, ?_⟩
  · exact List.ne_nil_of_mem (List.mem_map_of_mem (self_mem_pathNodes t k))
  · simp only [List.all_eq_true, List.mem_map]
    rintro b ⟨n, _, rfl⟩
    exact isBinNode_encNode H n
  · exact bgetD_offered H hlen t hc k _ (List.Subset.refl _) hnc _ (by omega)

/-- **unforgeable**: whatever byte strings are offered — altered, truncated, for another key, from
    another trie — `if_branch_valid` never confirms an answer the trie does not give -/
theorem branch_sound (hlen : ∀ b, (H b).length = 32) (t : BNode) (hc : BCanon t) (k : Bits)
    (nodes : List Bytes) (hnc : NoCollision H t nodes) (claimed : Option Bytes)
    (hv : ifBranchValid H nodes (hashNode H t) k claimed = .valid) : claimed = bget t k := by
  have hget := ((ifBranchValid_valid_iff ..).1 hv).2.2
  rcases bgetD_sound H hlen t hc (offeredDb H nodes) k (compatible_of_noCollision H t nodes hnc)
      (nodes.length + k.length + 2) (by omega) with h | ⟨e, h⟩
  · rw [hget] at h
    exact Except.ok.inj h
  · rw [hget] at h
    cases h

/-- **a witness is sufficient**: the nodes of `get_witness_for_key_prefix(p)` answer `get(k)` correctly
    for every key `k` starting with `p` -/
theorem witness_sufficient (hlen : ∀ b, (H b).length = 32) (t : BNode) (hc : BCanon t) (p : Bits) (w : List BNode)
    (hw : getWitness t p = .ok w) (hnc : NoCollision H t (w.map (encNode H)))
    (k : Bits) (hpk : p <+: k) (fuel : Nat) (hf : k.length + 1 < fuel) :
    bgetD (H []) (offeredDb H (w.map (encNode H))) fuel (hashNode H t) k = .ok (bget t k) :=
  bgetD_offered H hlen t hc k w (pathNodes_sub_getWitness t p w hw k hpk) hnc fuel (by omega)

end layerD
end PyTrie.Bin
