import PyTrie.Model.HexTrav
/-! Order theory of `plt` (Python's tuple order on nibble paths), and first-hit lemmas for
    `find?` / `findSome?` over `List.finRange`. -/
namespace PyTrie.Hex

theorem plt_cons (a b : Nib) (as bs : Path) :
    plt (a :: as) (b :: bs) = true ↔ a.val < b.val ∨ (a = b ∧ plt as bs = true) := by
  simp only [plt, Fin.lt_def]
  by_cases h1 : a.val < b.val
  · simp [h1]
  · by_cases h2 : b.val < a.val
    · have : a ≠ b := fun e => by subst e; omega
      simp [h1, h2, this]
    · have : a = b := Fin.ext (by omega)
      subst this; simp

/-- `plt` decides core's lexicographic order on lists -/
theorem plt_iff {a b : Path} : plt a b = true ↔ a < b := by
  induction a generalizing b with
  | nil => cases b <;> simp [plt]
  | cons x xs ih =>
    cases b with
    | nil => simp [plt]
    | cons y ys => rw [plt_cons, List.cons_lt_cons_iff, ih, Fin.lt_def]

theorem plt_eq_false {a b : Path} : plt a b = false ↔ b ≤ a := by
  rw [← Bool.not_eq_true, plt_iff]; exact List.not_lt

theorem plt_cons_false (a b : Nib) (as bs : Path) :
    plt (a :: as) (b :: bs) = false ↔ b.val < a.val ∨ (a = b ∧ plt as bs = false) := by
  rw [plt_eq_false, List.cons_le_cons_iff, plt_eq_false, Fin.lt_def, eq_comm]

theorem plt_irrefl (a : Path) : plt a a = false := plt_eq_false.2 (List.le_refl a)

@[simp] theorem plt_nil_right (k : Path) : plt k [] = false := by cases k <;> rfl

theorem plt_nil_left (k : Path) : plt [] k = true ↔ k ≠ [] := by cases k <;> simp [plt]

@[simp] theorem plt_nil_cons (a : Nib) (k : Path) : plt [] (a :: k) = true := rfl

@[simp] theorem plt_cons_same (a : Nib) (as bs : Path) : plt (a :: as) (a :: bs) = plt as bs := by
  simp [plt]

theorem plt_trans {a b c : Path} (h1 : plt a b = true) (h2 : plt b c = true) : plt a c = true :=
  plt_iff.2 (List.lt_trans (plt_iff.1 h1) (plt_iff.1 h2))

theorem plt_total (a b : Path) : plt a b = true ∨ a = b ∨ plt b a = true := by
  cases h : plt a b with
  | true => exact .inl rfl
  | false => exact .inr ((List.le_iff_lt_or_eq.1 (plt_eq_false.1 h)).symm.imp Eq.symm plt_iff.2)

theorem plt_asymm {a b : Path} (h : plt a b = true) : plt b a = false :=
  plt_eq_false.2 (List.le_of_lt (plt_iff.1 h))

theorem plt_ne {a b : Path} (h : plt a b = true) : a ≠ b :=
  fun e => absurd (e ▸ h) (by simp [plt_irrefl])

theorem plt_of_le_of_lt {a b c : Path} (h1 : plt b a = false) (h2 : plt b c = true) : plt a c = true :=
  plt_iff.2 (List.lt_of_le_of_lt (plt_eq_false.1 h1) (plt_iff.1 h2))

theorem plt_of_lt_of_le {a b c : Path} (h1 : plt a b = true) (h2 : plt c b = false) : plt a c = true :=
  plt_iff.2 (Std.lt_of_lt_of_le (plt_iff.1 h1) (plt_eq_false.1 h2))

theorem plt_antisymm {a b : Path} (h1 : plt a b = false) (h2 : plt b a = false) : a = b :=
  Std.le_antisymm (plt_eq_false.1 h2) (plt_eq_false.1 h1)

theorem prefix_le {q k : Path} (h : q <+: k) : plt k q = false := plt_eq_false.2 h.le

theorem prefix_between {q l k : Path} (hq : q <+: k) (h1 : plt l q = false) (h2 : plt k l = false) :
    q <+: l := by
  induction q generalizing l k with
  | nil => exact List.nil_prefix
  | cons x xs ih =>
    cases k with
    | nil => simp at hq
    | cons y ys =>
      have ⟨hxy, hp⟩ := List.cons_prefix_cons.1 hq
      subst hxy
      cases l with
      | nil => simp [plt] at h1
      | cons z zs =>
        rw [plt_cons_false] at h1 h2
        rcases h1 with h1 | ⟨rfl, h1⟩
        · rcases h2 with h2 | ⟨rfl, h2⟩
          · omega
          · omega
        · rcases h2 with h2 | ⟨_, h2⟩
          · omega
          · exact List.cons_prefix_cons.2 ⟨rfl, ih hp h1 h2⟩

@[simp] theorem plt_append_left (p a b : Path) : plt (p ++ a) (p ++ b) = plt a b := by
  induction p with
  | nil => rfl
  | cons x xs ih => simp [ih]

theorem plt_append_right_self (p q : Path) (hq : q ≠ []) : plt p (p ++ q) = true := by
  have := plt_append_left p [] q
  rw [List.append_nil] at this
  rw [this]; exact (plt_nil_left q).2 hq

/-- `p` lies to the left of the key: so does everything below `p` -/
theorem plt_take_true {p key : Path} (h : plt p (key.take p.length) = true) (k' : Path) :
    plt key (p ++ k') = false := by
  induction p generalizing key with
  | nil => simp at h
  | cons x xs ih =>
    cases key with
    | nil => simp at h
    | cons y ys =>
      simp only [List.length_cons, List.take_succ_cons, plt_cons] at h
      simp only [List.cons_append, plt_cons_false]
      rcases h with h | ⟨rfl, h⟩
      · exact Or.inl h
      · exact Or.inr ⟨rfl, ih h⟩

/-- `p` is not to the left of the key and the key does not go through `p`: everything below `p`
    lies to the right of the key -/
theorem plt_take_false {p key : Path} (h : plt p (key.take p.length) = false) (hp : ¬ p <+: key)
    (k' : Path) : plt key (p ++ k') = true := by
  induction p generalizing key with
  | nil => exact absurd List.nil_prefix hp
  | cons x xs ih =>
    cases key with
    | nil => rfl
    | cons y ys =>
      simp only [List.length_cons, List.take_succ_cons, plt_cons_false] at h
      simp only [List.cons_append, plt_cons]
      rcases h with h | ⟨rfl, h⟩
      · exact Or.inl h
      · refine Or.inr ⟨rfl, ih h ?_⟩
        intro hx
        exact hp (List.cons_prefix_cons.2 ⟨rfl, hx⟩)

theorem plt_take_of_prefix {p key : Path} (hp : p <+: key) : plt p (key.take p.length) = false := by
  obtain ⟨r, rfl⟩ := hp
  simp [plt_irrefl]

theorem finRange_split_lt {n : Nat} {l₁ l₂ : List (Fin n)} {a : Fin n}
    (h : List.finRange n = l₁ ++ a :: l₂) (j : Fin n) : j ∈ l₁ ↔ j < a := by
  have hp := List.pairwise_lt_finRange n
  rw [h, List.pairwise_append] at hp
  obtain ⟨_, h2, h3⟩ := hp
  constructor
  · intro hj; exact h3 j hj a List.mem_cons_self
  · intro hj
    have hm : j ∈ l₁ ++ a :: l₂ := h ▸ List.mem_finRange j
    rcases List.mem_append.1 hm with hm | hm
    · exact hm
    · rcases List.mem_cons.1 hm with rfl | hm
      · exact absurd hj (Fin.lt_irrefl _)
      · have := (List.pairwise_cons.1 h2).1 j hm
        exact absurd (Fin.lt_trans hj this) (Fin.lt_irrefl _)

theorem findSome_finRange_some {n : Nat} {β} {f : Fin n → Option β} {b : β}
    (h : (List.finRange n).findSome? f = some b) : ∃ i, f i = some b ∧ ∀ j, j < i → f j = none := by
  obtain ⟨l₁, a, l₂, hl, ha, hn⟩ := List.findSome?_eq_some_iff.1 h
  exact ⟨a, ha, fun j hj => hn j ((finRange_split_lt hl j).2 hj)⟩

theorem findSome_finRange_none {n : Nat} {β} {f : Fin n → Option β}
    (h : (List.finRange n).findSome? f = none) (i : Fin n) : f i = none :=
  List.findSome?_eq_none_iff.1 h i (List.mem_finRange i)

theorem find_finRange_some {n : Nat} {p : Fin n → Bool} {i : Fin n}
    (h : (List.finRange n).find? p = some i) : p i = true ∧ ∀ j, j < i → p j = false := by
  obtain ⟨hi, as, bs, hl, hn⟩ := List.find?_eq_some_iff_append.1 h
  refine ⟨hi, fun j hj => ?_⟩
  have := hn j ((finRange_split_lt hl j).2 hj)
  simpa using this

theorem find_finRange_none {n : Nat} {p : Fin n → Bool}
    (h : (List.finRange n).find? p = none) (i : Fin n) : p i = false := by
  have := List.find?_eq_none.1 h i (List.mem_finRange i)
  simpa using this

end PyTrie.Hex
