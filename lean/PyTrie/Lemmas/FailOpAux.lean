import PyTrie.Lemmas.WorldComplete
/-! A direct `set` / `delete` on a non-pruning trie over a plain dict that may be cut short at any point
    (a failing write, a missing node): the reference counts are untouched, and under the run-level no-collision predicate
    `NoClobber` for the call's writes every old binding of the database survives (`Props/HistoryFailOp.lean`). -/
namespace PyTrie.HexW
open PyTrie.Hex hiding get set
open PyTrie.Hex.Node

variable (Hs : Hashing) (blankRootHash : Hash)

theorem opSetDel_noprune_counts (T : TrieSt) (hp : T.prune = false) (key : Bytes) (val : Option Bytes) (s : OpSt) :
    (opSetDel Hs blankRootHash T key val s).1.counts = s.counts := by
  refine opSetDel_inv (Q := fun s' => s'.counts = s.counts) Hs blankRootHash (fun _ _ h => h) T key val
    (fun s1 s' h b _ hs hw => ?_) (fun hpt => by rw [hp] at hpt; cases hpt) s rfl
  -- `_set_db_value` counts references only when pruning
  rw [hp, setDbValue] at hw
  split at hw
  · cases hw
  · cases hw; exact hs

theorem opSetDel_noprune_preserved (T : TrieSt) (hp : T.prune = false) (key : Bytes) (val : Option Bytes)
    (s : OpSt) (hc : s.store.cache = none) (hnc : NoClobber s.store.base (opWrites Hs T key val)) :
    Preserved s.store.base (opSetDel Hs blankRootHash T key val s).1.store.base :=
  (opSetDel_plain Hs blankRootHash T hp key val s hc _ fun _ h => h).2.pres
    fun ⟨h, b, b', hm, hne, hg⟩ => hne (hnc.1 h b' b hm hg)

end PyTrie.HexW
