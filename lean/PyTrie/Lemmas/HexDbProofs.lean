import PyTrie.Lemmas.HexTrav
import PyTrie.Model.HexDb
import PyTrie.Model.HexEff
/-! Layer D ↔ Layer T: reading a canonical tree back through a database of encoded nodes.
    No assumption on the hash function beyond its 32-byte output; collisions are excluded by
    run-level predicates about the concrete database (`Resolves`, `Compatible`). -/
namespace PyTrie.HexD
open PyTrie.Hex PyTrie.Hex.Node

theorem toNat_pack (a b : Nat) (ha : a < 16) (hb : b < 16) :
    (UInt8.ofNat (a * 16 + b)).toNat / 16 = a ∧ (UInt8.ofNat (a * 16 + b)).toNat % 16 = b := by
  have : (UInt8.ofNat (a * 16 + b)).toNat = a * 16 + b := by simp; omega
  omega

theorem toNib_val (a : Nib) : toNib a.val = a := by
  simp [toNib]

theorem unpack_pack : ∀ (l : Path), l.length % 2 = 0 →
    (packNibs (l.map (·.val))).flatMap (fun x => [toNib (x.toNat / 16), toNib (x.toNat % 16)]) = l
  | [], _ => rfl
  | [a], h => by simp at h
  | a :: b :: r, h => by
    simp only [List.map_cons, packNibs, List.flatMap_cons, unpack_pack r (by simp at h; omega),
      toNat_pack a.val b.val a.isLt b.isLt, toNib_val, List.cons_append, List.nil_append]

theorem hpDecode_pack (f x : Nat) (hf : f < 16) (hx : x < 16) (l : Path) (hl : l.length % 2 = 0) :
    hpDecode (packNibs (f :: x :: l.map (·.val))) =
      some (if f = 1 ∨ f = 3 then toNib x :: l else l, decide (f = 2 ∨ f = 3)) := by
  simp only [packNibs, hpDecode, unpack_pack l hl, toNat_pack f x hf hx]

theorem hpDecode_hp (p : Path) (t : Bool) : hpDecode (hp p t) = some (p, t) := by
  unfold hp
  simp only [List.length_map]
  by_cases hodd : p.length % 2 = 1
  · simp only [hodd, ↓reduceIte]
    match p, hodd with
    | a :: r, hodd =>
      have hr : r.length % 2 = 0 := by simp at hodd; omega
      rw [List.map_cons, hpDecode_pack _ _ (by split <;> omega) a.isLt r hr]
      cases t <;> simp [toNib_val]
  · simp only [hodd, ↓reduceIte]
    have hr : p.length % 2 = 0 := by omega
    rw [hpDecode_pack _ _ (by split <;> omega) (by omega) p hr]
    cases t <;> simp

variable (H : Bytes → Bytes)

/-- the decoder inverts the encoder on the nodes on the key's path (the only ones ever decoded) -/
def DecOkOn (t : Node) (k : Path) : Prop := ∀ n ∈ getProof t k, rlpDecode (enc H n) = some (toItem H n)

/-- the database answers for node `n` with its encoding, and its hash is not mistaken for the blank root -/
def Resolves (db : Db) (n : Node) : Prop :=
  hashOf H n ≠ blankRoot H ∧ lookup db (hashOf H n) = some (enc H n)

/-- whatever the database holds under the hash of `n` is the encoding of `n` (it may hold nothing) -/
def Compatible (db : Db) (n : Node) : Prop :=
  hashOf H n ≠ blankRoot H ∧ ∀ b, lookup db (hashOf H n) = some b → b = enc H n

/-- `n` is stored under its hash: the root always, other nodes when their encoding has ≥ 32 bytes -/
def Stored (t n : Node) : Prop := n = t ∨ isHashed H n = true

theorem Resolves.compatible {db : Db} {n : Node} (h : Resolves H db n) : Compatible H db n :=
  ⟨h.1, fun b hb => by rw [h.2] at hb; cases hb; rfl⟩

/-- the 17 items of an encoded branch -/
def brItems (ch : Nib → Node) (v : Bytes) : List Item :=
  (List.finRange 16).map (fun i => refOf H (ch i)) ++ [.str v]

theorem brItems_length (ch : Nib → Node) (v : Bytes) : (brItems H ch v).length = 17 := by
  simp [brItems]

theorem brItems_getD (ch : Nib → Node) (v : Bytes) (a : Nib) :
    (brItems H ch v).getD a.val (.str []) = refOf H (ch a) := by
  have : a.val < ((List.finRange 16).map (fun i => refOf H (ch i))).length := by simp
  simp [brItems, List.getD_eq_getElem?_getD, List.getElem?_append_left this]

theorem brItems_getD_16 (ch : Nib → Node) (v : Bytes) :
    (brItems H ch v).getD 16 (.str []) = .str v := by
  simp [brItems, List.getD_eq_getElem?_getD]

theorem toItem_branch (ch : Nib → Node) (v : Bytes) : toItem H (branch ch v) = .list (brItems H ch v) := rfl

theorem classify_blank : classify (toItem H blank) = .blank := by
  simp [toItem, classify]

theorem classify_leaf (p : Path) (v : Bytes) : classify (toItem H (leaf p v)) = .leaf p (.str v) := by
  simp [toItem, classify, hpDecode_hp]

theorem classify_ext (p : Path) (c : Node) : classify (toItem H (ext p c)) = .ext p (refOf H c) := by
  simp [toItem, classify, hpDecode_hp, refOf]

theorem classify_list17 (l : List Item) (h : l.length = 17) : classify (.list l) = .branch l := by
  unfold classify
  split
  · next heq => cases heq
  · next heq => cases heq
  · next heq => cases heq; simp at h
  · next heq => cases heq; simp [h]

theorem classify_branch (ch : Nib → Node) (v : Bytes) :
    classify (toItem H (branch ch v)) = .branch (brItems H ch v) :=
  classify_list17 _ (brItems_length H ch v)

theorem toItem_list (c : Node) (hb : isBlank c = false) : ∃ l, toItem H c = .list l := by
  cases c with
  | blank => simp [isBlank] at hb
  | leaf p v => exact ⟨_, rfl⟩
  | ext p c => exact ⟨_, rfl⟩
  | branch ch v => exact ⟨_, rfl⟩

theorem getNode_hash (hlen : ∀ b, (H b).length = 32) (db : Db) (n : Node)
    (hne : hashOf H n ≠ blankRoot H) :
    getNode H db (.str (hashOf H n)) =
      match lookup db (hashOf H n) with
      | none => .error (.missing (hashOf H n))
      | some b => match rlpDecode b with
        | some it => .ok it
        | none => .error .invalid := by
  have h32 : (hashOf H n).length = 32 := hlen _
  have h1 : hashOf H n ≠ [] := by intro h; rw [h] at h32; simp at h32
  have h2 : ¬ (hashOf H n).length < 32 := by omega
  simp only [getNode, h1, hne, h2, ↓reduceIte]
  rfl

theorem fetch_hash_some (hlen : ∀ b, (H b).length = 32) (db : Db) (n : Node) (used : Path)
    (hne : hashOf H n ≠ blankRoot H) (hl : lookup db (hashOf H n) = some (enc H n))
    (hd : rlpDecode (enc H n) = some (toItem H n)) :
    fetch H db (.str (hashOf H n)) used = .ok (toItem H n) := by
  simp only [fetch, getNode_hash H hlen db n hne, hl, hd]

theorem fetch_hash_none (hlen : ∀ b, (H b).length = 32) (db : Db) (n : Node) (used : Path)
    (hne : hashOf H n ≠ blankRoot H) (hl : lookup db (hashOf H n) = none) :
    fetch H db (.str (hashOf H n)) used = .error (.missing (hashOf H n) used) := by
  simp only [fetch, getNode_hash H hlen db n hne, hl]

theorem refOf_blank : refOf H blank = .str [] := by simp [refOf, toItem, mkRef]

theorem refOf_hashed (c : Node) (h : isHashed H c = true) : refOf H c = .str (hashOf H c) := by
  simp only [isHashed, Bool.and_eq_true, Bool.not_eq_true', decide_eq_true_eq] at h
  obtain ⟨l, hl⟩ := toItem_list H c h.1
  have h2 := h.2
  simp only [enc, hl] at h2
  have : ¬ (rlp (.list l)).length < 32 := by omega
  simp only [refOf, hashOf, enc, hl, mkRef, this, ↓reduceIte]

theorem refOf_embedded (c : Node) (hb : isBlank c = false) (h : isHashed H c = false) :
    refOf H c = toItem H c := by
  simp only [isHashed, hb, Bool.not_false, Bool.true_and, decide_eq_false_iff_not, Nat.not_le] at h
  obtain ⟨l, hl⟩ := toItem_list H c hb
  simp only [enc, hl] at h
  simp only [refOf, hl, mkRef, h, ↓reduceIte]

theorem fetch_ref_ok (hlen : ∀ b, (H b).length = 32) (db : Db) (c : Node) (used : Path)
    (hr : isHashed H c = true → Resolves H db c ∧ rlpDecode (enc H c) = some (toItem H c)) :
    fetch H db (refOf H c) used = .ok (toItem H c) := by
  cases hb : isBlank c with
  | true => rw [(isBlank_iff c).1 hb]; simp [refOf_blank, fetch, getNode, toItem]
  | false =>
    cases hh : isHashed H c with
    | false =>
      rw [refOf_embedded H c hb hh]
      obtain ⟨l, hl⟩ := toItem_list H c hb
      simp [hl, fetch, getNode]
    | true =>
      obtain ⟨⟨hne, hl⟩, hd⟩ := hr hh
      rw [refOf_hashed H c hh]
      exact fetch_hash_some H hlen db c used hne hl hd

theorem traverseD_nil (db : Db) (fuel : Nat) (node : Item) (used : Path) :
    traverseD H db fuel node [] used = .ok (node, []) := by
  cases fuel <;> simp [traverseD]

theorem getProof_ext_append (p : Path) (c : Node) (r : Path) :
    getProof (ext p c) (p ++ r) = ext p c :: getProof c r := by
  simp [getProof]

theorem getProof_eq_cons (c : Node) (k : Path) (hb : isBlank c = false) :
    getProof c k = c :: (getProof c k).tail := by
  cases c with
  | blank => cases hb
  | leaf p v => rfl
  | ext p c => simp only [getProof]; split <;> rfl
  | branch ch v => cases k <;> rfl

theorem mem_getProof_self (c : Node) (k : Path) (hb : isBlank c = false) : c ∈ getProof c k := by
  rw [getProof_eq_cons c k hb]
  exact List.mem_cons_self ..

theorem isBlank_of_isHashed (c : Node) (h : isHashed H c = true) : isBlank c = false := by
  simp only [isHashed, Bool.and_eq_true, Bool.not_eq_true'] at h
  exact h.1

/-- what holds of every child of every node below `t` (`D` handing it down) holds of every node below `t` on a
    key's path -/
theorem mem_getProof_tail_of_below (P D : Node → Prop) (hext : ∀ p c, D (ext p c) → P c ∧ D c)
    (hbr : ∀ ch v i, D (branch ch v) → P (ch i) ∧ D (ch i)) (t : Node) (k : Path) (hd : D t) :
    ∀ n ∈ (getProof t k).tail, P n := by
  have child : ∀ c r, P c → (∀ n ∈ (getProof c r).tail, P n) → ∀ n ∈ getProof c r, P n := by
    intro c r hc ht n hn
    cases hb : isBlank c with
    | true => rw [(isBlank_iff c).1 hb] at hn; cases hn
    | false =>
      rw [getProof_eq_cons c r hb] at hn
      exact (List.mem_cons.1 hn).elim (· ▸ hc) (ht n)
  fun_induction getProof t k with
  | case1 | case2 | case4 | case5 => nofun
  | case3 p c k _ ih => exact child c _ (hext p c hd).1 (ih (hext p c hd).2)
  | case6 ch v a k ih => exact child (ch a) k (hbr ch v a hd).1 (ih (hbr ch v a hd).2)

/-- the outcome of a read whose fetches are `rs` and whose result (if every fetch is answered) is `x` -/
def outR {α : Type} (db : Db) (rs : List (Hash × Path)) (x : α) : Except TErr α :=
  match rs.find? fun e => (lookup db e.1).isNone with
  | some (h, pre) => .error (.missing h pre)
  | none => .ok x

theorem outR_nil {α : Type} (db : Db) (x : α) : outR db [] x = .ok x := rfl

theorem outR_ok_iff {α : Type} (db : Db) (rs : List (Hash × Path)) (x : α) :
    outR db rs x = .ok x ↔ ∀ e ∈ rs, lookup db e.1 ≠ none := by
  unfold outR
  cases hf : rs.find? fun e => (lookup db e.1).isNone with
  | none => simpa using hf
  | some e =>
    have h1 := List.mem_of_find?_eq_some hf
    have h2 := List.find?_some hf
    simp only [reduceCtorEq, false_iff]
    exact fun h => h e h1 (by simpa using h2)

theorem outR_cases {α : Type} (db : Db) (rs : List (Hash × Path)) (x : α) :
    outR db rs x = .ok x ∨ ∃ h u, outR db rs x = .error (.missing h u) := by
  unfold outR
  split
  · exact .inr ⟨_, _, rfl⟩
  · exact .inl rfl

theorem fetch_hash (hlen : ∀ b, (H b).length = 32) (db : Db) (n : Node) (used : Path)
    (hs : Compatible H db n ∧ rlpDecode (enc H n) = some (toItem H n)) :
    fetch H db (.str (hashOf H n)) used =
      if lookup db (hashOf H n) = none then .error (.missing (hashOf H n) used) else .ok (toItem H n) := by
  obtain ⟨⟨hne, hl⟩, hd⟩ := hs
  cases hlk : lookup db (hashOf H n) with
  | none => exact fetch_hash_none H hlen db n used hne hlk
  | some b => rw [hl b hlk] at hlk; exact fetch_hash_some H hlen db n used hne hlk hd

/-- a child reference only goes to the database when the child is hashed -/
theorem fetch_ref (hlen : ∀ b, (H b).length = 32) (db : Db) (c : Node) (used : Path)
    (hs : isHashed H c = true → Compatible H db c ∧ rlpDecode (enc H c) = some (toItem H c)) :
    fetch H db (refOf H c) used =
      if isHashed H c = true ∧ lookup db (hashOf H c) = none then .error (.missing (hashOf H c) used)
      else .ok (toItem H c) := by
  cases hh : isHashed H c with
  | false => simpa using fetch_ref_ok H hlen db c used (fun h => by simp [hh] at h)
  | true => simpa [refOf_hashed H c hh] using fetch_hash H hlen db c used (hs hh)

theorem outR_step {α : Type} (Hs : Hashing) (hhd : ∀ n, Hs.hashed n = isHashed H n)
    (hho : ∀ n, Hs.hashOf n = hashOf H n) (db : Db) (c : Node) (pre : Path) (rs : List (Hash × Path)) (x : α) :
    outR db ((if Hs.hashed c then [(Hs.hashOf c, pre)] else []) ++ rs) x =
      if isHashed H c = true ∧ lookup db (hashOf H c) = none then .error (.missing (hashOf H c) pre)
      else outR db rs x := by
  rw [hhd, hho]
  cases hh : isHashed H c with
  | false => simp
  | true => cases hlk : lookup db (hashOf H c) <;> simp [outR, hlk]

/-- **`_traverse_from` on a database that does not contradict the tree along the key's path**: the tree-level
    result, or a report of the first node on the path that the database lacks. `Hs` is any hashing that marks
    and names nodes as `H` does. -/
theorem traverseD_path (hlen : ∀ b, (H b).length = 32) (Hs : Hashing) (hhd : ∀ n, Hs.hashed n = isHashed H n)
    (hho : ∀ n, Hs.hashOf n = hashOf H n) (db : Db) (t : Node) (hc : Canon t) (k : Path) (fuel : Nat) (used : Path)
    (hf : k.length ≤ fuel)
    (hs : ∀ n ∈ (getProof t k).tail, isHashed H n = true →
      Compatible H db n ∧ rlpDecode (enc H n) = some (toItem H n)) :
    traverseD H db fuel (toItem H t) k used =
      outR db (traverseReads Hs t k used) (toItem H (traverseT t k).1, (traverseT t k).2) := by
  induction fuel generalizing t k used with
  | zero =>
    cases k with
    | nil => simp [traverseD_nil, traverseT, traverseReads, outR_nil]
    | cons a rest => simp at hf
  | succ fuel ih =>
    cases k with
    | nil => simp [traverseD_nil, traverseT, traverseReads, outR_nil]
    | cons a rest =>
      cases t with
      | blank => simp only [traverseD, classify_blank, traverseT, traverseReads, outR_nil]; rfl
      | leaf p v =>
        simp only [traverseD, classify_leaf, traverseT, traverseReads, outR_nil]
        split <;> simp [toItem]
      | ext p c =>
        obtain ⟨hpne, _, hcc⟩ := hc
        simp only [traverseD, classify_ext, traverseT, traverseReads]
        by_cases hpre : p <+: a :: rest
        · obtain ⟨r, hr⟩ := hpre
          rw [← hr] at hf hs ⊢
          rw [getProof_ext_append, List.tail_cons] at hs
          have hlp : 0 < p.length := List.length_pos_iff.2 hpne
          have hf' : r.length ≤ fuel := by simp at hf; omega
          simp only [cpl_append_left, List.drop_left, List.take_left, ↓reduceIte, List.drop_eq_nil_of_le (Nat.le_refl _)]
          rw [fetch_ref H hlen db c _ (fun hh => hs c (mem_getProof_self c r (isBlank_of_isHashed H c hh)) hh),
            outR_step H Hs hhd hho]
          by_cases hcnd : isHashed H c = true ∧ lookup db (hashOf H c) = none
          · simp only [hcnd, and_self, ↓reduceIte]
          · simp only [hcnd, ↓reduceIte]
            exact ih c hcc r _ hf' (fun n hn => hs n (List.mem_of_mem_tail hn))
        · have h1 : ¬ (p.drop (cpl p (a :: rest)) = []) := fun h => hpre ((cpl_drop_left_nil_iff _ _).1 h)
          simp only [h1, ↓reduceIte, outR_nil]
          split <;> simp [toItem]
      | branch ch v =>
        simp only [getProof, List.tail_cons] at hs
        simp only [traverseD, classify_branch, traverseT, brItems_getD, traverseReads]
        rw [fetch_ref H hlen db (ch a) _
            (fun hh => hs _ (mem_getProof_self (ch a) rest (isBlank_of_isHashed H _ hh)) hh),
          outR_step H Hs hhd hho]
        by_cases hcnd : isHashed H (ch a) = true ∧ lookup db (hashOf H (ch a)) = none
        · simp only [hcnd, and_self, ↓reduceIte]
        · simp only [hcnd, ↓reduceIte]
          exact ih (ch a) (hc.1 a) rest _ (by simpa using hf) (fun n hn => hs n (List.mem_of_mem_tail hn))

/-- the hashes a traversal asks the database for are those of the hashed nodes below the start node on the
    key's path -/
theorem traverseReads_fst (Hs : Hashing) (t : Node) (hc : Canon t) (k pre : Path) :
    (traverseReads Hs t k pre).map (·.1) = ((getProof t k).tail.filter Hs.hashed).map Hs.hashOf := by
  have child : ∀ (c : Node) (r : Path),
      ((getProof c r).filter Hs.hashed).map Hs.hashOf =
        (if Hs.hashed c = true then [Hs.hashOf c] else []) ++ ((getProof c r).tail.filter Hs.hashed).map Hs.hashOf := by
    intro c r
    cases hb : isBlank c with
    | true => rw [(isBlank_iff c).1 hb]; simp [getProof, Hs.hashed_blank]
    | false =>
      rw [getProof_eq_cons c r hb, List.filter_cons]
      cases Hs.hashed c <;> simp
  induction t generalizing k pre with
  | blank => cases k <;> simp [traverseReads, getProof]
  | leaf p v => cases k <;> simp [traverseReads, getProof]
  | ext p c ih =>
    obtain ⟨hpne, _, hcc⟩ := hc
    cases k with
    | nil => simp [traverseReads, getProof, hpne]
    | cons a rest =>
      simp only [traverseReads, getProof, cpl_drop_left_nil_iff]
      split
      · next hpre =>
        obtain ⟨r, hr⟩ := hpre
        rw [← hr]
        simp only [cpl_append_left, List.drop_left, List.tail_cons, List.map_append, ih hcc, child c r]
        split <;> rfl
      · rfl
  | branch ch v ih =>
    cases k with
    | nil => simp [traverseReads, getProof]
    | cons a rest =>
      simp only [traverseReads, getProof, List.tail_cons, List.map_append, ih a (hc.1 a), child (ch a) rest]
      split <;> rfl

theorem outR_reads_ok_iff {α : Type} (Hs : Hashing) (db : Db) (t : Node) (hc : Canon t) (k pre : Path) (x : α) :
    outR db (traverseReads Hs t k pre) x = .ok x ↔
      ∀ n ∈ (getProof t k).tail, Hs.hashed n = true → lookup db (Hs.hashOf n) ≠ none := by
  have : (∀ e ∈ traverseReads Hs t k pre, lookup db e.1 ≠ none) ↔
      ∀ h ∈ (traverseReads Hs t k pre).map (·.1), lookup db h ≠ none := by simp
  rw [outR_ok_iff, this, traverseReads_fst Hs t hc]
  simp only [List.mem_map, List.mem_filter]
  exact ⟨fun h n hn hh => h _ ⟨n, ⟨hn, hh⟩, rfl⟩, fun h _ ⟨n, ⟨hn, hh⟩, e⟩ => e ▸ h n hn hh⟩

/-- `_get` on the result of the traversal -/
def finishD (node : Item) (rem : Path) : Except TErr Bytes :=
  match classify node with
  | .blank => .ok []
  | .leaf p (.str v) => .ok (if rem = p then v else [])
  | .leaf p (.list _) => if rem = p then .error .invalid else .ok []
  | .ext _ _ => .ok []
  | .branch l => if rem ≠ [] then .error .invalid
                 else match l.getD 16 (.str []) with
                   | .str v => .ok v
                   | .list _ => .error .invalid
  | .invalid => .error .invalid

theorem getD_eq (db : Db) (root : Hash) (key : Path) :
    getD H db root key =
      match fetch H db (.str root) [] with
      | .error e => .error e
      | .ok rn =>
        match traverseD H db (fuelFor db key) rn key [] with
        | .error e => .error e
        | .ok (node, rem) => finishD node rem := rfl

theorem finishD_trav (t : Node) (hc : Canon t) (k : Path) :
    finishD (toItem H (traverseT t k).1) (traverseT t k).2 = .ok (get t k) := by
  have hg := getT_eq_get t hc k
  unfold getT at hg
  generalize hr : traverseT t k = r at hg
  obtain ⟨n, rem⟩ := r
  cases n with
  | blank => simpa [finishD, classify_blank] using hg
  | leaf p v => simpa [finishD, classify_leaf] using hg
  | ext p c => simpa [finishD, classify_ext] using hg
  | branch ch v =>
    have := traverse_branch_rem t k ch v rem hr
    subst this
    simp only [finishD, classify_branch, brItems_getD_16]
    simpa using hg

theorem enc_blank : enc H blank = [0x80] := by
  simp [enc, toItem, rlp, rlpLen]

theorem root_fetch_blank (db : Db) : fetch H db (.str (rootHash H blank)) [] = .ok (toItem H blank) := by
  simp [fetch, getNode, rootHash, enc_blank, blankRoot, toItem]

/-- **`get(key)` on a database that does not contradict the tree on the key's path**: a report of the root if
    that is missing, else of the first node on the path that is, else the contents of the tree -/
theorem getD_path (hlen : ∀ b, (H b).length = 32) (Hs : Hashing) (hhd : ∀ n, Hs.hashed n = isHashed H n)
    (hho : ∀ n, Hs.hashOf n = hashOf H n) (t : Node) (hc : Canon t) (db : Db) (k : Path)
    (hs : ∀ n ∈ getProof t k, Stored H t n → Compatible H db n ∧ rlpDecode (enc H n) = some (toItem H n)) :
    getD H db (rootHash H t) k =
      if isBlank t = false ∧ lookup db (rootHash H t) = none then .error (.missing (rootHash H t) [])
      else outR db (traverseReads Hs t k []) (get t k) := by
  have htrav : (match traverseD H db (fuelFor db k) (toItem H t) k [] with
      | .error e => .error e
      | .ok (node, rem) => finishD node rem) = outR db (traverseReads Hs t k []) (get t k) := by
    rw [traverseD_path H hlen Hs hhd hho db t hc k (fuelFor db k) [] (by simp [fuelFor]; omega)
      (fun n hn hh => hs n (List.mem_of_mem_tail hn) (Or.inr hh))]
    unfold outR
    cases (traverseReads Hs t k []).find? fun e => (lookup db e.1).isNone with
    | none => exact finishD_trav H t hc k
    | some e => rfl
  rw [getD_eq]
  cases hb : isBlank t with
  | true =>
    rw [(isBlank_iff t).1 hb] at htrav ⊢
    simp only [root_fetch_blank, htrav, Bool.true_eq_false, false_and, ↓reduceIte]
  | false =>
    rw [show rootHash H t = hashOf H t from rfl,
      fetch_hash H hlen db t [] (hs t (mem_getProof_self t k hb) (Or.inl rfl))]
    cases hlk : lookup db (hashOf H t) with
    | none => simp
    | some b => simp only [reduceCtorEq, ↓reduceIte, htrav, and_false]

/-- `traverseReads` lists fetches for a `Hashing`; where the statement names none, any that agrees with `H` serves -/
theorem exists_hashing : ∃ Hs : Hashing, (∀ n, Hs.hashed n = isHashed H n) ∧ ∀ n, Hs.hashOf n = hashOf H n :=
  ⟨⟨isHashed H, hashOf H, enc H, fun _ _ => true, by simp [isHashed, isBlank]⟩, fun _ => rfl, fun _ => rfl⟩

/-- **completeness of the reader**: if every stored node on the key's path resolves, the
    database lookup returns exactly the contents of the tree -/
theorem getD_of_path (hlen : ∀ b, (H b).length = 32)
    (t : Node) (hc : Canon t) (db : Db) (k : Path) (hdec : DecOkOn H t k)
    (hres : ∀ n ∈ getProof t k, Stored H t n → Resolves H db n) :
    getD H db (rootHash H t) k = .ok (get t k) := by
  obtain ⟨Hs, hhd, hho⟩ := exists_hashing H
  have hlk : ∀ n ∈ getProof t k, Stored H t n → lookup db (hashOf H n) ≠ none :=
    fun n hn hs => by rw [(hres n hn hs).2]; nofun
  rw [getD_path H hlen Hs hhd hho t hc db k (fun n hn hs =>
    ⟨(hres n hn hs).compatible, hdec n hn⟩)]
  rw [if_neg fun h => hlk t (mem_getProof_self t k h.1) (Or.inl rfl) h.2, outR_reads_ok_iff Hs db t hc]
  exact fun n hn hh => hho n ▸ hlk n (List.mem_of_mem_tail hn) (Or.inr (hhd n ▸ hh))

/-- **soundness of the reader**: if the database never contradicts the honest tree on the key's
    path, the lookup returns the honest value or reports a missing node — never another value -/
theorem getD_sound (hlen : ∀ b, (H b).length = 32)
    (t : Node) (hc : Canon t) (db : Db) (k : Path) (hdec : DecOkOn H t k)
    (hcomp : ∀ n ∈ getProof t k, Stored H t n → Compatible H db n) :
    getD H db (rootHash H t) k = .ok (get t k) ∨ ∃ h used, getD H db (rootHash H t) k = .error (.missing h used) := by
  obtain ⟨Hs, hhd, hho⟩ := exists_hashing H
  rw [getD_path H hlen Hs hhd hho t hc db k (fun n hn hs => ⟨hcomp n hn hs, hdec n hn⟩)]
  split
  · exact .inr ⟨_, _, rfl⟩
  · exact outR_cases ..

/-- a stored node on the key's path that the database does not have makes the lookup fail with a
    missing-node report -/
theorem getD_withheld (hlen : ∀ b, (H b).length = 32)
    (t : Node) (hc : Canon t) (db : Db) (k : Path) (hdec : DecOkOn H t k)
    (hcomp : ∀ n ∈ getProof t k, Stored H t n → Compatible H db n)
    (n : Node) (hn : n ∈ getProof t k) (hs : Stored H t n) (hmiss : lookup db (hashOf H n) = none) :
    ∃ h used, getD H db (rootHash H t) k = .error (.missing h used) := by
  obtain ⟨Hs, hhd, hho⟩ := exists_hashing H
  have hb : isBlank t = false := by
    cases t with
    | blank => cases hn
    | _ => rfl
  rw [getD_path H hlen Hs hhd hho t hc db k (fun n hn hs => ⟨hcomp n hn hs, hdec n hn⟩)]
  split
  · exact ⟨_, _, rfl⟩
  · next hroot =>
    refine (outR_cases ..).resolve_left fun hok => ?_
    rw [getProof_eq_cons t k hb] at hn
    rcases List.mem_cons.1 hn with rfl | hn
    · exact hroot ⟨hb, hmiss⟩
    · have hnt : n ≠ t := fun e => hroot ⟨hb, e ▸ hmiss⟩
      exact (outR_reads_ok_iff Hs db t hc k [] _).1 hok n hn (hhd n ▸ hs.resolve_left hnt) (hho n ▸ hmiss)

end PyTrie.HexD
