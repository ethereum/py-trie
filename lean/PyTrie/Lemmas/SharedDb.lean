import PyTrie.Lemmas.WorldComplete
/-! Several tries over one database (`Props/C04Shared.lean`): the
    world after `newTrie` / `openAt` / a successful `setDel` on trie `i`, including the recorded roots. -/
namespace PyTrie.HexW
open PyTrie.Hex hiding get set
open PyTrie.Hex.Node

variable (Hs : Hashing) (blankRootHash : Hash)

theorem World.noteRoot_roots_sub (w : World) (T : TrieSt) (e : Hash × Node) (he : e ∈ (w.noteRoot T).roots) :
    e ∈ w.roots ∨ e = (T.root, T.tree) := by
  unfold World.noteRoot at he
  split at he
  · exact Or.inl he
  · simp only [List.mem_cons] at he
    rcases he with he | he
    · exact Or.inr he
    · exact Or.inl he

theorem World.noteRoot_recorded (w : World) (T : TrieSt) : ∃ t, (T.root, t) ∈ (w.noteRoot T).roots := by
  unfold World.noteRoot
  split
  · next h =>
    obtain ⟨e, he, heq⟩ := List.any_eq_true.1 h
    have : e.1 = T.root := by simpa using heq
    exact ⟨e.2, by rw [← this]; exact he⟩
  · exact ⟨T.tree, List.mem_cons_self⟩

theorem World.setDel_trie_ok_roots (w : World) (i : Nat) (key : Bytes) (val : Option Bytes) (T' : TrieSt)
    (hok : (opSetDel Hs blankRootHash w.tries[i]! key val (w.opSt i)).2 = .ok T') :
    (∀ e ∈ (w.setDel Hs blankRootHash (.trie i) key val).2.roots, e ∈ w.roots ∨ e = (T'.root, T'.tree)) ∧
    ∃ t, (T'.root, t) ∈ (w.setDel Hs blankRootHash (.trie i) key val).2.roots := by
  unfold World.setDel
  simp only []
  rcases hr : opSetDel Hs blankRootHash w.tries[i]! key val (w.opSt i) with ⟨st', r⟩
  rw [hr] at hok
  simp only [] at hok
  subst hok
  simp only []
  exact ⟨World.noteRoot_roots_sub _ T', World.noteRoot_recorded _ T'⟩

/-- `HexaryTrie(db, root)`: refused, or a new non-pruning trie whose tree is blank (blank root) or the recorded one -/
theorem World.openAt_cases (w : World) (r : Hash) :
    w.openAt blankRootHash r = none ∨
    ∃ t, w.openAt blankRootHash r =
        some ({ w with tries := w.tries.push { tree := t, root := r, prune := false },
                       counts := w.counts.push [] }, w.tries.size) ∧
      ((r = blankRootHash ∧ t = blank) ∨ (r, t) ∈ w.roots) := by
  unfold World.openAt
  by_cases hb : (r == blankRootHash) = true
  · refine Or.inr ⟨blank, by simp [hb], Or.inl ⟨by simpa using hb, rfl⟩⟩
  · simp only [hb, Bool.false_eq_true, if_false]
    cases hf : w.roots.find? (fun e => e.1 == r) with
    | none => exact Or.inl (by simp)
    | some e =>
      refine Or.inr ⟨e.2, by simp, Or.inr ?_⟩
      have h1 := List.mem_of_find?_eq_some hf
      have h2 : e.1 = r := by simpa using List.find?_some hf
      rw [← h2]; exact h1

theorem complete_blank (d : Dict Bytes) (p : Bool) :
    Complete Hs blankRootHash d { tree := blank, root := blankRootHash, prune := p } :=
  ⟨by simp [isBlank], trivial⟩

end PyTrie.HexW
