import PyTrie.Lemmas.RawRefines
import PyTrie.Lemmas.MissingPath
/-! **The raw-level write path on incomplete databases (C07 at raw level).** When some node bodies are absent from the
    database, the raw-level `_set` / `_delete` (`Model/HexRaw.lean`) either finds every node it fetches — and then returns
    exactly what it returns on the complete database — or stops with `missing h` where `h` is the *first* fetch of the
    effect-level event list (`setE` / `deleteE`) that the database cannot answer. Together with the effect-level theorems
    (`C07.set_reads_on_path`, `delete_reads_on_path`, `set_reads_before_writes`) this makes the C07 statements about `set`
    and `delete` statements about the statement-by-statement transcription of the code. -/
namespace PyTrie.HexRaw
open PyTrie PyTrie.Hex PyTrie.HexD PyTrie.Hex.Node
open PyTrie.HexW (OnPath SiblingOnPath)

variable (H : Bytes → Bytes)

theorem rawSet_partial (hlen : ∀ b, (H b).length = 32) (t : Node) (hc : Canon t) (k : Path) (v : Bytes)
    (st : St) (hst : PartialD H st.db t) (fuel : Nat) (hf : 2 * k.length + 2 ≤ fuel) :
    rawSet H fuel st (toItem H t) k v =
      match firstMissing st.db (setE (stdHashing H) t k v).2 with
      | some h => .error (.missing h)
      | none => .ok (toItem H (setE (stdHashing H) t k v).1,
          { db := applyPersists st.db (setE (stdHashing H) t k v).2, evs := st.evs ++ (setE (stdHashing H) t k v).2 }) :=
  rawSet_partial_app H hlen v t hc k st fuel st.db rfl hst hf

theorem rawDelete_partial (hlen : ∀ b, (H b).length = 32) (t : Node) (hc : Canon t) (k : Path)
    (st : St) (hst : PartialD H st.db t) (fuel : Nat) (hf : 2 * k.length + 2 ≤ fuel) :
    rawDelete H fuel st (toItem H t) k =
      match firstMissing st.db (deleteE (stdHashing H) t k).2 with
      | some h => .error (.missing h)
      | none => .ok (toItem H (deleteE (stdHashing H) t k).1,
          { db := applyPersists st.db (deleteE (stdHashing H) t k).2, evs := st.evs ++ (deleteE (stdHashing H) t k).2 }) :=
  rawDelete_partial_app H hlen t hc k st fuel st.db rfl hst hf

/-- a missing node reported by the raw-level `_set` lies on the key's path -/
theorem rawSet_missing_on_path (hlen : ∀ b, (H b).length = 32) (t : Node) (hc : Canon t) (k : Path) (v : Bytes)
    (st : St) (hst : PartialD H st.db t) (fuel : Nat) (hf : 2 * k.length + 2 ≤ fuel) (h : Hash)
    (he : rawSet H fuel st (toItem H t) k v = .error (.missing h)) :
    lookup st.db h = none ∧ OnPath (stdHashing H) t k h := by
  rw [rawSet_partial_app H hlen v t hc k st fuel st.db rfl hst hf] at he
  obtain ⟨h1, h2⟩ := outP_missing _ _ _ _ _ he
  exact ⟨h1, PyTrie.HexW.setE_reads_on_path (stdHashing H) t hc k v h h2⟩

/-- a missing node reported by the raw-level `_delete` lies on the key's path or is the sibling a normalisation reads -/
theorem rawDelete_missing_on_path (hlen : ∀ b, (H b).length = 32) (t : Node) (hc : Canon t) (k : Path)
    (st : St) (hst : PartialD H st.db t) (fuel : Nat) (hf : 2 * k.length + 2 ≤ fuel) (h : Hash)
    (he : rawDelete H fuel st (toItem H t) k = .error (.missing h)) :
    lookup st.db h = none ∧ (OnPath (stdHashing H) t k h ∨ SiblingOnPath (stdHashing H) t k h) := by
  rw [rawDelete_partial_app H hlen t hc k st fuel st.db rfl hst hf] at he
  obtain ⟨h1, h2⟩ := outP_missing _ _ _ _ _ he
  exact ⟨h1, PyTrie.HexW.deleteE_reads_on_path (stdHashing H) t hc k h h2⟩

end PyTrie.HexRaw
