import PyTrie.Model.Fog
import PyTrie.Lemmas.HexDbProofs
import PyTrie.Lemmas.PathOrder
/-! `HexaryTrieFog` as a strictly sorted, prefix-free list of nibble paths. -/
namespace PyTrie.Fog
open PyTrie.Hex

def Sorted (f : Fog) : Prop := f.Pairwise (fun a b => plt a b = true)
/-- INVARIANT of the class: no unexplored prefix starts with another one -/
def Antichain (f : Fog) : Prop := ∀ a ∈ f, ∀ b ∈ f, a <+: b → a = b
def Wf (f : Fog) : Prop := Sorted f ∧ Antichain f

theorem mem_insert (f : Fog) (p q : Path) : q ∈ insert f p ↔ q = p ∨ q ∈ f := by
  induction f with
  | nil => simp [insert]
  | cons x rest ih =>
    unfold insert
    split
    · exact List.mem_cons
    · split
      · next h => subst h; simp
      · rw [List.mem_cons, ih, List.mem_cons, or_left_comm]

theorem sorted_insert (f : Fog) (hs : Sorted f) (p : Path) : Sorted (insert f p) := by
  induction f with
  | nil => simp [insert, Sorted]
  | cons x rest ih =>
    have ⟨hx, hr⟩ := List.pairwise_cons.1 hs
    unfold insert
    split
    · next h =>
      refine List.pairwise_cons.2 ⟨?_, hs⟩
      intro a ha
      rcases List.mem_cons.1 ha with rfl | ha
      · exact h
      · exact plt_trans h (hx a ha)
    · split
      · exact hs
      · next h1 h2 =>
        refine List.pairwise_cons.2 ⟨?_, ih hr⟩
        intro a ha
        rcases (mem_insert rest p a).1 ha with rfl | ha
        · rcases plt_total a x with h | h | h
          · exact absurd h h1
          · exact absurd h h2
          · exact h
        · exact hx a ha

theorem mem_foldl_insert (l : List Path) (f : Fog) (q : Path) :
    q ∈ l.foldl insert f ↔ q ∈ l ∨ q ∈ f := by
  induction l generalizing f with
  | nil => simp
  | cons x xs ih => rw [List.foldl_cons, ih, mem_insert, List.mem_cons, or_left_comm, or_assoc]

theorem sorted_foldl_insert (l : List Path) (f : Fog) (hs : Sorted f) : Sorted (l.foldl insert f) := by
  induction l generalizing f with
  | nil => exact hs
  | cons x xs ih => exact ih _ (sorted_insert f hs x)

theorem mem_erase (f : Fog) (p q : Path) : q ∈ erase f p ↔ q ∈ f ∧ q ≠ p := by
  simp [erase]

theorem sorted_erase (f : Fog) (hs : Sorted f) (p : Path) : Sorted (erase f p) :=
  List.Pairwise.sublist List.filter_sublist hs

theorem wf_init : Wf init := by
  refine ⟨by simp [init, Sorted], ?_⟩
  intro a ha b hb _
  simp [init] at ha hb
  rw [ha, hb]

theorem isComplete_iff (f : Fog) : isComplete f = true ↔ f = [] := by
  simp [isComplete]

theorem nested_iff (subs : List Path) :
    ((subs.map List.length).eraseDups.length > 1 && nestedSegment subs) = false ↔
      (∀ a ∈ subs, ∀ b ∈ subs, a <+: b → a = b) := by
  constructor
  · intro h a ha b hb hab
    apply Classical.byContradiction
    intro hne
    have hlen : a.length < b.length :=
      Nat.lt_of_le_of_ne hab.length_le fun h => hne (hab.eq_of_length h)
    have hnest : nestedSegment subs = true := by
      simp only [nestedSegment, List.any_eq_true, Bool.and_eq_true, decide_eq_true_eq]
      refine ⟨b, hb, a.length, List.mem_map.2 ⟨a, ha, rfl⟩, hlen, ?_⟩
      rw [← List.prefix_iff_eq_take.1 hab]
      simpa using ha
    have h2 : 1 < (subs.map List.length).eraseDups.length := by
      have ma : a.length ∈ (subs.map List.length).eraseDups :=
        List.mem_eraseDups.2 (List.mem_map.2 ⟨a, ha, rfl⟩)
      have mb : b.length ∈ (subs.map List.length).eraseDups :=
        List.mem_eraseDups.2 (List.mem_map.2 ⟨b, hb, rfl⟩)
      generalize (subs.map List.length).eraseDups = l at ma mb
      match l, ma, mb with
      | [], ma, _ => simp at ma
      | [x], ma, mb => simp at ma mb; omega
      | _ :: _ :: _, _, _ => simp
    simp [hnest, h2] at h
  · intro h
    have : nestedSegment subs = false := by
      cases hn : nestedSegment subs with
      | false => rfl
      | true =>
        simp only [nestedSegment, List.any_eq_true, Bool.and_eq_true, decide_eq_true_eq] at hn
        obtain ⟨seg, hseg, n, _, hlt, hmem⟩ := hn
        have hmem' : seg.take n ∈ subs := by simpa using hmem
        have := h _ hmem' _ hseg (List.take_prefix n seg)
        have hl := congrArg List.length this
        simp at hl; omega
    simp [this]

/-- `explore` spelled out: it accepts exactly an unexplored prefix with distinct, prefix-free sub-segments, and its only
    error is `ValidationError` -/
theorem explore_eq (f : Fog) (old : Path) (subs : List Path) :
    explore f old subs =
      if old ∈ f ∧ subs.Nodup ∧ (∀ a ∈ subs, ∀ b ∈ subs, a <+: b → a = b) then
        .ok ((subs.map (old ++ ·)).foldl insert (erase f old))
      else .error .validation := by
  simp only [← nested_iff]
  unfold explore
  by_cases h1 : old ∈ f
  · by_cases h2 : subs.Nodup
    · cases h3 : ((subs.map List.length).eraseDups.length > 1 && nestedSegment subs) <;> simp [h1, h2]
    · simp [h1, h2]
  · simp [h1]

theorem explore_eq_ok_iff (f : Fog) (old : Path) (subs : List Path) (f' : Fog) :
    explore f old subs = .ok f' ↔
      (old ∈ f ∧ subs.Nodup ∧ (∀ a ∈ subs, ∀ b ∈ subs, a <+: b → a = b)) ∧
        f' = (subs.map (old ++ ·)).foldl insert (erase f old) := by
  rw [explore_eq]
  split
  · next h => exact ⟨fun e => ⟨h, (Except.ok.inj e).symm⟩, fun e => e.2 ▸ rfl⟩
  · next h => exact ⟨fun e => (by cases e), fun e => absurd e.1 h⟩

theorem explore_ok_iff (f : Fog) (old : Path) (subs : List Path) :
    (∃ f', explore f old subs = .ok f') ↔
      old ∈ f ∧ subs.Nodup ∧ (∀ a ∈ subs, ∀ b ∈ subs, a <+: b → a = b) := by
  simp only [explore_eq_ok_iff]
  constructor
  · rintro ⟨_, h, _⟩; exact h
  · intro h; exact ⟨_, h, rfl⟩

theorem explore_err (f : Fog) (old : Path) (subs : List Path) (e : Err) (h : explore f old subs = .error e) :
    e = .validation := by
  rw [explore_eq] at h
  split at h <;> cases h
  rfl

theorem explore_mem {f : Fog} {old : Path} {subs : List Path} {f' : Fog}
    (h : explore f old subs = .ok f') (q : Path) :
    q ∈ f' ↔ (q ∈ f ∧ q ≠ old) ∨ ∃ s ∈ subs, q = old ++ s := by
  obtain ⟨_, rfl⟩ := (explore_eq_ok_iff f old subs f').1 h
  rw [mem_foldl_insert, mem_erase, List.mem_map]
  constructor
  · rintro (⟨s, hs, rfl⟩ | h)
    · exact Or.inr ⟨s, hs, rfl⟩
    · exact Or.inl h
  · rintro (h | ⟨s, hs, rfl⟩)
    · exact Or.inr h
    · exact Or.inl ⟨s, hs, rfl⟩

theorem explore_spec (f : Fog) (hw : Wf f) (old : Path) (subs : List Path) (f' : Fog)
    (h : explore f old subs = .ok f') :
    Wf f' ∧ ∀ q, q ∈ f' ↔ (q ∈ f ∧ q ≠ old) ∨ ∃ s ∈ subs, q = old ++ s := by
  refine ⟨⟨?_, ?_⟩, explore_mem h⟩
  · obtain ⟨_, rfl⟩ := (explore_eq_ok_iff f old subs f').1 h
    exact sorted_foldl_insert _ _ (sorted_erase f hw.1 old)
  · obtain ⟨⟨hold, _, hanti⟩, _⟩ := (explore_eq_ok_iff f old subs f').1 h
    intro a ha b hb hab
    rcases (explore_mem h a).1 ha with ⟨ha, hane⟩ | ⟨s, hs, rfl⟩ <;>
      rcases (explore_mem h b).1 hb with ⟨hb, hbne⟩ | ⟨t, ht, rfl⟩
    · exact hw.2 a ha b hb hab
    · exfalso
      rcases List.prefix_or_prefix_of_prefix hab (List.prefix_append old t) with h1 | h1
      · exact hane (hw.2 a ha old hold h1)
      · exact hane (hw.2 old hold a ha h1).symm
    · exfalso
      exact hbne (hw.2 old hold b hb ((List.prefix_append old s).trans hab)).symm
    · rw [List.prefix_append_right_inj] at hab
      rw [hanti s hs t ht hab]

theorem sorted_ext (f g : Fog) (hf : Sorted f) (hg : Sorted g) (h : ∀ q, q ∈ f ↔ q ∈ g) : f = g :=
  List.Perm.eq_of_pairwise (fun _ _ _ _ hab hba => absurd hba (by rw [plt_asymm hab]; simp)) hf hg
    ((List.perm_ext_iff_of_nodup (hf.imp plt_ne) (hg.imp plt_ne)).2 h)

theorem explore_comm (f : Fog) (hw : Wf f) (p q : Path) (hpq : p ≠ q) (s₁ s₂ : List Path)
    (f₁ f₁₂ f₂ f₂₁ : Fog)
    (h1 : explore f p s₁ = .ok f₁) (h12 : explore f₁ q s₂ = .ok f₁₂)
    (h2 : explore f q s₂ = .ok f₂) (h21 : explore f₂ p s₁ = .ok f₂₁) : f₁₂ = f₂₁ := by
  have w1 := (explore_spec f hw p s₁ f₁ h1).1
  have w2 := (explore_spec f hw q s₂ f₂ h2).1
  have w12 := (explore_spec f₁ w1 q s₂ f₁₂ h12).1
  have w21 := (explore_spec f₂ w2 p s₁ f₂₁ h21).1
  have hp : p ∈ f := ((explore_eq_ok_iff _ _ _ _).1 h1).1.1
  have hq : q ∈ f := ((explore_eq_ok_iff _ _ _ _).1 h2).1.1
  have e1 : ∀ s, p ++ s ≠ q := fun s e =>
    hpq (hw.2 p hp q hq (e ▸ List.prefix_append p s))
  have e2 : ∀ s, q ++ s ≠ p := fun s e =>
    hpq (hw.2 q hq p hp (e ▸ List.prefix_append q s)).symm
  apply sorted_ext _ _ w12.1 w21.1
  intro x
  rw [explore_mem h12, explore_mem h21, explore_mem h1, explore_mem h2]
  constructor
  · rintro (⟨⟨hx, hxp⟩ | ⟨s, hs, rfl⟩, hxq⟩ | ⟨s, hs, rfl⟩)
    · exact Or.inl ⟨Or.inl ⟨hx, hxq⟩, hxp⟩
    · exact Or.inr ⟨s, hs, rfl⟩
    · exact Or.inl ⟨Or.inr ⟨s, hs, rfl⟩, e2 s⟩
  · rintro (⟨⟨hx, hxp⟩ | ⟨s, hs, rfl⟩, hxq⟩ | ⟨s, hs, rfl⟩)
    · exact Or.inl ⟨Or.inl ⟨hx, hxq⟩, hxp⟩
    · exact Or.inr ⟨s, hs, rfl⟩
    · exact Or.inl ⟨Or.inr ⟨s, hs, rfl⟩, e1 s⟩

theorem explore_comm_ok (f : Fog) (hw : Wf f) (p q : Path) (hpq : p ≠ q) (s₁ s₂ : List Path)
    (f₁ f₁₂ : Fog) (h1 : explore f p s₁ = .ok f₁) (h12 : explore f₁ q s₂ = .ok f₁₂) (hq : q ∈ f) :
    ∃ f₂ f₂₁, explore f q s₂ = .ok f₂ ∧ explore f₂ p s₁ = .ok f₂₁ := by
  have _ := hw  -- well-formedness is not needed for this direction
  have a1 := ((explore_eq_ok_iff _ _ _ _).1 h1).1
  have a12 := ((explore_eq_ok_iff _ _ _ _).1 h12).1
  obtain ⟨f₂, h2⟩ := (explore_ok_iff f q s₂).2 ⟨hq, a12.2⟩
  have hp2 : p ∈ f₂ := (explore_mem h2 p).2 (Or.inl ⟨a1.1, hpq⟩)
  obtain ⟨f₂₁, h21⟩ := (explore_ok_iff f₂ p s₁).2 ⟨hp2, a1.2⟩
  exact ⟨f₂, f₂₁, h2, h21⟩

theorem explore_nil (g : Fog) (p : Path) :
    explore g p [] = if g.contains p then .ok (erase g p) else .error .validation := by
  unfold explore
  cases g.contains p <;> rfl

theorem markAllComplete_eq_fold (f : Fog) (ps : List Path) :
    markAllComplete f ps = ps.foldlM (fun g p => explore g p []) f := by
  induction ps generalizing f with
  | nil => rfl
  | cons p ps ih =>
    rw [List.foldlM_cons, explore_nil, markAllComplete]
    split
    · rw [ih]; rfl
    · rfl

theorem erase_head (p : Path) (rest : Fog) (h : ∀ r ∈ rest, plt p r = true) :
    erase (p :: rest) p = rest := by
  unfold erase
  rw [List.filter_cons]
  simp only [decide_true, Bool.not_true, Bool.false_eq_true, ↓reduceIte]
  apply List.filter_eq_self.2
  intro r hr
  have := plt_ne (h r hr)
  simp [Ne.symm this]

theorem insert_front (rest : Fog) (x : Path) (h : ∀ r ∈ rest, plt x r = true) :
    insert rest x = x :: rest := by
  cases rest with
  | nil => rfl
  | cons r rs => simp [Fog.insert, h r List.mem_cons_self]

theorem insert_mid (A rest : Fog) (x : Path) (hA : ∀ a ∈ A, plt a x = true)
    (hr : ∀ r ∈ rest, plt x r = true) : insert (A ++ rest) x = A ++ x :: rest := by
  induction A with
  | nil => exact insert_front rest x hr
  | cons a A ih =>
    have ha := hA a List.mem_cons_self
    have h1 : plt x a = false := plt_asymm ha
    have h2 : x ≠ a := (plt_ne ha).symm
    simp [Fog.insert, h1, h2, ih (fun b hb => hA b (List.mem_cons_of_mem _ hb))]

/-- inserting a sorted run `L` that belongs between `A` and `rest` -/
theorem foldl_insert_front (L : Fog) (rest : Fog) (hr : ∀ x ∈ L, ∀ r ∈ rest, plt x r = true) :
    ∀ A : Fog, Sorted (A ++ L) → L.foldl insert (A ++ rest) = A ++ L ++ rest := by
  induction L with
  | nil => intro A _; simp
  | cons x L ih =>
    intro A hs
    have hp := List.pairwise_append.1 hs
    rw [List.foldl_cons, insert_mid A rest x (fun a ha => hp.2.2 a ha x List.mem_cons_self)
      (hr x List.mem_cons_self)]
    have hs' : Sorted ((A ++ [x]) ++ L) := by simpa using hs
    have := ih (fun y hy => hr y (List.mem_cons_of_mem _ hy)) (A ++ [x]) hs'
    simpa using this

theorem deserialize_serialize (f : Fog) (hs : Sorted f) : deserialize (serialize f) = some f := by
  have h : ((serialize f).mapM fun b => (HexD.hpDecode b).map (·.1)) = some f := by
    unfold serialize
    induction f with
    | nil => rfl
    | cons x xs ih =>
      have := ih (List.pairwise_cons.1 hs).2
      simp [List.mapM_cons, HexD.hpDecode_hp, this]
  unfold deserialize
  rw [h]
  simpa using foldl_insert_front f [] (by simp) [] hs

theorem bisect_view (f : Fog) (key : Path) (hs : Sorted f) :
    ∃ L R, f = L ++ R ∧ bisect f key = L.length ∧
      (∀ a ∈ L, plt key a = false) ∧ (∀ b ∈ R, plt key b = true) := by
  induction f with
  | nil => exact ⟨[], [], rfl, rfl, by simp, by simp⟩
  | cons x xs ih =>
    have ⟨hx, hxs⟩ := List.pairwise_cons.1 hs
    cases hk : plt key x with
    | true =>
      refine ⟨[], x :: xs, rfl, by simp [bisect, hk], by simp, ?_⟩
      intro b hb
      rcases List.mem_cons.1 hb with rfl | hb
      · exact hk
      · exact plt_trans hk (hx b hb)
    | false =>
      obtain ⟨L, R, e, hb, hL, hR⟩ := ih hxs
      refine ⟨x :: L, R, by rw [e]; rfl, ?_, ?_, hR⟩
      · simp only [bisect] at hb ⊢
        simp [hk, hb]
      · intro a ha
        rcases List.mem_cons.1 ha with rfl | ha
        · exact hk
        · exact hL a ha

theorem sorted_mid {L : Fog} {m : Path} {R : Fog} (hs : Sorted (L ++ m :: R)) :
    (∀ a ∈ L, plt a m = true) ∧ (∀ b ∈ R, plt m b = true) := by
  have h := List.pairwise_append.1 hs
  exact ⟨fun a ha => h.2.2 a ha m List.mem_cons_self, (List.pairwise_cons.1 h.2.1).1⟩

/-- a well-formed fog around a key: nothing is `≤ key` (and nothing contains the key), or the fog splits at its last
    element `left ≤ key`, the only unexplored prefix that can contain the key -/
theorem fog_split (f : Fog) (hw : Wf f) (key : Path) :
    (bisect f key = 0 ∧ (∀ b ∈ f, plt key b = true) ∧ ∀ q ∈ f, ¬ q <+: key) ∨
    ∃ L left R, f = L ++ left :: R ∧ bisect f key = L.length + 1 ∧
      (∀ a ∈ L ++ [left], plt key a = false) ∧ (∀ b ∈ R, plt key b = true) ∧
      ∀ q ∈ f, q <+: key → q = left := by
  obtain ⟨L, R, rfl, hb, hL, hR⟩ := bisect_view f key hw.1
  rcases List.eq_nil_or_concat L with rfl | ⟨L', left, rfl⟩
  · refine Or.inl ⟨hb, hR, fun q hq hqk => ?_⟩
    have := prefix_le hqk
    rw [hR q hq] at this
    cases this
  · rw [List.concat_eq_append] at hb hL
    rw [List.concat_eq_append, List.append_assoc, List.singleton_append] at hw ⊢
    refine Or.inr ⟨L', left, R, rfl, by simpa using hb, hL, hR, fun q hq hqk => ?_⟩
    have ⟨m1, m2⟩ := sorted_mid hw.1
    have hkq := prefix_le hqk
    have h1 : plt left q = false := by
      rcases List.mem_append.1 hq with h | h
      · exact plt_asymm (m1 q h)
      · rcases List.mem_cons.1 h with rfl | h
        · exact plt_irrefl _
        · rw [hR q h] at hkq; cases hkq
    exact hw.2 q hq left (by simp) (prefix_between hqk h1 (hL left (by simp)))

/-- an element `m` with everything before it `≤ key` and everything after it `> key` is adjacent to the key: nothing lies
    strictly between them -/
theorem adjacent {L : Fog} {m : Path} {R : Fog} {key : Path}
    (hs : Sorted (L ++ m :: R)) (hL : ∀ a ∈ L, plt key a = false) (hR : ∀ b ∈ R, plt key b = true) :
    ∀ q ∈ L ++ m :: R,
      ¬ (plt m q = true ∧ plt q key = true) ∧ ¬ (plt key q = true ∧ plt q m = true) := by
  have ⟨m1, m2⟩ := sorted_mid hs
  intro q hq
  rcases List.mem_append.1 hq with h | h
  · have := plt_asymm (m1 q h)
    have := hL q h
    simp [*]
  · rcases List.mem_cons.1 h with rfl | h
    · simp [plt_irrefl]
    · have := plt_asymm (m2 q h)
      have := plt_asymm (hR q h)
      simp [*]

theorem right_least {L : Fog} {right : Path} {R : Fog} {key : Path}
    (hs : Sorted (L ++ right :: R)) (hL : ∀ a ∈ L, plt key a = false) :
    ∀ q ∈ L ++ right :: R, plt key q = true → plt q right = false := by
  have ⟨m1, m2⟩ := sorted_mid hs
  intro q hq hk
  rcases List.mem_append.1 hq with h | h
  · rw [hL q h] at hk; cases hk
  · rcases List.mem_cons.1 h with rfl | h
    · exact plt_irrefl _
    · exact plt_asymm (m2 q h)

theorem nearestRight_eval0 (R : Fog) (key : Path) (h : bisect R key = 0) :
    nearestRight R key = match R with | [] => .error .perfect | x :: _ => .ok x := by
  cases R with
  | nil => rfl
  | cons x xs => simp [nearestRight, h]

theorem getD_mid (L : Fog) (x : Path) (R : Fog) : (L ++ x :: R).getD L.length [] = x := by
  rw [List.getD_eq_getElem?_getD, List.getElem?_append_right (Nat.le_refl _), Nat.sub_self]
  rfl

theorem nearestRight_eval1 (L : Fog) (left : Path) (R : Fog) (key : Path)
    (h : bisect (L ++ left :: R) key = L.length + 1) :
    nearestRight (L ++ left :: R) key =
      if left <+: key then .ok left
      else match R.head? with | some x => .ok x | none => .error .fullDir := by
  have e2 : (L ++ left :: R)[L.length + 1]? = R.head? := by
    rw [List.getElem?_append_right (by omega)]
    cases R <;> simp
  simp only [nearestRight, h, Nat.add_sub_cancel, getD_mid, e2, if_neg (Nat.succ_ne_zero _)]
  split
  · rfl
  · cases R <;> rfl

theorem nearestUnknown_eval0 (R : Fog) (key : Path) (h : bisect R key = 0) :
    nearestUnknown R key = match R with | [] => .error .perfect | x :: _ => .ok x := by
  cases R with
  | nil => rfl
  | cons x xs => simp [nearestUnknown, h]

theorem nearestUnknown_eval1 (L : Fog) (left : Path) (key : Path)
    (h : bisect (L ++ [left]) key = L.length + 1) :
    nearestUnknown (L ++ [left]) key = .ok left := by
  simp [nearestUnknown, h]

theorem nearestUnknown_eval2 (L : Fog) (left right : Path) (R : Fog) (key : Path)
    (h : bisect (L ++ left :: right :: R) key = L.length + 1) :
    nearestUnknown (L ++ left :: right :: R) key =
      if ilt (prefixDistance left key) (prefixDistance key right) then .ok left else .ok right := by
  have e2 : (L ++ left :: right :: R).getD (L.length + 1) [] = right := by
    have := getD_mid (L ++ [left]) right R
    rwa [List.append_assoc, List.length_append] at this
  simp only [nearestUnknown, h, Nat.add_sub_cancel, getD_mid, e2, if_neg (Nat.succ_ne_zero _)]
  rw [if_neg (by simp)]

theorem dist_lt (p key right : Path) (hp : p <+: key) (hlt : plt key right = true)
    (hnp : ¬ p <+: right) : ilt (prefixDistance p key) (prefixDistance key right) = true := by
  induction p generalizing key right with
  | nil => exact absurd List.nil_prefix hnp
  | cons x xs ih =>
    cases key with
    | nil => simp at hp
    | cons y ks =>
      have ⟨hxy, hp'⟩ := List.cons_prefix_cons.1 hp
      subst hxy
      cases right with
      | nil => simp [plt] at hlt
      | cons z zs =>
        rw [plt_cons] at hlt
        simp only [prefixDistance, ilt]
        rcases hlt with hlt | ⟨rfl, hlt⟩
        · have : (x.val : Int) - x.val < (z.val : Int) - x.val := by omega
          rw [if_pos this]
        · have hnp' : ¬ xs <+: zs := fun h => hnp (List.cons_prefix_cons.2 ⟨rfl, h⟩)
          simp [ih ks zs hp' hlt hnp']

theorem nearestRight_spec (f : Fog) (hw : Wf f) (key : Path) :
    (nearestRight f key = .error .perfect ↔ f = []) ∧
    (nearestRight f key ≠ .error .validation) ∧
    (∀ r, nearestRight f key = .ok r → r ∈ f) ∧
    (∀ q ∈ f, q <+: key → nearestRight f key = .ok q) ∧
    ((∀ q ∈ f, ¬ q <+: key) → ∀ r, nearestRight f key = .ok r →
        plt key r = true ∧ ∀ q ∈ f, plt key q = true → plt q r = false) ∧
    (nearestRight f key = .error .fullDir ↔
        f ≠ [] ∧ (∀ q ∈ f, ¬ q <+: key) ∧ ∀ q ∈ f, plt key q = false) := by
  rcases fog_split f hw key with ⟨hb, hR, hno⟩ | ⟨L, left, R, rfl, hb, hL, hR, hcont⟩
  · rw [nearestRight_eval0 f key hb]
    cases f with
    | nil => simp
    | cons x R' =>
      have hkx := hR x List.mem_cons_self
      refine ⟨by simp, by simp, ?_, ?_, ?_, ?_⟩
      · intro r hr; cases hr; exact List.mem_cons_self
      · intro q hq hqk; exact absurd hqk (hno q hq)
      · intro _ r hr; cases hr
        exact ⟨hkx, right_least (L := []) hw.1 (by simp)⟩
      · constructor
        · intro h; cases h
        · rintro ⟨_, _, h⟩
          rw [h x List.mem_cons_self] at hkx; cases hkx
  · rw [nearestRight_eval1 L left R key hb]
    by_cases hpre : left <+: key
    · rw [if_pos hpre]
      refine ⟨by simp, by simp, ?_, ?_, ?_, ?_⟩
      · intro r hr; cases hr; simp
      · intro q hq hqk; rw [hcont q hq hqk]
      · intro h; exact absurd hpre (h left (by simp))
      · constructor
        · intro h; cases h
        · rintro ⟨_, h, _⟩; exact absurd hpre (h left (by simp))
    · rw [if_neg hpre]
      have hnone : ∀ q ∈ L ++ left :: R, ¬ q <+: key := fun q hq hqk =>
        hpre (hcont q hq hqk ▸ hqk)
      cases R with
      | nil =>
        refine ⟨by simp, by simp, by simp, ?_, by simp, ?_⟩
        · intro q hq hqk; exact absurd hqk (hnone q hq)
        · simp only [List.head?_nil, true_iff]
          exact ⟨by simp, hnone, hL⟩
      | cons right R' =>
        have hkr := hR right List.mem_cons_self
        have hs' : Sorted ((L ++ [left]) ++ right :: R') := by simpa using hw.1
        have hleast := right_least hs' hL
        refine ⟨by simp, by simp, ?_, ?_, ?_, ?_⟩
        · intro r hr; cases hr; simp
        · intro q hq hqk; exact absurd hqk (hnone q hq)
        · intro _ r hr; cases hr
          refine ⟨hkr, ?_⟩
          intro q hq; exact hleast q (by simpa using hq)
        · constructor
          · intro h; cases h
          · rintro ⟨_, _, h⟩
            rw [h right (by simp)] at hkr; cases hkr

theorem nearestUnknown_spec (f : Fog) (hw : Wf f) (key : Path) :
    (nearestUnknown f key = .error .perfect ↔ f = []) ∧
    (∀ e, nearestUnknown f key = .error e → e = .perfect) ∧
    (∀ r, nearestUnknown f key = .ok r → r ∈ f) ∧
    (∀ q ∈ f, q <+: key → nearestUnknown f key = .ok q) ∧
    (∀ r, nearestUnknown f key = .ok r → ∀ q ∈ f,
        ¬ (plt r q = true ∧ plt q key = true) ∧ ¬ (plt key q = true ∧ plt q r = true)) := by
  rcases fog_split f hw key with ⟨hb, hR, hno⟩ | ⟨L, left, R, rfl, hb, hL, hR, hcont⟩
  · rw [nearestUnknown_eval0 f key hb]
    cases f with
    | nil => simp
    | cons x R' =>
      refine ⟨by simp, by simp, ?_, ?_, ?_⟩
      · intro r hr; cases hr; exact List.mem_cons_self
      · intro q hq hqk; exact absurd hqk (hno q hq)
      · intro r hr; cases hr
        exact adjacent (L := []) hw.1 (by simp) fun b hb => hR b (List.mem_cons_of_mem _ hb)
  · have hadjL := adjacent hw.1 (fun a ha => hL a (by simp [ha])) hR
    cases R with
    | nil =>
      rw [nearestUnknown_eval1 L left key hb]
      refine ⟨by simp, by simp, ?_, ?_, ?_⟩
      · intro r hr; cases hr; simp
      · intro q hq hqk; rw [hcont q hq hqk]
      · intro r hr; cases hr; exact hadjL
    | cons right R' =>
      have hs' : Sorted ((L ++ [left]) ++ right :: R') := by simpa using hw.1
      have hadjR : ∀ q ∈ L ++ left :: right :: R', _ :=
        fun q hq => adjacent hs' hL (fun b hb => hR b (List.mem_cons_of_mem _ hb)) q (by simpa using hq)
      rw [nearestUnknown_eval2 L left right R' key hb]
      refine ⟨?_, ?_, ?_, ?_, ?_⟩
      · split <;> simp
      · intro e he; split at he <;> cases he
      · intro r hr; split at hr <;> cases hr <;> simp
      · intro q hq hqk
        have e := hcont q hq hqk
        subst e
        have hlr : plt q right = true := (sorted_mid hw.1).2 right List.mem_cons_self
        have hnp : ¬ q <+: right := fun h =>
          plt_ne hlr (hw.2 q hq right (by simp) h)
        rw [if_pos (dist_lt q key right hqk (hR right List.mem_cons_self) hnp)]
      · intro r hr
        split at hr <;> cases hr
        · exact hadjL
        · exact hadjR

end PyTrie.Fog
