import PyTrie.Lemmas.BinRawRefines
import PyTrie.Props.C12
/-! **Whole histories of the binary trie at raw level.** `binRawRun` threads root hash and database through a history of
    `set` / `delete` / `delete_subtrie` calls, each executed by the raw-level `_set` (`BinRaw.rawSet`: node hashes and a
    database of encoded nodes). Along every history in which no call is refused (`NodeOverrideError`) and no hash
    collision occurs (run-level predicate, step by step), the raw-level run returns the root hash of the tree-level
    history and a database storing that whole tree; reading through the database then gives the map model's value. -/
namespace PyTrie.BinRaw
open PyTrie PyTrie.Bin
open PyTrie.Props.C12 (Op run spec apply)

variable (H : Bytes → Bytes)

def opVal : Op → Bytes
  | .set _ v => v
  | .delete _ => []
  | .deleteSubtrie _ => []

def opSub : Op → Bool
  | .deleteSubtrie _ => true
  | _ => false

/-- the history at raw level; stops at the first call that raises -/
def binRawRun : List Op → Hash × St → Except Err (Hash × St)
  | [], s => .ok s
  | o :: rest, (root, st) =>
    match rawSet H (H []) (o.key.length + 3) st root o.key (opVal o) (opSub o) with
    | .error e => .error e
    | .ok (root', st') => binRawRun rest (root', st')

/-- run-level no-collision predicate for one call on the trie `t` -/
def NoCollTop (t : Option BNode) (o : Op) : Prop :=
  match t with
  | some n => NoCollisionOp H n (bsetS n o.key (opVal o) (opSub o)).2
  | none =>
    (∀ s ∈ (bsetTopS none o.key (opVal o) (opSub o)).2, hashNode H s ≠ H []) ∧
    (∀ s ∈ (bsetTopS none o.key (opVal o) (opSub o)).2, ∀ s' ∈ (bsetTopS none o.key (opVal o) (opSub o)).2,
      hashNode H s = hashNode H s' → encNode H s = encNode H s')

/-- a history of accepted calls on non-empty keys, with the run-level no-collision facts of every step -/
inductive BinReach : List Op → Option BNode → Prop where
  | init : BinReach [] none
  | step (ops : List Op) (t : Option BNode) (o : Op) (t' : Option BNode) :
      BinReach ops t → o.key ≠ [] → apply t o = .ok t' → NoCollTop H t o → BinReach (ops ++ [o]) t'

theorem apply_eq (t : Option BNode) (o : Op) : apply t o = bsetTop t o.key (opVal o) (opSub o) := by
  cases o <;> rfl

theorem run_snoc (ops : List Op) (o : Op) : run (ops ++ [o]) = Props.C12.step (run ops) o := by
  simp [run, List.foldl_append]

theorem binReach_run (ops : List Op) (t : Option BNode) (h : BinReach H ops t) : t = run ops := by
  induction h with
  | init => rfl
  | step ops t o t' _ _ hap _ ih =>
    rw [run_snoc, ← ih]
    simp only [Props.C12.step, hap]

theorem binReach_keys (ops : List Op) (t : Option BNode) (h : BinReach H ops t) : Props.C12.KeysNonEmpty ops := by
  induction h with
  | init => nofun
  | step ops t o t' _ hk _ _ ih =>
    intro x hx
    rcases List.mem_append.1 hx with hx | hx
    · exact ih x hx
    · exact List.mem_singleton.1 hx ▸ hk

theorem binReach_canon (ops : List Op) (t : Option BNode) (h : BinReach H ops t) : BCanonTop t := by
  rw [binReach_run H ops t h]
  exact Props.C12.canon_run ops (binReach_keys H ops t h)

theorem binRawRun_append (a b : List Op) (s : Hash × St) :
    binRawRun H (a ++ b) s =
      match binRawRun H a s with
      | .error e => .error e
      | .ok s' => binRawRun H b s' := by
  induction a generalizing s with
  | nil => rfl
  | cons x rest ih =>
    simp only [List.cons_append, binRawRun]
    split
    · rfl
    · exact ih _

theorem allStored_after (db : Db) (t : Option BNode) (saves : List BNode) (t' : BNode)
    (hold : ∀ n, t = some n → AllStored H db n)
    (h1 : ∀ s ∈ saves, hashNode H s ≠ H [])
    (h2 : ∀ s ∈ saves, ∀ n m, t = some n → Sub m n → hashNode H s = hashNode H m → encNode H s = encNode H m)
    (h3 : ∀ s ∈ saves, ∀ s' ∈ saves, hashNode H s = hashNode H s' → encNode H s = encNode H s')
    (hnew : ∀ x, Sub x t' → x ∈ saves ∨ ∃ n, t = some n ∧ Sub x n) :
    AllStored H (applySaves H db saves) t' := by
  intro x hx
  rcases hnew x hx with hs | ⟨n, rfl, hxn⟩
  · exact ⟨h1 x hs, lookup_saveAll H db saves x (fun s hs' e => h3 s hs' x hs e) (.inl hs)⟩
  · exact ⟨(hold n rfl x hxn).1,
      lookup_saveAll H db saves x (fun s hs e => h2 s hs n x rfl hxn e) (.inr (hold n rfl x hxn).2)⟩

theorem rawStep (hlen : ∀ b, (H b).length = 32) (t : Option BNode) (hc : BCanonTop t) (o : Op) (hk : o.key ≠ [])
    (t' : Option BNode) (hap : apply t o = .ok t') (hnc : NoCollTop H t o)
    (st : St) (hst : ∀ n, t = some n → AllStored H st.db n) :
    ∃ st', rawSet H (H []) (o.key.length + 3) st (rootOf H t) o.key (opVal o) (opSub o) = .ok (rootOf H t', st') ∧
      (∀ n, t' = some n → AllStored H st'.db n) := by
  rw [apply_eq] at hap
  have hnew : ∀ n', t' = some n' → ∀ x, Sub x n' →
      x ∈ (bsetTopS t o.key (opVal o) (opSub o)).2 ∨ ∃ n, t = some n ∧ Sub x n := by
    rintro n' rfl x hx
    simp only [← mem_trieNodes_iff] at hx ⊢
    exact Props.C12.new_nodes_saved t o.key (opVal o) (opSub o) n' (by rw [Props.C12.saves_tree]; exact hap) x hx
  cases t with
  | none =>
    refine ⟨_, (rawSet_blank H hlen o.key hk (opVal o) (opSub o) st _ (by omega)).trans (by rw [hap]), fun n' hn' => ?_⟩
    exact allStored_after H st.db none _ n' hst hnc.1 nofun hnc.2 (hnew n' hn')
  | some n =>
    refine ⟨_, (rawSet_refines H hlen n hc o.key (opVal o) (opSub o) st (hst n rfl) hnc _ (by omega)).trans
      (by rw [bsetS_fst, show bset n _ _ _ = _ from hap]), fun n' hn' => ?_⟩
    exact allStored_after H st.db (some n) _ n' hst hnc.1
      (fun s hs n0 m hn0 hm => by cases hn0; exact hnc.2.1 s hs m hm) hnc.2.2 (hnew n' hn')

/-- **the raw-level run computes the root of the tree-level history and stores the whole tree** -/
theorem binRawRun_refines (hlen : ∀ b, (H b).length = 32) (ops : List Op) (t : Option BNode) (h : BinReach H ops t) :
    ∃ st, binRawRun H ops (H [], { db := [] }) = .ok (rootOf H t, st) ∧ (∀ n, t = some n → AllStored H st.db n) := by
  induction h with
  | init => exact ⟨{ db := [] }, rfl, nofun⟩
  | step ops t o t' hr hk hap hnc ih =>
    obtain ⟨st, hrun, hst⟩ := ih
    obtain ⟨st', hset, hst'⟩ := rawStep H hlen t (binReach_canon H ops t hr) o hk t' hap hnc st hst
    exact ⟨st', by simp only [binRawRun_append, hrun, binRawRun, hset], hst'⟩

theorem bgetD_allStored (hlen : ∀ b, (H b).length = 32) (t : Option BNode) (hc : BCanonTop t) (db : Db)
    (hst : ∀ n, t = some n → AllStored H db n) (k : Bits) :
    bgetD (H []) db (k.length + 1) (rootOf H t) k = .ok (bgetTop t k) := by
  cases t with
  | none => simp [rootOf, bgetD, bgetTop]
  | some n =>
    exact bgetD_complete H hlen n hc db k
      (fun x hx => hst n rfl x ((mem_trieNodes_iff n x).1 (pathNodes_sub_trieNodes n k x hx))) _ (by omega)

/-- **end to end**: `BinaryTrie.get` over the database produced by the raw-level run returns the map model's value -/
theorem binRawRun_get (hlen : ∀ b, (H b).length = 32) (ops : List Op) (t : Option BNode) (h : BinReach H ops t) (k : Bits) :
    ∃ st, binRawRun H ops (H [], { db := [] }) = .ok (rootOf H (run ops), st) ∧
      bgetD (H []) st.db (k.length + 1) (rootOf H (run ops)) k = .ok (spec ops k) := by
  obtain ⟨st, hrun, hst⟩ := binRawRun_refines H hlen ops t h
  cases binReach_run H ops t h
  exact ⟨st, hrun, Props.C12.run_get ops (binReach_keys H ops _ h) k ▸
    bgetD_allStored H hlen _ (binReach_canon H ops _ h) st.db hst k⟩

end PyTrie.BinRaw
