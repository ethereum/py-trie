import PyTrie.Lemmas.HexDbProofs
import PyTrie.Lemmas.RlpRoundTrip
/-! A node with a hashed child is itself hashed (for a 32-byte hash): the child's reference alone
    encodes to 33 bytes. -/
namespace PyTrie.HexD
open PyTrie PyTrie.Hex PyTrie.Hex.Node

variable (H : Bytes → Bytes)

theorem rlp_le_rlpList (x : Item) (l : List Item) (hx : x ∈ l) : (rlp x).length ≤ (rlpList l).length := by
  induction l with
  | nil => cases hx
  | cons y ys ih =>
    rw [rlpList.eq_2, List.length_append]
    rcases List.mem_cons.1 hx with rfl | h1
    · omega
    · have := ih h1; omega

theorem rlp_le_rlp_list (x : Item) (l : List Item) (hx : x ∈ l) : (rlp x).length ≤ (rlp (.list l)).length := by
  have h1 := rlp_le_rlpList x l hx
  have h2 := rlp_list_length l
  omega

theorem ref_hashed_length (hlen : ∀ b, (H b).length = 32) (c : Node) (h : isHashed H c = true) :
    32 ≤ (rlp (refOf H c)).length := by
  rw [refOf_hashed H c h]
  have := str_length_le (hashOf H c)
  have h2 : (hashOf H c).length = 32 := hlen _
  omega

theorem isHashed_of_length {n : Node} (hb : isBlank n = false) (hl : 32 ≤ (enc H n).length) :
    isHashed H n = true := by
  simp [isHashed, hb, hl]

theorem isHashed_ext_of_child (hlen : ∀ b, (H b).length = 32) (p : Path) (c : Node)
    (h : isHashed H c = true) : isHashed H (ext p c) = true := by
  apply isHashed_of_length H rfl
  have h1 := ref_hashed_length H hlen c h
  have h2 : (rlp (refOf H c)).length ≤ (enc H (ext p c)).length :=
    rlp_le_rlp_list (refOf H c) [.str (hp p false), refOf H c] (by simp)
  omega

theorem isHashed_branch_of_child (hlen : ∀ b, (H b).length = 32) (ch : Nib → Node) (v : Bytes) (i : Nib)
    (h : isHashed H (ch i) = true) : isHashed H (branch ch v) = true := by
  apply isHashed_of_length H rfl
  have h1 := ref_hashed_length H hlen (ch i) h
  have h2 : (rlp (refOf H (ch i))).length ≤ (enc H (branch ch v)).length := by
    unfold enc
    rw [toItem_branch]
    apply rlp_le_rlp_list
    unfold brItems
    apply List.mem_append_left
    exact List.mem_map.2 ⟨i, List.mem_finRange i, rfl⟩
  omega

end PyTrie.HexD
