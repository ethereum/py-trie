import PyTrie.Lemmas.WorldMono
import PyTrie.Lemmas.HexEff
import PyTrie.Lemmas.MissingProofs
import PyTrie.Lemmas.MissingPath
import PyTrie.Lemmas.PruneRun
import PyTrie.Lemmas.KeccakEmbedded
/-! Exact pruning (C06) at world level: for a pruning trie over a plain dict that started from an empty
    database, after every `set` / `delete` the reference counts are the true number of references
    (`occRoot`: occurrences of hashed subtrees below the root, plus one for the root, which is always
    stored) and the database holds exactly the keys with a positive count. The structural heart is the
    balance lemmas `setE_balance` / `deleteE_balance` (for every hashing); this file lifts them through
    `opSetDel` (`_prune_on_success`, `_set_db_value`, `_set_root_node`, `_complete_pruning`), once for
    every kind of store (`opSetDel_exact`); the plain dict is the instance `opSetDel_pruneInv`, the two
    kinds of `squash_changes` block are in `WorldBatch.lean` and `WorldBatchNP.lean`. -/
namespace PyTrie.HexW
open PyTrie.Hex hiding get set
open PyTrie.Hex.Node

variable (Hs : Hashing) (blankRootHash : Hash)

/-- `_set_root_node` marks a readable old root for pruning exactly when it is short (a hashed one has been
    marked by the operation itself) -/
theorem schedOldRoot_exact (T : TrieSt) (s : OpSt) (hp : T.prune = true)
    (hroot : if isBlank T.tree then T.root = blankRootHash else T.root = Hs.hashOf T.tree ∧ T.root ≠ blankRootHash)
    (hcont : isBlank T.tree = false → s.store.contains T.root = true)
    (hnd : NoDupKeys s.pending) (hpos : PosVals s.pending) :
    (schedOldRoot Hs blankRootHash T s).store = s.store ∧ (schedOldRoot Hs blankRootHash T s).counts = s.counts ∧
    NoDupKeys (schedOldRoot Hs blankRootHash T s).pending ∧ PosVals (schedOldRoot Hs blankRootHash T s).pending ∧
    ∀ h, (schedOldRoot Hs blankRootHash T s).pending.val h = s.pending.val h +
      (if isBlank T.tree = false ∧ Hs.hashed T.tree = false ∧ Hs.hashOf T.tree = h then 1 else 0) := by
  unfold schedOldRoot
  cases hb : isBlank T.tree
  · rw [hb] at hroot
    simp only [Bool.false_eq_true, ↓reduceIte] at hroot
    cases hh : Hs.hashed T.tree
    · rw [if_pos (by simp [hp, hroot.2, hcont hb])]
      exact ⟨rfl, rfl, hnd.inc _, hpos.inc _, fun h => by simp [Counts.val_inc, hroot.1]⟩
    · rw [if_neg (by simp)]
      exact ⟨rfl, rfl, hnd, hpos, fun h => by simp⟩
  · rw [hb] at hroot
    simp only [↓reduceIte] at hroot
    rw [if_neg (by simp [hroot])]
    exact ⟨rfl, rfl, hnd, hpos, fun h => by simp⟩

/-- `_set_root_node`, second half, when the write cannot be refused -/
theorem writeRoot_exact (T : TrieSt) (hp : T.prune = true) (new : Node) (s : OpSt)
    (hw : s.store.cache = none → s.store.failAfter = none) :
    ∃ s', writeRoot Hs blankRootHash T new s = .ok (s', if isBlank new then blankRootHash else Hs.hashOf new) ∧
      s'.pending = s.pending ∧ (s'.store.cache = none ↔ s.store.cache = none) ∧
      (∀ h, s'.counts.val h = s.counts.val h + (if isBlank new = false ∧ Hs.hashOf new = h then 1 else 0)) ∧
      (∀ h, s'.store.view h = true ↔
        (s.store.view h = true ∨ (isBlank new = false ∧ Hs.hashOf new = h))) := by
  unfold writeRoot
  cases hb : isBlank new
  · obtain ⟨st, hst, _, hpl, hv, _⟩ := Store.write_view s.store hw (Hs.hashOf new) (Hs.encOf new)
    simp only [Bool.false_eq_true, ↓reduceIte, setDbValue, hst, hp]
    exact ⟨_, rfl, rfl, hpl, fun h => by simp [Counts.val_inc], fun h => by simp [hv, eq_comm (a := h)]⟩
  · simp only [↓reduceIte]
    exact ⟨s, rfl, rfl, Iff.rfl, fun h => by simp, fun h => by simp⟩

theorem opCore_eq (T : TrieSt) (key : Bytes) (val : Option Bytes) (s : OpSt)
    (hroot : (T.root != blankRootHash && !(s.store.contains T.root)) = false)
    (s1 : OpSt) (h1 : runEvs T.prune T.root key s (opTree Hs T key val).2 = (s1, none))
    (s3 : OpSt) (r : Hash)
    (h3 : writeRoot Hs blankRootHash T (opTree Hs T key val).1 (schedOldRoot Hs blankRootHash T s1) = .ok (s3, r))
    (s4 : OpSt) (h4 : finishPrune T s3 = (s4, none)) :
    opCore Hs blankRootHash T key val s = (s4, .ok { T with tree := (opTree Hs T key val).1, root := r }) := by
  unfold opCore
  rw [hroot]
  simp only [Bool.false_eq_true, ↓reduceIte]
  rw [h1]
  simp only
  rw [h3]
  simp only
  rw [h4]

/-! ### the invariant -/

/-- true number of stored references to hash `h` in the trie with root node `t`: hashed subtrees
    strictly below the root, plus the root itself (stored under its hash even when short) -/
def occRoot (t : Node) (h : Hash) : Nat :=
  occProper Hs t h + (if isBlank t = false ∧ Hs.hashOf t = h then 1 else 0)

/-- the pruning invariant of a trie state over a plain dict -/
structure PruneInv (T : TrieSt) (s : OpSt) : Prop where
  prune : T.prune = true
  plain : s.store.cache = none
  root : if isBlank T.tree then T.root = blankRootHash else T.root = Hs.hashOf T.tree ∧ T.root ≠ blankRootHash
  counts : ∀ h, s.counts.val h = occRoot Hs T.tree h
  keys : ∀ h, Dict.contains s.store.base h = true ↔ 0 < occRoot Hs T.tree h
  pending : s.pending = []

theorem pruneInv_init :
    PruneInv Hs blankRootHash { tree := blank, root := blankRootHash, prune := true }
      { store := { base := [], cache := none, failAfter := none }, counts := [], pending := [] } := by
  refine ⟨rfl, rfl, ?_, ?_, ?_, rfl⟩
  · simp [isBlank]
  · intro h; simp [occRoot, occProper, isBlank, Counts.val_nil]
  · intro h; simp [occRoot, occProper, isBlank, Dict.contains_nil]

/-! ### the tree-level facts, for either operation -/

theorem opTree_balance (T : TrieSt) (key : Bytes) (val : Option Bytes)
    (hrs : RefSound Hs T.tree (nibs key)) (h : Hash) :
    occProper Hs (opTree Hs T key val).1 h + cntPrune (opTree Hs T key val).2 h =
      occ Hs T.tree h + cntPersist (opTree Hs T key val).2 h :=
  opTree_cases (P := fun r => occProper Hs r.1 h + cntPrune r.2 h = occ Hs T.tree h + cntPersist r.2 h) Hs T key val
    (deleteE_balance Hs _ _ hrs h) fun v => setE_balance Hs _ _ v h

theorem opTree_reads_occ (T : TrieSt) (key : Bytes) (val : Option Bytes) (h : Hash)
    (hm : Ev.read h ∈ (opTree Hs T key val).2) : 0 < occProper Hs T.tree h :=
  opTree_cases (P := fun r => Ev.read h ∈ r.2 → 0 < occProper Hs T.tree h) Hs T key val
    (deleteE_reads_occ Hs _ _ h) (fun v => setE_reads_occ Hs _ _ v h) hm

/-- the root reference splits into the hashed case (counted by `self`, pruned by the operation itself)
    and the short case (pruned by `_set_root_node`) -/
theorem root_split (t : Node) (h : Hash) :
    (if isBlank t = false ∧ Hs.hashOf t = h then 1 else 0) =
      self Hs t h + (if isBlank t = false ∧ Hs.hashed t = false ∧ Hs.hashOf t = h then 1 else 0) := by
  unfold self
  cases hb : isBlank t
  · cases hh : Hs.hashed t <;> by_cases he : Hs.hashOf t = h <;> simp [he]
  · have : Hs.hashed t = false := by rw [(isBlank_iff t).1 hb]; exact Hs.hashed_blank
    simp [this]

/-! ### `set` / `delete` on a pruning trie whose store cannot refuse the operation -/

/-- **the accounting of a pruning `set` / `delete`**, for the hashes `N` that are tracked: if before the
    operation counts = true references and view = referenced on `N`, then the operation does not raise and the
    same holds after it. Over a plain dict every hash has to be tracked (otherwise `_complete_pruning`
    could meet an absent key) and no write failure may be pending; a ScratchDB refuses nothing. -/
theorem opSetDel_exact (N : Hash → Prop) (T : TrieSt) (key : Bytes) (val : Option Bytes) (s : OpSt)
    (hp : T.prune = true)
    (hroot : if isBlank T.tree then T.root = blankRootHash else T.root = Hs.hashOf T.tree ∧ T.root ≠ blankRootHash)
    (hw : s.store.cache = none → s.store.failAfter = none ∧ ∀ h, N h)
    (hcounts : ∀ h, N h → s.counts.val h = occRoot Hs T.tree h)
    (hkeys : ∀ h, N h → (s.store.view h = true ↔ 0 < occRoot Hs T.tree h))
    (hread : ∀ h, 0 < occRoot Hs T.tree h → s.store.contains h = true)
    (hrs : RefSound Hs T.tree (nibs key))
    (hblank : isBlank (opTree Hs T key val).1 = false → Hs.hashOf (opTree Hs T key val).1 ≠ blankRootHash) :
    ∃ (s4 : OpSt) (r : Hash), opSetDel Hs blankRootHash T key val s =
        ({ s4 with pending := [] }, .ok { T with tree := (opTree Hs T key val).1, root := r }) ∧
      (s4.store.cache = none ↔ s.store.cache = none) ∧
      (if isBlank (opTree Hs T key val).1 then r = blankRootHash
        else r = Hs.hashOf (opTree Hs T key val).1 ∧ r ≠ blankRootHash) ∧
      (∀ h, N h → s4.counts.val h = occRoot Hs (opTree Hs T key val).1 h) ∧
      (∀ h, N h → (s4.store.view h = true ↔ 0 < occRoot Hs (opTree Hs T key val).1 h)) := by
  -- the root is readable
  have hrootc : isBlank T.tree = false → s.store.contains T.root = true := by
    intro hb
    rw [hb] at hroot
    simp only [Bool.false_eq_true, ↓reduceIte] at hroot
    exact hread _ (by simp [occRoot, hb, hroot.1])
  have hcheck : (T.root != blankRootHash &&
      !(({ s with pending := [] } : OpSt).store.contains T.root)) = false := by
    cases hb : isBlank T.tree
    · have : s.store.contains T.root = true := hrootc hb
      simp [this]
    · rw [hb] at hroot
      simp only [↓reduceIte] at hroot
      simp [hroot]
  -- the events
  obtain ⟨s1, h1, R⟩ := runEvs_exact T.root key (opTree Hs T key val).2 { s with pending := [] }
    (fun hc => (hw hc).1) NoDupKeys.nil PosVals.nil (fun h hm => hread h (by
      have := opTree_reads_occ Hs T key val h hm
      unfold occRoot; omega))
  -- scheduling the old root
  obtain ⟨e2s, e2c, nd2, pos2, hp2⟩ := schedOldRoot_exact Hs blankRootHash T s1 hp hroot
    (fun hb => R.readable _ (hrootc hb)) R.nodup R.pos
  -- writing the new root
  obtain ⟨s3, h3, hpend3, hpl3, hcnt3, hkeys3⟩ := writeRoot_exact Hs blankRootHash T hp
    (opTree Hs T key val).1 (schedOldRoot Hs blankRootHash T s1)
    (by rw [e2s]; exact fun hc => R.fa.trans (hw (R.plain.1 hc)).1)
  rw [e2s] at hpl3
  -- the accounting before `_complete_pruning`
  have hacc : ∀ h, N h → s3.counts.val h = occRoot Hs (opTree Hs T key val).1 h + s3.pending.val h := by
    intro h hN
    have hb := opTree_balance Hs T key val hrs h
    have hs := root_split Hs T.tree h
    have hoe := occ_eq Hs T.tree h
    rw [hpend3, hcnt3, e2c, R.counts, hp2, R.pending]
    show s.counts.val h + _ + _ = _ + (Counts.val [] h + _ + _)
    rw [hcounts h hN, Counts.val_nil]
    unfold occRoot
    omega
  have hpos3 : ∀ h, N h → (s3.store.view h = true ↔ 0 < s3.counts.val h) := by
    intro h hN
    rw [hcnt3, e2c, R.counts, hkeys3, e2s, R.keys]
    show (s.store.view h = true ∨ _) ∨ _ ↔ 0 < s.counts.val h + _ + _
    rw [hkeys h hN, hcounts h hN]
    split
    · next hn => simp [hn]
    · next hn => simp only [hn, or_false]; omega
  -- `_complete_pruning`
  obtain ⟨s4, h4, _, hpl4, hcnt4, hkeys4⟩ := completePruning_exact s3.pending
    (by rw [hpend3]; exact nd2) s3 (by
      intro hc e he
      apply (hpos3 _ ((hw (R.plain.1 (hpl3.1 hc))).2 _)).2
      have hv := Counts.val_of_mem (by rw [hpend3]; exact nd2) e he
      have hp : 0 < e.2 := by
        rw [hpend3] at he
        exact pos2 e he
      have := hacc e.1 ((hw (R.plain.1 (hpl3.1 hc))).2 _)
      omega)
  have hfin : finishPrune T s3 = (s4, none) := by
    unfold finishPrune; rw [hp]; simp only [↓reduceIte]; exact h4
  refine ⟨s4, _, congrArg (fun r => ({ r.1 with pending := [] }, r.2))
      (opCore_eq Hs blankRootHash T key val _ hcheck s1 (by rw [hp]; exact h1) s3 _ h3 s4 hfin),
    hpl4.trans (hpl3.trans R.plain), ?_, ?_, ?_⟩
  · cases hb : isBlank (opTree Hs T key val).1
    · simp only [Bool.false_eq_true, ↓reduceIte, true_and]
      exact hblank hb
    · simp
  · intro h hN
    rw [hcnt4, hacc h hN]
    omega
  · intro h hN
    rw [hkeys4]
    have ha := hacc h hN
    constructor
    · rintro ⟨a, b⟩
      have hp := (hpos3 h hN).1 a
      cases hcn : Dict.contains s3.pending h
      · have := Counts.val_of_not_contains _ _ hcn
        omega
      · have := b hcn
        omega
    · intro hp
      exact ⟨(hpos3 h hN).2 (by omega), fun _ => by omega⟩

/-- **exact pruning is an invariant**: on a state satisfying it, `set` / `delete` does not raise, computes
    the tree-level operation, and re-establishes `counts = true references` and `database keys = keys with
    a positive count` for the new trie — nothing live is deleted, nothing dead is left behind -/
theorem opSetDel_pruneInv (T : TrieSt) (hc : Canon T.tree) (key : Bytes) (val : Option Bytes) (s : OpSt)
    (hfa : s.store.failAfter = none) (hinv : PruneInv Hs blankRootHash T s)
    (hrs : RefSound Hs T.tree (nibs key))
    (hblank : isBlank (opTree Hs T key val).1 = false → Hs.hashOf (opTree Hs T key val).1 ≠ blankRootHash) :
    ∃ T', (opSetDel Hs blankRootHash T key val s).2 = .ok T' ∧
      T'.tree = (match val with
        | some v => if v = [] then Hex.delete T.tree (nibs key) else Hex.set T.tree (nibs key) v
        | none => Hex.delete T.tree (nibs key)) ∧
      PruneInv Hs blankRootHash T' (opSetDel Hs blankRootHash T key val s).1 := by
  have hk : ∀ h, s.store.view h = true ↔ 0 < occRoot Hs T.tree h := fun h => by
    rw [Store.view_plain _ hinv.plain]; exact hinv.keys h
  obtain ⟨s4, r, hop, hpl, hrootNew, hcounts, hkeys⟩ :=
    opSetDel_exact Hs blankRootHash (fun _ => True) T key val s hinv.prune hinv.root
      (fun _ => ⟨hfa, fun _ => trivial⟩) (fun h _ => hinv.counts h) (fun h _ => hk h)
      (fun h hp => contains_of_view _ _ ((hk h).2 hp)) hrs hblank
  have hpl' : s4.store.cache = none := hpl.2 hinv.plain
  rw [hop]
  refine ⟨_, rfl, ?_, hinv.prune, hpl', hrootNew, fun h => hcounts h trivial, fun h => ?_, rfl⟩
  · have := opTree_fst_p Hs T hc key val hrs
    cases val <;> exact this
  · rw [← hkeys h trivial]
    exact (Store.view_plain _ hpl' h).symm ▸ Iff.rfl

/-- a node whose encoding is embedded (shorter than 32 bytes) has no hashed descendants -/
def EmbeddedLeafy : Prop := ∀ n, Hs.hashed n = false → ∀ h, occProper Hs n h = 0

theorem regen_child_count (hemb : EmbeddedLeafy Hs) (c : Node) (h : Hash)
    (ih : (regenSub Hs c).count h = occProper Hs c h) :
    (if Hs.hashed c then Hs.hashOf c :: regenSub Hs c else []).count h = occ Hs c h := by
  rw [occ_eq]
  cases hh : Hs.hashed c
  · simp [self, hh, hemb c hh h]
  · simp only [↓reduceIte, List.count_cons, ih, self, hh, true_and, beq_iff_eq]
    omega

theorem regenSub_count (hemb : EmbeddedLeafy Hs) (t : Node) (h : Hash) :
    (regenSub Hs t).count h = occProper Hs t h := by
  induction t with
  | blank => simp [regenSub, occProper]
  | leaf p v => simp [regenSub, occProper]
  | ext p c ih =>
    simp only [regenSub, occProper]
    exact regen_child_count Hs hemb c h ih
  | branch ch v ih =>
    simp only [regenSub, occProper, sumCh, List.count_flatMap]
    congr 1
    apply List.map_congr_left
    intro i _
    exact regen_child_count Hs hemb (ch i) h (ih i)

theorem embeddedLeafy_of_child
    (hext : ∀ p c, Hs.hashed c = true → Hs.hashed (ext p c) = true)
    (hbr : ∀ ch v i, Hs.hashed (ch i) = true → Hs.hashed (branch ch v) = true) :
    EmbeddedLeafy Hs := by
  have hocc : ∀ n, Hs.hashed n = false → ∀ h, occ Hs n h = 0 := by
    intro n
    induction n with
    | blank => intro _ h; rfl
    | leaf p v => intro hn h; simp [occ, self, hn]
    | ext p c ih =>
      intro hn h
      have hc : Hs.hashed c = false := Bool.eq_false_iff.2 fun hh => by rw [hext p c hh] at hn; cases hn
      simp [occ, self, hn, ih hc h]
    | branch ch v ih =>
      intro hn h
      have hc : ∀ i, Hs.hashed (ch i) = false := fun i =>
        Bool.eq_false_iff.2 fun hh => by rw [hbr ch v i hh] at hn; cases hn
      simp [occ, self, hn, fun i => ih i (hc i) h, sumCh_zero]
  intro n hn h
  have := hocc n hn h
  rw [occ_eq] at this
  omega

theorem keccakHashing_hashed : keccakHashing.hashed = isHashed keccak := rfl

end PyTrie.HexW
