import PyTrie.Props.NonVacuity4
import PyTrie.Props.FreeExec
/-! # Non-vacuity, part 5: concrete histories for the whole-history lockstep theorem

`Free.history_lockstep` assumes `Good H (freshW H prune) steps`: along the run of the tree-carrying world, the run-level
premises (`GoodCall`) of every call executed. Here: a Boolean checker `goodB` for `Good` (mirroring its recursion), its
soundness, a history with two direct writes, a committed block (overwrite + delete + write), an aborted block and a final
direct delete that passes the check under the toy hash `toyH` for `prune = true` and `prune = false`, and the theorem
applied to it. The outcomes, final root and database sizes of the tree-free run are stated concretely. -/
namespace PyTrie.Props.NonVacuity5
open PyTrie PyTrie.Hex PyTrie.Hex.Node PyTrie.HexD
open PyTrie.Props.NonVacuity PyTrie.Props.NonVacuity2 PyTrie.Props.NonVacuity4
open PyTrie.HexW PyTrie.HexRaw PyTrie.HexFree

/-! ## 1. A Boolean checker for `Good` -/
section Checker

variable (H : Bytes → Bytes)

/-- `GoodCall` as a test -/
def goodCallB (T : TrieSt) (s : OpSt) (k : Bytes) (v : Option Bytes) : Bool :=
  refSoundB (stdHashing H) T.tree (nibs k) &&
  (isBlank (opTree (stdHashing H) T k v).1 || !(hashOf H (opTree (stdHashing H) T k v).1 == blankRoot H)) &&
  noClobberB (storeDb s.store) (opWrites (stdHashing H) T k v) &&
  (Dict.get? (storeDb s.store) (blankRoot H)).isNone &&
  (storeDb s.store).all (fun e => decide (e.2.length < 2 ^ 64)) &&
  (match (opSetDel (stdHashing H) (blankRoot H) T k v s).2 with | .ok _ => true | .error _ => false)

theorem goodCall_of_B (T : TrieSt) (s : OpSt) (k : Bytes) (v : Option Bytes) (h : goodCallB H T s k v = true) :
    GoodCall H T s k v := by
  simp only [goodCallB, Bool.and_eq_true, Bool.or_eq_true, Bool.not_eq_true', beq_eq_false_iff_ne,
    Option.isNone_iff_eq_none] at h
  obtain ⟨⟨⟨⟨⟨h1, h2⟩, h3⟩, h4⟩, h5⟩, h6⟩ := h
  refine ⟨refSound_of_B _ _ _ h1, fun hb => ?_, noClobber_of_B _ _ h3, h4, bodies_short _ _ h5, ?_⟩
  · rcases h2 with h2 | h2
    · rw [hb] at h2; cases h2
    · exact h2
  · split at h6
    · next T' hT => exact ⟨T', hT⟩
    · cases h6

/-- `GoodInner` as a test -/
def goodInnerB : World → List (Bytes × Option Bytes) → Bool
  | _, [] => true
  | w, (k, v) :: rest =>
    (match w.batch with
     | some b => goodCallB H b.trie (w.batchOpSt b) k v
     | none => false) &&
    goodInnerB (w.setDel (stdHashing H) (blankRoot H) .batch k v).2 rest

theorem goodInner_of_B (w : World) (inner : List (Bytes × Option Bytes)) (h : goodInnerB H w inner = true) :
    GoodInner H w inner := by
  induction inner generalizing w with
  | nil => trivial
  | cons kv rest ih =>
    obtain ⟨k, v⟩ := kv
    simp only [goodInnerB, Bool.and_eq_true] at h
    refine ⟨?_, ih _ h.2⟩
    have h1 := h.1
    cases hb : w.batch with
    | none => rw [hb] at h1; cases h1
    | some b => rw [hb] at h1; exact goodCall_of_B H _ _ k v h1

/-- `Good` as a test -/
def goodB : World → List HStep → Bool
  | _, [] => true
  | w, .op k v :: rest =>
    goodCallB H w.tries[0]! (w.opSt 0) k v && goodB (HexFree.stepW H w (.op k v)).2 rest
  | w, .block inner raised :: rest =>
    goodInnerB H (w.batchBegin 0) inner && goodB (HexFree.stepW H w (.block inner raised)).2 rest

/-- **a history that passes the test satisfies `Good`** -/
theorem good_of_B (w : World) (steps : List HStep) (h : goodB H w steps = true) : Good H w steps := by
  induction steps generalizing w with
  | nil => trivial
  | cons s rest ih =>
    cases s with
    | op k v =>
      simp only [goodB, Bool.and_eq_true] at h
      exact ⟨goodCall_of_B H _ _ k v h.1, ih _ h.2⟩
    | block inner raised =>
      simp only [goodB, Bool.and_eq_true] at h
      exact ⟨goodInner_of_B H _ inner h.1, ih _ h.2⟩

end Checker

/-! ## 2. The history -/

/-- * `set k1 longV` — a direct write of a 33-byte value (the root is a hashed leaf);
    * `set k2 [5]` — a direct write: root extension over a hashed branch with a hashed and an embedded leaf;
    * a block left normally: `set k1 longW` (overwrite of the long value), `delete k2`, `set k3 longV`;
    * a block left by an exception: `set k2 [9]`;
    * `delete k1` — a direct delete: the branch collapses, the root is the (hashed) leaf of `k3`. -/
def steps : List HStep :=
  [.op k1 (some longV), .op k2 (some [5]),
   .block [(k1, some longW), (k2, none), (k3, some longV)] false,
   .block [(k2, some [9])] true,
   .op k1 none]

example : 5 ≤ steps.length := by decide

/-- the final tree: only `k3` is left, in a hashed leaf -/
def tFinal : Node := leaf (nibs k3) longV

/-- **the two runs of the tree-carrying world, evaluated once**: the test passes along the run with pruning on and off,
    and both runs end with the one-leaf tree -/
theorem world_eval :
    (goodB toyH (freshW toyH true) steps = true ∧ goodB toyH (freshW toyH false) steps = true) ∧
    sameB ((HexFree.runW toyH (freshW toyH true) steps).2.tries[0]!).tree tFinal = true ∧
    sameB ((HexFree.runW toyH (freshW toyH false) steps).2.tries[0]!).tree tFinal = true := by
  decide +kernel

/-- the run-level premises of every call of the history hold along the run of the tree-carrying world, on a pruning trie … -/
theorem steps_good_p : goodB toyH (freshW toyH true) steps = true := world_eval.1.1

/-- … and on a non-pruning one -/
theorem steps_good_np : goodB toyH (freshW toyH false) steps = true := world_eval.1.2

theorem good_p : Good toyH (freshW toyH true) steps := good_of_B toyH _ steps steps_good_p

theorem good_np : Good toyH (freshW toyH false) steps := good_of_B toyH _ steps steps_good_np

/-! ## 3. `history_lockstep` on the witness -/

/-- **`Free.history_lockstep` applies, pruning on**: same outcomes call by call, `Sim`-related final worlds -/
theorem lockstep_witness_p :
    (runF toyH (FWorld.init toyH true) steps).1 = (HexFree.runW toyH (freshW toyH true) steps).1 ∧
    Sim (runF toyH (FWorld.init toyH true) steps).2 (HexFree.runW toyH (freshW toyH true) steps).2 :=
  Free.history_lockstep toyH toyH_len true steps good_p

/-- **`Free.history_lockstep` applies, pruning off** -/
theorem lockstep_witness_np :
    (runF toyH (FWorld.init toyH false) steps).1 = (HexFree.runW toyH (freshW toyH false) steps).1 ∧
    Sim (runF toyH (FWorld.init toyH false) steps).2 (HexFree.runW toyH (freshW toyH false) steps).2 :=
  Free.history_lockstep toyH toyH_len false steps good_np

/-! ## 4. What the runs return -/

def okB : Except Exn Unit → Bool
  | .ok _ => true
  | .error _ => false

theorem all_ok_of_B (l : List (Except Exn Unit)) (n : Nat) (h : (l.length == n && l.all okB) = true) :
    l = List.replicate n (.ok ()) := by
  simp only [Bool.and_eq_true, beq_iff_eq, List.all_eq_true] at h
  obtain ⟨hl, ha⟩ := h
  subst hl
  induction l with
  | nil => rfl
  | cons a r ih =>
    have h1 := ha a (List.mem_cons_self ..)
    cases a with
    | error e => cases h1
    | ok u =>
      rw [List.length_cons, List.replicate_succ, ← ih fun x hx => ha x (List.mem_cons_of_mem _ hx)]

/-- which buffered entries of the open block are writes (`true`) and which are deletes (`false`) -/
def cacheShape (fw : FWorld) : List Bool :=
  match fw.batch with
  | some b => b.cache.map (·.2.isSome)
  | none => []

/-- what the kernel computes about the two final states of the tree-free world -/
def FinalFacts : Prop :=
    -- outcomes
    ((((runF toyH (FWorld.init toyH true) steps).1.length == 9 &&
        (runF toyH (FWorld.init toyH true) steps).1.all okB) = true) ∧
      (((runF toyH (FWorld.init toyH false) steps).1.length == 9 &&
        (runF toyH (FWorld.init toyH false) steps).1.all okB) = true)) ∧
    -- final root and flags
    ((runF toyH (FWorld.init toyH true) steps).2.outer.root = hashOf toyH tFinal ∧
      (runF toyH (FWorld.init toyH false) steps).2.outer.root = hashOf toyH tFinal ∧
      (runF toyH (FWorld.init toyH true) steps).2.outer.prune = true ∧
      (runF toyH (FWorld.init toyH false) steps).2.outer.prune = false ∧
      (runF toyH (FWorld.init toyH true) steps).2.batch.isNone = true ∧
      (runF toyH (FWorld.init toyH false) steps).2.batch.isNone = true) ∧
    -- final database
    ((runF toyH (FWorld.init toyH true) steps).2.base = [(hashOf toyH tFinal, enc toyH tFinal)] ∧
      (runF toyH (FWorld.init toyH true) steps).2.counts = [(hashOf toyH tFinal, 1)] ∧
      (runF toyH (FWorld.init toyH true) steps).2.base.length = 1 ∧
      (runF toyH (FWorld.init toyH false) steps).2.base.length = 9 ∧
      (runF toyH (FWorld.init toyH false) steps).2.counts = [])

/-- … and about the two runs step by step -/
def StepFacts : Prop :=
    -- database sizes after each step
    (List.range 6).map (fun i => ((runF toyH (FWorld.init toyH true) (steps.take i)).2.base.length,
        (runF toyH (FWorld.init toyH false) (steps.take i)).2.base.length)) =
      [(0, 0), (1, 1), (3, 4), (4, 7), (4, 7), (1, 9)] ∧
    -- the aborted block step, pruning on and off
    (let before := (runF toyH (FWorld.init toyH true) (steps.take 3)).2
      let r := stepF toyH before (.block [(k2, some [9])] true)
      okB <$> r.1 = [true, true] ∧ r.2.base = before.base ∧ r.2.outer.root = before.outer.root ∧
      r.2.outer.prune = before.outer.prune ∧ r.2.counts = before.counts ∧ r.2.failAfter = before.failAfter ∧
      r.2.batch.isNone = true ∧ before.batch.isNone = true) ∧
    (let before := (runF toyH (FWorld.init toyH false) (steps.take 3)).2
      let r := stepF toyH before (.block [(k2, some [9])] true)
      okB <$> r.1 = [true, true] ∧ r.2.base = before.base ∧ r.2.outer.root = before.outer.root ∧
      r.2.outer.prune = before.outer.prune ∧ r.2.counts = before.counts ∧ r.2.failAfter = before.failAfter ∧
      r.2.batch.isNone = true ∧ before.batch.isNone = true) ∧
    -- the cache of the aborted block before it is left
    (cacheShape (innerF toyH (runF toyH (FWorld.init toyH true) (steps.take 3)).2.batchBegin [(k2, some [9])]).2 =
        [true, true, false, false] ∧
      (innerF toyH (runF toyH (FWorld.init toyH true) (steps.take 3)).2.batchBegin [(k2, some [9])]).2.base =
        (runF toyH (FWorld.init toyH true) (steps.take 3)).2.base ∧
      cacheShape (innerF toyH (runF toyH (FWorld.init toyH false) (steps.take 3)).2.batchBegin [(k2, some [9])]).2 =
        [true, true, false, false] ∧
      (innerF toyH (runF toyH (FWorld.init toyH false) (steps.take 3)).2.batchBegin [(k2, some [9])]).2.base =
        (runF toyH (FWorld.init toyH false) (steps.take 3)).2.base) ∧
    -- the cache of the committed block before it is left
    (cacheShape (innerF toyH (runF toyH (FWorld.init toyH true) (steps.take 2)).2.batchBegin
        [(k1, some longW), (k2, none), (k3, some longV)]).2 =
        [true, false, false, false, false, true, false, false, true, true] ∧
      cacheShape (innerF toyH (runF toyH (FWorld.init toyH false) (steps.take 2)).2.batchBegin
        [(k1, some longW), (k2, none), (k3, some longV)]).2 =
        [true, false, false, false, false, true, false, false, true, true]) ∧
    -- the root before and after the committed block
    (runF toyH (FWorld.init toyH true) (steps.take 2)).2.outer.root ≠
      (runF toyH (FWorld.init toyH true) (steps.take 3)).2.outer.root ∧
    (runF toyH (FWorld.init toyH true) (steps.take 3)).2.outer.root =
      hashOf toyH (ext [1] (branch (upd (upd emptyCh 2 (leaf [] longW)) 4 (leaf [] longV)) []))

instance : Decidable FinalFacts := by unfold FinalFacts; infer_instance
instance : Decidable StepFacts := by unfold StepFacts; infer_instance

/-- **The two runs of the tree-free world, evaluated once** (as in `NonVacuity4.hist5_eval`). What this section computes is
    stated in the two definitions above (two, each with a `Decidable` instance of its own: one instance for all of it is
    larger than instance search accepts); the theorems of this section are the components. -/
theorem free_eval : FinalFacts ∧ StepFacts := by decide +kernel

/-- the tree-free run, pruning on: the nine outcomes (2 direct calls; 3 calls and the commit of the first block; 1 call and
    the exit of the second block; 1 direct call) are all normal returns -/
theorem outcomes_p : (runF toyH (FWorld.init toyH true) steps).1 = List.replicate 9 (.ok ()) :=
  all_ok_of_B _ 9 free_eval.1.1.1

theorem outcomes_np : (runF toyH (FWorld.init toyH false) steps).1 = List.replicate 9 (.ok ()) :=
  all_ok_of_B _ 9 free_eval.1.1.2

/-- hence so do the nine calls of the tree-carrying world -/
theorem outcomes_world_p : (HexFree.runW toyH (freshW toyH true) steps).1 = List.replicate 9 (.ok ()) :=
  lockstep_witness_p.1 ▸ outcomes_p

theorem outcomes_world_np : (HexFree.runW toyH (freshW toyH false) steps).1 = List.replicate 9 (.ok ()) :=
  lockstep_witness_np.1 ▸ outcomes_np

/-- the final root of the tree-free world is the hash of that leaf, in both modes, no block is open … -/
theorem final_root :
    (runF toyH (FWorld.init toyH true) steps).2.outer.root = hashOf toyH tFinal ∧
    (runF toyH (FWorld.init toyH false) steps).2.outer.root = hashOf toyH tFinal ∧
    (runF toyH (FWorld.init toyH true) steps).2.outer.prune = true ∧
    (runF toyH (FWorld.init toyH false) steps).2.outer.prune = false ∧
    (runF toyH (FWorld.init toyH true) steps).2.batch.isNone = true ∧
    (runF toyH (FWorld.init toyH false) steps).2.batch.isNone = true :=
  free_eval.1.2.1

/-- … and it is the root of the tree the tree-carrying world ends with -/
theorem final_tree :
    sameB ((HexFree.runW toyH (freshW toyH true) steps).2.tries[0]!).tree tFinal = true ∧
    sameB ((HexFree.runW toyH (freshW toyH false) steps).2.tries[0]!).tree tFinal = true :=
  world_eval.2

/-- the final database: the pruning run keeps exactly the final root (reference count 1), the non-pruning run all nine
    nodes ever written by a direct call or a committed block -/
theorem final_db :
    (runF toyH (FWorld.init toyH true) steps).2.base = [(hashOf toyH tFinal, enc toyH tFinal)] ∧
    (runF toyH (FWorld.init toyH true) steps).2.counts = [(hashOf toyH tFinal, 1)] ∧
    (runF toyH (FWorld.init toyH true) steps).2.base.length = 1 ∧
    (runF toyH (FWorld.init toyH false) steps).2.base.length = 9 ∧
    (runF toyH (FWorld.init toyH false) steps).2.counts = [] :=
  free_eval.1.2.2

/-- the tree-carrying world ends with the same database (from `Sim`) -/
theorem final_db_world :
    (HexFree.runW toyH (freshW toyH true) steps).2.base.length = 1 ∧
    (HexFree.runW toyH (freshW toyH false) steps).2.base.length = 9 := by
  rw [← lockstep_witness_p.2.1, ← lockstep_witness_np.2.1]
  exact ⟨final_db.2.2.1, final_db.2.2.2.1⟩

/-- database sizes of the tree-free world after each step of the history (pruning, non-pruning): the committed block
    (step 3: overwrite, delete, write) brings the pruned database from 3 to 4 entries and the unpruned one from 4 to 7; the
    aborted block (step 4) changes neither; the final delete prunes down to one entry -/
theorem base_sizes :
    (List.range 6).map (fun i => ((runF toyH (FWorld.init toyH true) (steps.take i)).2.base.length,
      (runF toyH (FWorld.init toyH false) (steps.take i)).2.base.length)) =
    [(0, 0), (1, 1), (3, 4), (4, 7), (4, 7), (1, 9)] :=
  free_eval.2.1

/-- the block left by an exception ran its `set` (outcome `.ok`, then `.ok` for leaving) and changed nothing: database,
    root, reference counts are those before the block, and no block is left open — pruning on … -/
theorem aborted_block_noop_p :
    let before := (runF toyH (FWorld.init toyH true) (steps.take 3)).2
    let r := stepF toyH before (.block [(k2, some [9])] true)
    okB <$> r.1 = [true, true] ∧ r.2.base = before.base ∧ r.2.outer.root = before.outer.root ∧
    r.2.outer.prune = before.outer.prune ∧ r.2.counts = before.counts ∧ r.2.failAfter = before.failAfter ∧
    r.2.batch.isNone = true ∧ before.batch.isNone = true :=
  free_eval.2.2.1

/-- … and off -/
theorem aborted_block_noop_np :
    let before := (runF toyH (FWorld.init toyH false) (steps.take 3)).2
    let r := stepF toyH before (.block [(k2, some [9])] true)
    okB <$> r.1 = [true, true] ∧ r.2.base = before.base ∧ r.2.outer.root = before.outer.root ∧
    r.2.outer.prune = before.outer.prune ∧ r.2.counts = before.counts ∧ r.2.failAfter = before.failAfter ∧
    r.2.batch.isNone = true ∧ before.batch.isNone = true :=
  free_eval.2.2.2.1

/-- inside the aborted block the write was really buffered: after the `set` the cache of the open block holds buffered
    writes of the new root and branch and buffered deletes of the old root and branch, while the database is untouched -/
theorem aborted_block_buffered :
    cacheShape (innerF toyH (runF toyH (FWorld.init toyH true) (steps.take 3)).2.batchBegin [(k2, some [9])]).2 =
      [true, true, false, false] ∧
    (innerF toyH (runF toyH (FWorld.init toyH true) (steps.take 3)).2.batchBegin [(k2, some [9])]).2.base =
      (runF toyH (FWorld.init toyH true) (steps.take 3)).2.base ∧
    cacheShape (innerF toyH (runF toyH (FWorld.init toyH false) (steps.take 3)).2.batchBegin [(k2, some [9])]).2 =
      [true, true, false, false] ∧
    (innerF toyH (runF toyH (FWorld.init toyH false) (steps.take 3)).2.batchBegin [(k2, some [9])]).2.base =
      (runF toyH (FWorld.init toyH false) (steps.take 3)).2.base :=
  free_eval.2.2.2.2.1

/-- the cache of the committed block just before it is left: ten entries, four buffered writes and six buffered deletes
    (on the non-pruning trie the commit pushes only the writes) -/
theorem committed_block_cache :
    cacheShape (innerF toyH (runF toyH (FWorld.init toyH true) (steps.take 2)).2.batchBegin
      [(k1, some longW), (k2, none), (k3, some longV)]).2 =
      [true, false, false, false, false, true, false, false, true, true] ∧
    cacheShape (innerF toyH (runF toyH (FWorld.init toyH false) (steps.take 2)).2.batchBegin
      [(k1, some longW), (k2, none), (k3, some longV)]).2 =
      [true, false, false, false, false, true, false, false, true, true] :=
  free_eval.2.2.2.2.2.1

/-- the committed block did change the root and the database -/
theorem committed_block_changes :
    (runF toyH (FWorld.init toyH true) (steps.take 2)).2.outer.root ≠
      (runF toyH (FWorld.init toyH true) (steps.take 3)).2.outer.root ∧
    (runF toyH (FWorld.init toyH true) (steps.take 3)).2.outer.root =
      hashOf toyH (ext [1] (branch (upd (upd emptyCh 2 (leaf [] longW)) 4 (leaf [] longV)) [])) :=
  free_eval.2.2.2.2.2.2

end PyTrie.Props.NonVacuity5
