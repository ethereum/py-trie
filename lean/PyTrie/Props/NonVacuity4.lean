import PyTrie.Props.NonVacuity3
/-! # Non-vacuity, part 4: a pruning history for the pruned-database theorems

`Raw.pruned_db_complete` and `Raw.pruned_db_get` are stated over `ReachOpsNC` (the executor's run of a history with
`NoClobber` at every step, pruning on or off). Here: a Boolean checker for `ReachOpsNC`, a five-operation history on a
**pruning** trie (toy hash `toyH`) in which an overwrite and a delete really remove
entries from the database, and the two theorems applied to it. -/
namespace PyTrie.Props.NonVacuity4
open PyTrie PyTrie.Hex PyTrie.Hex.Node PyTrie.HexD
open PyTrie.Props.NonVacuity PyTrie.Props.NonVacuity2
open PyTrie.HexW PyTrie.HexRaw
open PyTrie.Props.C01 (Op run spec applyOp)

/-! ## 1. A Boolean checker for `ReachOpsNC` -/
section Checker

variable (Hs : Hashing) (brh : Hash)

/-- the run-level hypotheses of one step of `ReachOpsNC`, as a test: those of `ReachOps` (`stepOkB`) and `NoClobber`
    of the step's writes against the base before the step, **whatever the pruning mode** -/
def stepOkNCB (prune : Bool) (st : TrieSt × OpSt) (o : Op) : Bool :=
  stepOkB Hs brh prune st o && noClobberB st.2.store.base (opWrites Hs st.1 (opKey o) (opVal o))

def allOkNCB (prune : Bool) : TrieSt × OpSt → List Op → Bool
  | _, [] => true
  | st, o :: r => stepOkNCB Hs brh prune st o && allOkNCB prune (stepW Hs brh st o) r

theorem stepOkNC_spec (prune : Bool) (st : TrieSt × OpSt) (o : Op) (h : stepOkNCB Hs brh prune st o = true) :
    RefSound Hs st.1.tree (nibs (opKey o)) ∧
    (isBlank (opTree Hs st.1 (opKey o) (opVal o)).1 = false → Hs.hashOf (opTree Hs st.1 (opKey o) (opVal o)).1 ≠ brh) ∧
    NoClobber st.2.store.base (opWrites Hs st.1 (opKey o) (opVal o)) ∧
    (opSetDel Hs brh st.1 (opKey o) (opVal o) st.2).2 = .ok (stepW Hs brh st o).1 := by
  simp only [stepOkNCB, Bool.and_eq_true] at h
  obtain ⟨h1, h2, _, h4⟩ := stepOk_spec Hs brh prune st o h.1
  exact ⟨h1, h2, noClobber_of_B _ _ h.2, h4⟩

theorem reachOpsNC_of_allOk (prune : Bool) (pre : List Op) (st : TrieSt × OpSt) (ops : List Op)
    (hr : ReachOpsNC Hs brh prune pre st.1 st.2) (h : allOkNCB Hs brh prune st ops = true) :
    ReachOpsNC Hs brh prune (pre ++ ops) (ops.foldl (stepW Hs brh) st).1 (ops.foldl (stepW Hs brh) st).2 := by
  induction ops generalizing pre st with
  | nil => simpa using hr
  | cons o r ih =>
    simp only [allOkNCB, Bool.and_eq_true] at h
    obtain ⟨h1, h2, h3, h4⟩ := stepOkNC_spec Hs brh prune st o h.1
    have := ih (pre ++ [o]) (stepW Hs brh st o) (ReachOpsNC.step pre st.1 st.2 o _ hr h1 h2 h3 h4) h.2
    simpa using this

/-- **a history all of whose steps pass the test is a `ReachOpsNC` history** -/
theorem reachOpsNC_of_check (prune : Bool) (ops : List Op) (h : allOkNCB Hs brh prune (initW brh prune) ops = true) :
    ReachOpsNC Hs brh prune ops (runW Hs brh prune ops).1 (runW Hs brh prune ops).2 := by
  simpa [runW] using reachOpsNC_of_allOk Hs brh prune [] (initW brh prune) ops ReachOpsNC.init h

end Checker

def trieStB (a b : TrieSt) : Bool := sameB a.tree b.tree && a.root == b.root && a.prune == b.prune

theorem trieSt_eq (a b : TrieSt) (h : trieStB a b = true) : a = b := by
  obtain ⟨t, r, p⟩ := a
  obtain ⟨t', r', p'⟩ := b
  simp only [trieStB, Bool.and_eq_true, beq_iff_eq] at h
  rw [sameB_eq _ _ h.1.1, h.1.2, h.2]

/-- the size premise of the raw-level theorems, from a test with a small bound -/
theorem bodies_short64 (d : Dict Bytes) (hall : d.all (fun e => decide (e.2.length < 100)) = true) (h : Hash)
    (b : Bytes) (hg : Dict.get? d h = some b) : b.length < 2 ^ 64 :=
  Nat.lt_trans (bodies_short d 100 hall h b hg) (by decide)

/-! ## 2. The history -/

/-- a second 33-byte value -/
def longW : Bytes := List.replicate 33 8

def k3 : Bytes := [0x14]

/-- five operations on three keys sharing their first nibble:
    1. `set k1 longV` — the root is a (hashed) leaf;
    2. `set k2 [5]` — root extension over a hashed branch holding a hashed leaf (`longV`) and an embedded one; the old
       root is pruned;
    3. `set k1 longW` — **overwrite of a ≥ 32-byte value**: the hashed leaf, the branch and the root are pruned and
       replaced (database stays at three entries; the non-pruning one grows to seven);
    4. `set k3 longV` — a third key with a hashed leaf: branch and root pruned and replaced;
    5. `delete k2` — the embedded leaf goes: branch and root pruned and replaced. -/
def hist5 : List Op := [.set k1 longV, .set k2 [5], .set k1 longW, .set k3 longV, .delete k2]

example : 4 ≤ hist5.length := by decide

/-- the final state of the pruning run -/
def Tp : TrieSt := (runW toyHs (blankRoot toyH) true hist5).1
def sp : OpSt := (runW toyHs (blankRoot toyH) true hist5).2

/-- the final pruned database -/
def prunedBase : Dict Bytes := sp.store.base

/-- the database of the same history on a non-pruning trie -/
def fullBase : Dict Bytes := (runW toyHs (blankRoot toyH) false hist5).2.store.base

/-- the final tree: extension over a branch with two hashed leaves -/
def tEnd : Node := ext [1] (branch (upd (upd emptyCh 2 (leaf [] longW)) 4 (leaf [] longV)) [])

/-- **The two runs of `hist5`, evaluated once.** The kernel shares the run among the conjuncts of one evaluation and
    nothing between declarations, so everything this file computes about the two runs is stated here, and the
    theorems below are its components. -/
theorem hist5_eval :
    -- section 2: every step passes the test, pruning on and off; the two databases and `Tp` as projections of the runs
    -- (definitional, but the kernel runs the history to see such an equation, so it is taken from here and used by
    -- rewriting); the trie prunes
    ((allOkNCB toyHs (blankRoot toyH) true (initW (blankRoot toyH) true) hist5 = true ∧
        allOkNCB toyHs (blankRoot toyH) false (initW (blankRoot toyH) false) hist5 = true) ∧
      (prunedBase = sp.store.base ∧ fullBase = (runW toyHs (blankRoot toyH) false hist5).2.store.base ∧
        trieStB Tp (runW toyHs (blankRoot toyH) true hist5).1 = true) ∧
      Tp.prune = true) ∧
    -- section 3: sizes of the two final databases and after each prefix; the final tree; keys and absent nodes of the
    -- final databases; the leaf removed by the overwrite
    ((prunedBase.length = 4 ∧ fullBase.length = 11 ∧ prunedBase.length < fullBase.length) ∧
      (List.range 6).map (fun i => ((runW toyHs (blankRoot toyH) true (hist5.take i)).2.store.base.length,
          (runW toyHs (blankRoot toyH) false (hist5.take i)).2.store.base.length)) =
        [(0, 0), (1, 1), (3, 4), (3, 7), (4, 9), (4, 11)] ∧
      sameB Tp.tree tEnd = true ∧
      prunedBase.map (·.1) =
        [hashOf toyH (leaf [] longW), hashOf toyH (leaf [] longV),
         hashOf toyH (branch (upd (upd emptyCh 2 (leaf [] longW)) 4 (leaf [] longV)) []), hashOf toyH tEnd] ∧
      (Dict.contains prunedBase (hashOf toyH (leaf (nibs k1) longV)) = false ∧
        Dict.contains fullBase (hashOf toyH (leaf (nibs k1) longV)) = true ∧
        Dict.contains prunedBase (hashOf toyH t1') = false ∧ Dict.contains fullBase (hashOf toyH t1') = true ∧
        Dict.contains prunedBase (hashOf toyH t1br) = false ∧ Dict.contains fullBase (hashOf toyH t1br) = true) ∧
      Dict.contains (runW toyHs (blankRoot toyH) true (hist5.take 2)).2.store.base (hashOf toyH (leaf [] longV)) = true ∧
      Dict.contains (runW toyHs (blankRoot toyH) true (hist5.take 3)).2.store.base (hashOf toyH (leaf [] longV)) = false ∧
      Dict.contains (runW toyHs (blankRoot toyH) true (hist5.take 3)).2.store.base (hashOf toyH (leaf [] longW)) = true) ∧
    -- section 5: the side conditions of `Raw.pruned_db_get` on either database
    (Dict.get? prunedBase (blankRoot toyH) = none ∧ prunedBase.all (fun e => decide (e.2.length < 100)) = true) ∧
    Dict.get? fullBase (blankRoot toyH) = none ∧ fullBase.all (fun e => decide (e.2.length < 100)) = true := by
  decide +kernel

theorem hist5_ok_p : allOkNCB toyHs (blankRoot toyH) true (initW (blankRoot toyH) true) hist5 = true :=
  hist5_eval.1.1.1

theorem hist5_ok_np : allOkNCB toyHs (blankRoot toyH) false (initW (blankRoot toyH) false) hist5 = true :=
  hist5_eval.1.1.2

theorem prunedBase_def : prunedBase = sp.store.base := hist5_eval.1.2.1.1

theorem fullBase_def : fullBase = (runW toyHs (blankRoot toyH) false hist5).2.store.base :=
  hist5_eval.1.2.1.2.1

theorem Tp_def : Tp = (runW toyHs (blankRoot toyH) true hist5).1 := trieSt_eq _ _ hist5_eval.1.2.1.2.2

/-- **`ReachOpsNC` with pruning on** for the five-operation history … -/
theorem hist5_reach_p : ReachOpsNC toyHs (blankRoot toyH) true hist5 Tp sp :=
  Tp_def ▸ reachOpsNC_of_check toyHs _ true hist5 hist5_ok_p

/-- … and with pruning off (for comparison) -/
theorem hist5_reach_np : ReachOpsNC toyHs (blankRoot toyH) false hist5
    (runW toyHs (blankRoot toyH) false hist5).1 (runW toyHs (blankRoot toyH) false hist5).2 :=
  reachOpsNC_of_check toyHs _ false hist5 hist5_ok_np

theorem Tp_prune : Tp.prune = true := hist5_eval.1.2.2

/-! ## 3. The witness visibly involves pruning -/

/-- the final pruned database has four entries, the non-pruning one eleven -/
theorem prunedBase_length : prunedBase.length = 4 ∧ fullBase.length = 11 ∧ prunedBase.length < fullBase.length :=
  hist5_eval.2.1.1

/-- database sizes after each prefix of the history (pruning, non-pruning): the overwrite (step 3) and the delete
    (step 5) leave the pruned database no larger although each writes new nodes -/
theorem base_sizes :
    (List.range 6).map (fun i => ((runW toyHs (blankRoot toyH) true (hist5.take i)).2.store.base.length,
      (runW toyHs (blankRoot toyH) false (hist5.take i)).2.store.base.length)) =
    [(0, 0), (1, 1), (3, 4), (3, 7), (4, 9), (4, 11)] :=
  hist5_eval.2.1.2.1

theorem Tp_tree : Tp.tree = tEnd := sameB_eq _ _ hist5_eval.2.1.2.2.1

/-- the keys of the final pruned database are exactly the hashes of the four (hashed) nodes of the final tree:
    the two leaves, the branch, the root -/
theorem prunedBase_keys : prunedBase.map (·.1) =
    [hashOf toyH (leaf [] longW), hashOf toyH (leaf [] longV),
     hashOf toyH (branch (upd (upd emptyCh 2 (leaf [] longW)) 4 (leaf [] longV)) []), hashOf toyH tEnd] :=
  hist5_eval.2.1.2.2.2.1

/-- nodes that were live earlier are gone from the pruned database but still in the non-pruning one: the first root
    (a leaf holding `longV` under the whole key), the root and the branch after step 2 (`t1`, `t1br` of `NonVacuity.lean`) -/
theorem pruned_gone :
    Dict.contains prunedBase (hashOf toyH (leaf (nibs k1) longV)) = false ∧
    Dict.contains fullBase (hashOf toyH (leaf (nibs k1) longV)) = true ∧
    Dict.contains prunedBase (hashOf toyH t1') = false ∧ Dict.contains fullBase (hashOf toyH t1') = true ∧
    Dict.contains prunedBase (hashOf toyH t1br) = false ∧ Dict.contains fullBase (hashOf toyH t1br) = true :=
  hist5_eval.2.1.2.2.2.2.1

/-- the overwrite of step 3 removed the hashed leaf holding `longV` (it comes back with step 4, under another key) -/
theorem overwrite_prunes_leaf :
    Dict.contains (runW toyHs (blankRoot toyH) true (hist5.take 2)).2.store.base (hashOf toyH (leaf [] longV)) = true ∧
    Dict.contains (runW toyHs (blankRoot toyH) true (hist5.take 3)).2.store.base (hashOf toyH (leaf [] longV)) = false ∧
    Dict.contains (runW toyHs (blankRoot toyH) true (hist5.take 3)).2.store.base (hashOf toyH (leaf [] longW)) = true :=
  hist5_eval.2.1.2.2.2.2.2

/-! ## 4. `pruned_db_complete` on the witness -/

/-- **`Raw.pruned_db_complete` applies**: the pruned database is complete for the final root -/
theorem pruned_complete : Complete toyHs (blankRoot toyH) prunedBase Tp :=
  prunedBase_def ▸ Raw.pruned_db_complete toyHs (blankRoot toyH) true hist5 Tp sp hist5_reach_p

/-- in particular the root pointer is the hash of the final tree and its body is stored under it -/
theorem pruned_root : Tp.root = hashOf toyH tEnd ∧ Dict.get? prunedBase Tp.root = some (enc toyH tEnd) := by
  obtain ⟨h, -⟩ := pruned_complete
  rw [Tp_tree] at h
  simp only [toyHs, stdHashing] at h
  exact ⟨h.1, h.2.2⟩

/-! ## 5. `pruned_db_get` on the witness -/

theorem prunedBase_blank : Dict.get? prunedBase (blankRoot toyH) = none := hist5_eval.2.2.1.1

theorem prunedBase_short : ∀ h b, Dict.get? prunedBase h = some b → b.length < 2 ^ 64 :=
  bodies_short64 prunedBase hist5_eval.2.2.1.2

/-- **`Raw.pruned_db_get` applies**, for every key -/
theorem pruned_get (key : Bytes) : getD toyH prunedBase Tp.root (nibs key) = .ok (spec hist5 key) := by
  have h := Raw.pruned_db_get toyH toyH_len true hist5 Tp sp hist5_reach_p
  rw [← prunedBase_def] at h
  exact h prunedBase_blank prunedBase_short key

/-- a key stored at the end, overwritten on the way: the reader walks root → hashed branch → hashed leaf in the pruned
    database and returns the **later** value -/
theorem pruned_get_k1 : getD toyH prunedBase Tp.root (nibs k1) = .ok longW := by
  rw [pruned_get k1]
  have : spec hist5 k1 = longW := by decide
  rw [this]

/-- a key stored at the end whose leaf was pruned in between and written again -/
theorem pruned_get_k3 : getD toyH prunedBase Tp.root (nibs k3) = .ok longV := by
  rw [pruned_get k3]
  have : spec hist5 k3 = longV := by decide
  rw [this]

/-- the deleted key -/
theorem pruned_get_k2 : getD toyH prunedBase Tp.root (nibs k2) = .ok [] := by
  rw [pruned_get k2]
  have : spec hist5 k2 = [] := by decide
  rw [this]

/-- a key never written -/
theorem pruned_get_absent : getD toyH prunedBase Tp.root (nibs [0x77, 0x01]) = .ok [] := by
  rw [pruned_get [0x77, 0x01]]
  have : spec hist5 [0x77, 0x01] = [] := by decide
  rw [this]

theorem full_blank : Dict.get? fullBase (blankRoot toyH) = none := hist5_eval.2.2.2.1

theorem full_short : ∀ h b, Dict.get? fullBase h = some b → b.length < 2 ^ 64 :=
  bodies_short64 fullBase hist5_eval.2.2.2.2

/-- the same theorem on the non-pruning run of the history (`prune := false` instance) -/
theorem full_get (key : Bytes) :
    getD toyH fullBase (runW toyHs (blankRoot toyH) false hist5).1.root (nibs key) = .ok (spec hist5 key) := by
  have h := Raw.pruned_db_get toyH toyH_len false hist5 _ _ hist5_reach_np
  rw [← fullBase_def] at h
  exact h full_blank full_short key

end PyTrie.Props.NonVacuity4
