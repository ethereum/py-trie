import PyTrie.Lemmas.BranchRawRefines
import PyTrie.Props.C12
/-! # C13 — binary-trie branches and witnesses are sufficient, exact and unforgeable

Tree-level functions transcribe `trie/branches.py`; `bgetD` / `ifBranchValid` read *encoded* nodes
from a database built from an arbitrary list of offered byte strings (`if_branch_valid` builds
`{keccak(node): node}` and runs `BinaryTrie.get` on it). Every reachable trie is canonical
(`C12.canon_run`), so the theorems apply to every non-empty BinaryTrie. `NoCollision` is the run-level
predicate "no offered string collides with a node of the trie"; no injectivity of the hash is assumed. -/
namespace PyTrie.Props.C13
open PyTrie PyTrie.Bin PyTrie.Bin.BNode

/-- `get_branch` refuses (InvalidKeyError) only a key that is not stored and is a proper prefix or
    extension of a stored key … -/
theorem branch_refusal (t : BNode) (hc : BCanon t) (k : Bits) (h : ∃ e, getBranch t k = .error e) :
    bget t k = none ∧ ∃ k' v', bget t k' = some v' ∧ Related k' k :=
  let ⟨h0, k', v', h1, h2, _⟩ := (getBranch_error_iff t hc k).1 h
  ⟨h0, k', v', h1, h2⟩

/-- … exactly: an unstored key that extends a stored key, or is a proper prefix of one *ending at a node* -/
theorem branch_refusal_iff (t : BNode) (hc : BCanon t) (k : Bits) :
    (∃ e, getBranch t k = .error e) ↔
      bget t k = none ∧ ∃ k' v', bget t k' = some v' ∧ Related k' k ∧ (k <+: k' → AtNode t k) :=
  getBranch_error_iff t hc k

/-- the nodes of a branch are nodes of the trie, root first -/
theorem branch_nodes (t : BNode) (k : Bits) (l : List BNode) (h : getBranch t k = .ok l) :
    l.head? = some t ∧ ∀ x ∈ l, Sub x t := by
  cases getBranch_ok_eq t k l h
  exact ⟨pathNodes_head t k, sub_of_mem_pathNodes t k⟩

/-- **sufficient**: `if_branch_valid(get_branch(key), root, key, get(key))` holds — for present and absent keys -/
theorem branch_valid (H : Bytes → Bytes) (hlen : ∀ b, (H b).length = 32) (t : BNode) (hc : BCanon t) (k : Bits)
    (path : List BNode) (hp : getBranch t k = .ok path) (hnc : NoCollision H t (path.map (encNode H))) :
    ifBranchValid H (path.map (encNode H)) (hashNode H t) k (bget t k) = .valid :=
  Bin.branch_valid H hlen t hc k path hp hnc

/-- **unforgeable**: no list of byte strings — altered, truncated, for another key, from another trie —
    makes `if_branch_valid` confirm an answer the trie does not give -/
theorem branch_sound (H : Bytes → Bytes) (hlen : ∀ b, (H b).length = 32) (t : BNode) (hc : BCanon t) (k : Bits)
    (nodes : List Bytes) (hnc : NoCollision H t nodes) (claimed : Option Bytes)
    (hv : ifBranchValid H nodes (hashNode H t) k claimed = .valid) : claimed = bget t k :=
  Bin.branch_sound H hlen t hc k nodes hnc claimed hv

/-- `check_if_branch_exist(p)` ⇔ some stored key starts with `p` -/
theorem exist_iff (t : BNode) (hc : BCanon t) (p : Bits) :
    branchExists t p = true ↔ ∃ k v, bget t k = some v ∧ p <+: k := branchExists_iff t hc p

/-- `get_trie_nodes` returns exactly the nodes reachable from the root -/
theorem trie_nodes_exact (t x : BNode) : x ∈ trieNodes t ↔ Sub x t := mem_trieNodes_iff t x

/-- a witness contains only nodes of the trie … -/
theorem witness_members (t : BNode) (p : Bits) (w : List BNode) (h : getWitness t p = .ok w) :
    ∀ x ∈ w, Sub x t := fun x hx => (mem_trieNodes_iff t x).1 (getWitness_subset t p w h hx)

/-- … is refused only when the prefix runs past a stored key … -/
theorem witness_refusal (t : BNode) (hc : BCanon t) (p : Bits) (e : KeyErr) (h : getWitness t p = .error e) :
    ∃ k v, bget t k = some v ∧ k <+: p ∧ k ≠ p := by
  fun_induction getWitness t p with
  | case1 v => cases h
  | case2 v p hp => exact ⟨[], v, rfl, List.nil_prefix, fun e => hp e.symm⟩
  | case3 q c p _ h1 => cases h
  | case4 q c p _ h1 hqp ih =>
    obtain ⟨p', rfl⟩ := hqp
    rw [except_map_error, List.drop_left] at h
    rw [List.drop_left] at ih
    obtain ⟨k, v, h1, h2, h3⟩ := ih hc.2.2 h
    exact ⟨q ++ k, v, (bget_kv_append q c k hc.1).trans h1, (List.prefix_append_right_inj q).2 h2,
      fun e => h3 (List.append_cancel_left e)⟩
  | case5 q c p _ h1 hqp => cases h
  | case6 l r _ ih =>
    obtain ⟨k, v, _, h2, h3⟩ := ih hc.2 ((except_map_error ..).1 h)
    exact absurd (List.prefix_nil.1 h2) h3
  | case7 l r p' _ ih =>
    obtain ⟨k, v, h1, h2, h3⟩ := ih hc.1 ((except_map_error ..).1 h)
    exact ⟨false :: k, v, h1, List.cons_prefix_cons.2 ⟨rfl, h2⟩, fun e => h3 (List.cons.inj e).2⟩
  | case8 l r b p' hb _ ih =>
    obtain ⟨k, v, h1, h2, h3⟩ := ih hc.2 ((except_map_error ..).1 h)
    exact ⟨b :: k, v, by rw [bget_branch_cons, if_neg hb]; exact h1, List.cons_prefix_cons.2 ⟨rfl, h2⟩,
      fun e => h3 (List.cons.inj e).2⟩

/-- … and is **sufficient** to answer `get(k)` for every key `k` starting with `p` -/
theorem witness_sufficient (H : Bytes → Bytes) (hlen : ∀ b, (H b).length = 32) (t : BNode) (hc : BCanon t) (p : Bits)
    (w : List BNode) (hw : getWitness t p = .ok w) (hnc : NoCollision H t (w.map (encNode H)))
    (k : Bits) (hpk : p <+: k) (fuel : Nat) (hf : k.length + 1 < fuel) :
    bgetD (H []) (offeredDb H (w.map (encNode H))) fuel (hashNode H t) k = .ok (bget t k) :=
  Bin.witness_sufficient H hlen t hc p w hw hnc k hpk fuel hf

/-- every trie reached by a history is canonical, so all of the above applies to it -/
theorem reachable_canonical (ops : List C12.Op) (hk : C12.KeysNonEmpty ops) (n : BNode)
    (h : C12.run ops = some n) : BCanon n := by
  have := C12.canon_run ops hk
  rw [h] at this
  exact this

end PyTrie.Props.C13

/-! ## Raw level: `trie/branches.py` as written, over hashes and the database

`Model/BranchRaw.lean` transcribes `_check_if_branch_exist`, `_get_branch`, `_get_trie_nodes` and
`_get_witness_for_key_prefix` statement by statement (`parse_node(db[node_hash])`, `node_hash in db`); the
correspondence check runs it against the code, also on databases with a node missing and on older roots. On a
database storing a canonical tree it returns the encodings of what the tree-level functions return, so every theorem
above is a theorem about this transcription. -/
namespace PyTrie.Props.C13
open PyTrie PyTrie.Bin PyTrie.BinRaw PyTrie.BranchRaw

theorem raw_exists (H : Bytes → Bytes) (hlen : ∀ b, (H b).length = 32) (t : BNode) (hc : BCanon t) (db : Db) (hst : AllStored H db t)
    (k : Bits) (fuel : Nat) (hf : k.length + 1 < fuel) :
    existsD (H []) db fuel (hashNode H t) k = .ok (branchExists t k) := by
  induction fuel generalizing t k with
  | zero => omega
  | succ f ih =>
    obtain ⟨hne, hl⟩ := hst t (Sub.refl t)
    rw [existsD_step _ _ _ _ _ _ _ hne hl (parse_enc H hlen t hc)]
    cases t with
    | leaf v =>
      simp only [parsedOf, branchExists]
      by_cases hk : k = [] <;> simp [hk]
    | kv p c =>
      simp only [parsedOf, branchExists]
      by_cases hk : k = []
      · simp [hk]
      · simp only [hk, ↓reduceIte, take_eq_iff_prefix, eq_take_iff_prefix]
        by_cases hlt : k.length < p.length
        · rw [if_pos hlt, if_pos hlt]
          by_cases hpre : k <+: p <;> simp [hpre]
        · rw [if_neg hlt, if_neg hlt]
          by_cases hpre : p <+: k
          · rw [if_pos hpre, if_pos hpre]
            have := length_drop_lt hc.1 hk
            exact ih c hc.2.2 (allStored_kv H hst) _ (by omega)
          · rw [if_neg hpre, if_neg hpre]
    | branch l r =>
      cases k with
      | nil => rfl
      | cons b k' =>
        simp only [parsedOf, branchExists, reduceCtorEq, ↓reduceIte, ite_take_one, List.drop_succ_cons, List.drop_zero]
        split
        · exact ih l hc.1 (allStored_left H hst) k' (Nat.lt_of_succ_lt_succ hf)
        · exact ih r hc.2 (allStored_right H hst) k' (Nat.lt_of_succ_lt_succ hf)

theorem raw_get_branch (H : Bytes → Bytes) (hlen : ∀ b, (H b).length = 32) (t : BNode) (hc : BCanon t) (db : Db) (hst : AllStored H db t)
    (k : Bits) (fuel : Nat) (hf : k.length + 1 < fuel) :
    getBranchD (H []) db fuel (hashNode H t) k = liftR H (getBranch t k) := by
  induction fuel generalizing t k with
  | zero => omega
  | succ f ih =>
    obtain ⟨hne, hl⟩ := hst t (Sub.refl t)
    rw [getBranchD_step _ _ _ _ _ _ _ hne hl (parse_enc H hlen t hc)]
    cases t with
    | leaf v =>
      simp only [parsedOf, getBranch]
      by_cases hk : k = [] <;> simp [hk, liftR, keyErr]
    | kv p c =>
      simp only [parsedOf, getBranch]
      by_cases hk : k = []
      · simp [hk, liftR, keyErr]
      · simp only [hk, ↓reduceIte, take_eq_iff_prefix]
        split
        · have := length_drop_lt hc.1 hk
          rw [liftR_map_cons, ih c hc.2.2 (allStored_kv H hst) _ (by omega)]
        · rfl
    | branch l r =>
      cases k with
      | nil => rfl
      | cons b k' =>
        simp only [parsedOf, getBranch, reduceCtorEq, ↓reduceIte, ite_take_one, List.drop_succ_cons, List.drop_zero]
        split
        · rw [liftR_map_cons, ih l hc.1 (allStored_left H hst) k' (Nat.lt_of_succ_lt_succ hf)]
        · rw [liftR_map_cons, ih r hc.2 (allStored_right H hst) k' (Nat.lt_of_succ_lt_succ hf)]

theorem raw_trie_nodes (H : Bytes → Bytes) (hlen : ∀ b, (H b).length = 32) (t : BNode) (hc : BCanon t) (db : Db) (hst : AllStored H db t)
    (fuel : Nat) (hf : bheight t < fuel) :
    trieNodesD db fuel (hashNode H t) = .ok ((trieNodes t).map (encNode H)) := trieNodesD_refines H hlen t hc db hst fuel hf

/-- the recursion depth of the witness generator is bounded by the height of the trie, not by the key: with an
    exhausted key at a branch node the code keeps descending to the right -/
theorem raw_witness (H : Bytes → Bytes) (hlen : ∀ b, (H b).length = 32) (t : BNode) (hc : BCanon t) (db : Db) (hst : AllStored H db t)
    (k : Bits) (tfuel fuel : Nat) (htf : bheight t < tfuel) (hf : bheight t < fuel) :
    witnessD db tfuel fuel (hashNode H t) k = liftR H (getWitness t k) :=
  witnessD_refines_of_height H hlen t hc db hst k tfuel fuel htf hf

/-- on the empty trie (root `H []`, absent from the database) all four functions return nothing -/
theorem raw_blank (H : Bytes → Bytes) (db : Db) (hb : lookup db (H []) = none) (k : Bits) (tfuel fuel : Nat) (hf : 0 < fuel) (htf : 0 < tfuel) :
    existsD (H []) db fuel (H []) k = .ok false ∧ getBranchD (H []) db fuel (H []) k = .ok [] ∧
    trieNodesD db tfuel (H []) = .ok [] ∧ witnessD db tfuel fuel (H []) k = .ok [] := by
  have ht : trieNodesD db tfuel (H []) = .ok [] := by
    cases tfuel with
    | zero => omega
    | succ tf => rw [trieNodesD]; simp only [hb]
  cases fuel with
  | zero => omega
  | succ f =>
    refine ⟨?_, ?_, ht, ?_⟩
    · rw [existsD, if_pos rfl]
    · rw [getBranchD, if_pos rfl]
    · rw [witnessD]
      simp only [ht, ite_self, hb]

end PyTrie.Props.C13
