import PyTrie.Props.C07
import PyTrie.Lemmas.RetryLoop
/-! # C07 — the whole retry loop ("retrying after supplying only the reported node always converges to the correct result,
asking for each node at most once")

`retryGet` / `retryOp` are the caller's loop — attempt; on `MissingTrieNode h` fetch exactly `h` from a source `full` that
has the nodes, store it, attempt again. `get_retry_loop_converges` / `op_retry_loop_converges`: the loop ends within
`outstanding + 2` attempts with a result that is no `MissingTrieNode`, having asked for no hash twice, and only for hashes
that were absent. For a lookup the result is the value of the complete database. -/
namespace PyTrie.Props.C07
open PyTrie PyTrie.Hex PyTrie.HexW

section
variable (Hs : Hashing) (blankRootHash : Hash)

def supply (s : OpSt) (h : Hash) (body : Bytes) : OpSt :=
  { s with store := { s.store with base := Dict.insert s.store.base h body } }

/-- the retry loop around `get`: `none` = fuel exhausted; second component = the hashes asked for, latest first -/
def retryGet (full : Dict Bytes) (T : TrieSt) (key : Bytes) : Nat → OpSt → List Hash → Option (Except Exn Bytes) × List Hash
  | 0, _, asked => (none, asked)
  | fuel + 1, s, asked =>
    match opGet Hs blankRootHash T key s with
    | .error (.missingTrieNode h root rk pre) =>
      (match Dict.get? full h with
       | some body => retryGet full T key fuel (supply s h body) (h :: asked)
       | none => (some (.error (.missingTrieNode h root rk pre)), asked))
    | r => (some r, asked)

/-- the retry loop around `set` / `delete` (a failed attempt leaves the state untouched: `set_delete_missing_atomic`) -/
def retryOp (full : Dict Bytes) (T : TrieSt) (key : Bytes) (val : Option Bytes) :
    Nat → OpSt → List Hash → Option (OpSt × Except Exn TrieSt) × List Hash
  | 0, _, asked => (none, asked)
  | fuel + 1, s, asked =>
    match (opSetDel Hs blankRootHash T key val s).2 with
    | .error (.missingTrieNode h root rk pre) =>
      (match Dict.get? full h with
       | some body => retryOp full T key val fuel (supply s h body) (h :: asked)
       | none => (some ((opSetDel Hs blankRootHash T key val s).1, .error (.missingTrieNode h root rk pre)), asked))
    | r => (some ((opSetDel Hs blankRootHash T key val s).1, r), asked)

private theorem supply_contains_self (s : OpSt) (h : Hash) (body : Bytes) :
    (supply s h body).store.contains h = true := Store.contains_insert_self s.store h body

private theorem supply_contains_mono (s : OpSt) (h : Hash) (body : Bytes) (x : Hash)
    (hx : s.store.contains x = true) : (supply s h body).store.contains x = true :=
  Store.contains_insert_mono s.store h x body hx

/-- what both loops maintain: nothing present at the start has gone, and `asked` lists, without repetition, hashes
    that were absent at the start, that the source has, and that are present now -/
private def LoopInv (full : Dict Bytes) (s₀ s : OpSt) (asked : List Hash) : Prop :=
  (∀ x, s₀.store.contains x = true → s.store.contains x = true) ∧
  (∀ h ∈ asked, s₀.store.contains h = false ∧ Dict.contains full h = true ∧ s.store.contains h = true) ∧
  asked.Nodup

private theorem LoopInv.start (full : Dict Bytes) (s : OpSt) : LoopInv full s s [] :=
  ⟨fun _ hx => hx, nofun, List.nodup_nil⟩

private theorem LoopInv.asked {full : Dict Bytes} {s₀ s : OpSt} {asked : List Hash} (hi : LoopInv full s₀ s asked) :
    asked.Nodup ∧ ∀ h ∈ asked, s₀.store.contains h = false ∧ Dict.contains full h = true :=
  ⟨hi.2.2, fun h hh => ⟨(hi.2.1 h hh).1, (hi.2.1 h hh).2.1⟩⟩

private theorem LoopInv.supply {full : Dict Bytes} {s₀ s : OpSt} {asked : List Hash} (hi : LoopInv full s₀ s asked)
    {h : Hash} (habs : s.store.contains h = false) (hfull : Dict.contains full h = true) (body : Bytes) :
    LoopInv full s₀ (supply s h body) (h :: asked) := by
  obtain ⟨hmono, hasked, hnd⟩ := hi
  refine ⟨fun x hx => supply_contains_mono s h body x (hmono x hx), fun x hx => ?_,
    List.nodup_cons.2 ⟨fun hin => ?_, hnd⟩⟩
  · rcases List.mem_cons.1 hx with rfl | hx
    · refine ⟨?_, hfull, supply_contains_self s x body⟩
      cases hc0 : s₀.store.contains x
      · rfl
      · rw [hmono _ hc0] at habs; cases habs
    · obtain ⟨a, b, c⟩ := hasked x hx
      exact ⟨a, b, supply_contains_mono s h body x c⟩
  · rw [(hasked h hin).2.2] at habs; cases habs

private theorem retryGet_gen (full : Dict Bytes) (T : TrieSt) (hc : Canon T.tree) (key : Bytes) (s₀ : OpSt)
    (hroot : T.root ≠ blankRootHash → Dict.contains full T.root = true)
    (hfull : ∀ e ∈ traverseReads Hs T.tree (nibs key) [], Dict.contains full e.1 = true) :
    ∀ (fuel : Nat) (s : OpSt) (asked : List Hash), LoopInv full s₀ s asked →
      (outstanding Hs T key s.store).length + rootFlag blankRootHash T s.store + 1 ≤ fuel →
      (retryGet Hs blankRootHash full T key fuel s asked).1 = some (.ok (Hex.get T.tree (nibs key))) ∧
      (retryGet Hs blankRootHash full T key fuel s asked).2.Nodup ∧
      ∀ h ∈ (retryGet Hs blankRootHash full T key fuel s asked).2,
        s₀.store.contains h = false ∧ Dict.contains full h = true := by
  intro fuel
  induction fuel with
  | zero => intro s asked _ hf; omega
  | succ fuel ih =>
    intro s asked hi hf
    rw [retryGet]
    cases hres : opGet Hs blankRootHash T key s with
    | ok v =>
      cases get_same_or_missing Hs blankRootHash T hc key s v hres
      exact ⟨rfl, hi.asked⟩
    | error e =>
      obtain ⟨h, root, rk, pre, rfl⟩ := get_error_kind Hs blankRootHash T hc key s e hres
      have hstep := fun body => opGet_retry_step Hs blankRootHash T key s h root rk pre (supply s h body).store hres
        (supply_contains_self s h body) (fun x hx => supply_contains_mono s h body x hx)
      have hfullh : Dict.contains full h = true := by
        rcases (hstep []).2.1 with ⟨hne, rfl⟩ | hm
        · exact hroot hne
        · obtain ⟨e, he, rfl⟩ := List.mem_map.1 hm
          exact hfull e he
      obtain ⟨body, hb⟩ := Dict.get?_of_contains full h hfullh
      obtain ⟨habs, _, hlt⟩ := hstep body
      simp only [hb]
      exact ih _ _ (hi.supply habs hfullh body) (by omega)

/-- **the lookup retry loop converges to the value of the complete database**, asks for no hash twice, and only for hashes
    that were absent from the store it started with and that the source has -/
theorem get_retry_loop_converges (full : Dict Bytes) (T : TrieSt) (hc : Canon T.tree) (key : Bytes) (s : OpSt)
    (hroot : T.root ≠ blankRootHash → Dict.contains full T.root = true)
    (hfull : ∀ e ∈ traverseReads Hs T.tree (nibs key) [], Dict.contains full e.1 = true)
    (fuel : Nat) (hf : (outstanding Hs T key s.store).length + 2 ≤ fuel) :
    (retryGet Hs blankRootHash full T key fuel s []).1 = some (.ok (Hex.get T.tree (nibs key))) ∧
    (retryGet Hs blankRootHash full T key fuel s []).2.Nodup ∧
    ∀ h ∈ (retryGet Hs blankRootHash full T key fuel s []).2, s.store.contains h = false ∧ Dict.contains full h = true := by
  have h1 := rootFlag_le_one blankRootHash T s.store
  exact retryGet_gen Hs blankRootHash full T hc key s hroot hfull fuel s [] (.start full s) (by omega)

private theorem retryOp_gen (full : Dict Bytes) (T : TrieSt) (key : Bytes) (val : Option Bytes) (s₀ : OpSt)
    (hroot : T.root ≠ blankRootHash → Dict.contains full T.root = true)
    (hfull : ∀ e ∈ (opTree Hs T key val).2, ∀ h, e = Ev.read h → Dict.contains full h = true) :
    ∀ (fuel : Nat) (s : OpSt) (asked : List Hash), LoopInv full s₀ s asked →
      (outstandingOp Hs T key val s.store).length + rootFlag blankRootHash T s.store + 1 ≤ fuel →
      ∃ s' r, (retryOp Hs blankRootHash full T key val fuel s asked).1 = some (s', r) ∧
        (∀ h root rk pre, r ≠ .error (.missingTrieNode h root rk pre)) ∧
        (∀ T', r = .ok T' → T'.tree = (opTree Hs T key val).1) ∧
        (retryOp Hs blankRootHash full T key val fuel s asked).2.Nodup ∧
        ∀ h ∈ (retryOp Hs blankRootHash full T key val fuel s asked).2,
          s₀.store.contains h = false ∧ Dict.contains full h = true := by
  intro fuel
  induction fuel with
  | zero => intro s asked _ hf; omega
  | succ fuel ih =>
    intro s asked hi hf
    rw [retryOp]
    split
    · next h root rk pre hres =>
      have hstep := fun body => opSetDel_retry_step Hs blankRootHash T key val s h root rk pre (supply s h body).store hres
        (supply_contains_self s h body) (fun x hx => supply_contains_mono s h body x hx)
      have hfullh : Dict.contains full h = true := by
        rcases (hstep []).2.1 with ⟨hne, rfl⟩ | hm
        · exact hroot hne
        · exact hfull _ hm h rfl
      obtain ⟨body, hb⟩ := Dict.get?_of_contains full h hfullh
      obtain ⟨habs, _, hlt⟩ := hstep body
      simp only [hb]
      exact ih _ _ (hi.supply habs hfullh body) (by omega)
    · next hne =>
      exact ⟨_, _, rfl, fun h root rk pre heq => hne h root rk pre heq,
        fun T' hT => opSetDel_ok_tree Hs blankRootHash T key val s T' hT, hi.asked⟩

/-- **the `set` / `delete` retry loop ends with a result that is no `MissingTrieNode`** (within `outstanding + 2` attempts),
    asks for no hash twice, only for hashes that were absent; when the final attempt returns a trie it is the tree-level
    result -/
theorem op_retry_loop_converges (full : Dict Bytes) (T : TrieSt) (key : Bytes) (val : Option Bytes) (s : OpSt)
    (hroot : T.root ≠ blankRootHash → Dict.contains full T.root = true)
    (hfull : ∀ e ∈ (opTree Hs T key val).2, ∀ h, e = Ev.read h → Dict.contains full h = true)
    (fuel : Nat) (hf : (outstandingOp Hs T key val s.store).length + 2 ≤ fuel) :
    ∃ s' r, (retryOp Hs blankRootHash full T key val fuel s []).1 = some (s', r) ∧
      (∀ h root rk pre, r ≠ .error (.missingTrieNode h root rk pre)) ∧
      (∀ T', r = .ok T' → T'.tree = (opTree Hs T key val).1) ∧
      (retryOp Hs blankRootHash full T key val fuel s []).2.Nodup ∧
      ∀ h ∈ (retryOp Hs blankRootHash full T key val fuel s []).2, s.store.contains h = false ∧ Dict.contains full h = true := by
  have h1 := rootFlag_le_one blankRootHash T s.store
  exact retryOp_gen Hs blankRootHash full T key val s hroot hfull fuel s [] (.start full s) (by omega)

end
end PyTrie.Props.C07
