import PyTrie.Lemmas.HexTravProofs
import PyTrie.Model.HexEff
/-! # C08 — traverse / traverse_from describe the canonical node at every nibble path

`traverseT` mirrors `_traverse_from`/`_traverse_extension`, `traverseOut` mirrors `traverse` /
`traverse_from` (annotation, `TraversedPartialPath`, simulated node). All statements are in terms of
the *contents* `get t` of a canonical tree (every reachable trie is canonical: `C01.canon_run`), for
every nibble path — there is no bound on depth or length. -/
namespace PyTrie.Props.C08
open PyTrie PyTrie.Hex PyTrie.Hex.Node

/-- `root_node` = `traverse(())` = the annotated root -/
theorem traverse_nil (t : Node) : traverseOut t [] = .node (annotate t) := Hex.traverse_nil t

/-- blank exactly when no stored key starts with the path -/
theorem traverse_blank_iff (t : Node) (hc : Canon t) (p : Path) :
    (traverseT t p).1 = blank ↔ ∀ k, p <+: k → get t k = [] := Hex.traverse_blank_iff t hc p

/-- `TraversedPartialPath`: raised only inside a leaf or extension, with `traversed ++ tail = path`,
    a non-empty tail, and always with a simulated node -/
theorem traverse_partial_sim (t : Node) (hc : Canon t) (p tr tail : Path) (a : Ann) (sim : Option Ann)
    (h : traverseOut t p = .partialPath tr a tail sim) :
    sim.isSome = true ∧ tr ++ tail = p ∧ tail ≠ [] ∧ (a.kind = .leaf ∨ a.kind = .ext) :=
  Hex.traverse_partial_sim t hc p tr tail a sim h

/-- the description (real or simulated node) covers the contents below the path: every stored key
    starting with `p` is `p ++ suffix` with the described value, or runs through a listed sub-segment -/
theorem traverse_covers (t : Node) (hc : Canon t) (p : Path) (d : Ann)
    (hd : (traverseOut t p).desc = some d) (k : Path) (hpk : p <+: k) (hk : get t k ≠ []) :
    (k = p ++ d.suffix ∧ d.value = get t k) ∨ (∃ s ∈ d.subs, (p ++ s) <+: k) :=
  Hex.traverse_covers t hc p d hd k hpk hk

theorem traverse_value (t : Node) (hc : Canon t) (p : Path) (d : Ann)
    (hd : (traverseOut t p).desc = some d) (hv : d.value ≠ []) : get t (p ++ d.suffix) = d.value :=
  Hex.traverse_value t hc p d hd hv

/-- sub-segments are non-empty, each leads to a stored key, none is a prefix of another -/
theorem traverse_subs (t : Node) (hc : Canon t) (p : Path) (d : Ann)
    (hd : (traverseOut t p).desc = some d) :
    (∀ s ∈ d.subs, s ≠ [] ∧ ∃ k, (p ++ s) <+: k ∧ get t k ≠ []) ∧
    (∀ s₁ ∈ d.subs, ∀ s₂ ∈ d.subs, s₁ <+: s₂ → s₁ = s₂) := Hex.traverse_subs t hc p d hd

/-- `traverse_from(node at prefix, segment)` = `traverse(prefix ++ segment)` -/
theorem traverse_from_eq (t : Node) (p : Path) (n : Node) (hn : nodeAt t p = some n) (s : Path) :
    traverseT n s = traverseT t (p ++ s) := Hex.traverse_from_eq t p n hn s

/-- … also from the simulated node of a position inside a leaf or extension -/
theorem traverse_from_sim (t : Node) (hc : Canon t) (p tr tail : Path) (a sim : Ann)
    (h : traverseOut t p = .partialPath tr a tail (some sim)) (s : Path) :
    (traverseOut sim.raw s).desc = (traverseOut t (p ++ s)).desc :=
  Hex.traverse_from_sim t hc p tr tail a sim h s

/-- `traverse_from` fetches at most one database entry per child hop: the hashed nodes read while
    following `k` through a canonical tree are at most as many as the nibbles consumed -/
theorem traverse_reads_le (Hs : Hashing) (t : Node) (hc : Canon t) (k pre : Path) :
    (traverseReads Hs t k pre).length ≤ k.length := by
  fun_induction traverseReads Hs t k pre with
  | case1 | case2 | case3 | case5 => simp
  | case4 p c a k pre n h ih =>
    -- a non-empty extension path is consumed for one read
    have hn : n = p.length := by
      obtain ⟨r, hr⟩ := (cpl_drop_left_nil_iff p (a :: k)).1 h
      simp only [n, ← hr, cpl_append_left]
    have hp : 0 < p.length := List.length_pos_iff.2 hc.1
    have hle : n ≤ (a :: k).length := cpl_le_right p (a :: k)
    have := ih hc.2.2
    simp only [List.length_append, List.length_drop, List.length_cons] at this hle ⊢
    split <;> simp <;> omega
  | case6 ch v a k pre ih =>
    have := ih (hc.1 a)
    simp only [List.length_append, List.length_cons]
    split <;> simp <;> omega
end PyTrie.Props.C08
