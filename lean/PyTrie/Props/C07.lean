import PyTrie.Lemmas.MissingPath
import PyTrie.Lemmas.RawPartial
import PyTrie.Lemmas.ReadPartial
import PyTrie.Lemmas.RawAtomic
/-! # C07 — missing nodes: operations fail atomically and report the truth

`opGet`, `opTraverse`, `opSetDel` are `get`, `traverse`/`traverse_from`, `set`/`delete` over a store
from which any subset of node bodies may be absent (`Store.contains`). All statements hold for every
store, i.e. for every subset of missing nodes, plain or behind a ScratchDB cache (inside
`squash_changes`), pruning or not. -/
namespace PyTrie.Props.C07
open PyTrie PyTrie.Hex PyTrie.HexW

/-- every node a traversal fetches is a hashed subtree sitting at the reported nibble prefix, a prefix
    of the requested path -/
theorem fetches_on_path (Hs : Hashing) (t : Node) (hc : Canon t) (k pre : Path) (h : Hash) (used : Path)
    (hm : (h, used) ∈ traverseReads Hs t k pre) :
    ∃ q n, used = pre ++ q ∧ q <+: k ∧ q ≠ [] ∧ nodeAt t q = some n ∧ Hs.hashed n = true ∧ Hs.hashOf n = h :=
  traverseReads_on_path Hs t hc k pre h used hm

/-- `get` reports the truth: the hash is absent, the root and key fields are the request's, and the
    hash is the root's or that of the hashed subtree at the reported prefix of the key -/
theorem get_missing_truthful (Hs : Hashing) (blankRootHash : Hash) (T : TrieSt) (hc : Canon T.tree) (key : Bytes)
    (s : OpSt) (h root rk : Bytes) (pre : Option Path)
    (he : opGet Hs blankRootHash T key s = .error (.missingTrieNode h root rk pre)) :
    s.store.contains h = false ∧ root = T.root ∧ rk = key ∧
    ((h = T.root ∧ pre = some []) ∨
     ∃ q n, pre = some q ∧ q <+: nibs key ∧ nodeAt T.tree q = some n ∧ Hs.hashed n = true ∧ Hs.hashOf n = h) := by
  rcases opGet_error Hs blankRootHash T key s _ he with ⟨_, habs, e⟩ | ⟨_, _, hm, habs, e⟩ <;> cases e
  · exact ⟨habs, rfl, rfl, .inl ⟨rfl, rfl⟩⟩
  · obtain ⟨q, n, hu, hq, _, hn, hh⟩ := traverseReads_on_path Hs _ hc _ _ _ _ hm
    rw [List.nil_append] at hu
    subst hu
    exact ⟨habs, rfl, rfl, .inr ⟨_, n, rfl, hq, hn, hh⟩⟩

/-- a lookup raises nothing but `MissingTrieNode` … -/
theorem get_error_kind (Hs : Hashing) (blankRootHash : Hash) (T : TrieSt) (hc : Canon T.tree) (key : Bytes)
    (s : OpSt) (e : Exn) (he : opGet Hs blankRootHash T key s = .error e) :
    ∃ h root rk pre, e = .missingTrieNode h root rk pre := by
  have _ := hc
  rcases opGet_error Hs blankRootHash T key s e he with ⟨_, _, e⟩ | ⟨_, _, _, _, e⟩ <;> exact ⟨_, _, _, _, e⟩

/-- … and when it does not raise it returns the same value as on the complete database -/
theorem get_same_or_missing (Hs : Hashing) (blankRootHash : Hash) (T : TrieSt) (hc : Canon T.tree) (key : Bytes)
    (s : OpSt) (v : Bytes) (he : opGet Hs blankRootHash T key s = .ok v) : v = Hex.get T.tree (nibs key) := by
  unfold opGet at he
  split at he
  · cases he
  · split at he
    · cases he
    · rw [getT_eq_get T.tree hc (nibs key)] at he
      exact (Except.ok.inj he).symm

/-- `traverse_from(node, path)`: the complete-database result, or the first absent hashed node on the path with
    the nibbles consumed to reach it -/
theorem traverse_from_truthful (Hs : Hashing) (blankRootHash : Hash) (t : Node) (hc : Canon t) (p : Path) (s : Store) :
    (∀ out, opTraverse Hs blankRootHash none t p s = .ok out → out = traverseOut t p) ∧
    (∀ e, opTraverse Hs blankRootHash none t p s = .error e →
      ∃ h used, e = .missingTraversalNode h used ∧ s.contains h = false ∧
        ∃ n, used <+: p ∧ nodeAt t used = some n ∧ Hs.hashed n = true ∧ Hs.hashOf n = h) := by
  simp only [opTraverse, Bool.false_eq_true, ↓reduceIte]
  refine ⟨fun out ho => ?_, fun e he => ?_⟩
  · split at ho
    · cases ho
    · exact (Except.ok.inj ho).symm
  · split at he
    · next h pre hf =>
      obtain ⟨q, n, hu, hq, _, hn, hh⟩ := traverseReads_on_path Hs t hc p [] h pre (find?_absent hf).1
      rw [List.nil_append] at hu
      subst hu
      exact ⟨h, _, (Except.error.inj he).symm, (find?_absent hf).2, n, hq, hn, hh⟩
    · cases he

/-- `traverse` / `traverse_from`: the complete-database result, or a truthful `MissingTraversalNode`
    (prefix relative to the start node) -/
theorem traverse_truthful (Hs : Hashing) (blankRootHash : Hash) (root? : Option Hash) (t : Node) (hc : Canon t)
    (p : Path) (s : Store) :
    (∀ out, opTraverse Hs blankRootHash root? t p s = .ok out → out = traverseOut t p) ∧
    (∀ e, opTraverse Hs blankRootHash root? t p s = .error e →
      ∃ h used, e = .missingTraversalNode h used ∧ s.contains h = false ∧
        ((root? = some h ∧ used = []) ∨
         ∃ n, used <+: p ∧ nodeAt t used = some n ∧ Hs.hashed n = true ∧ Hs.hashOf n = h)) := by
  have hfrom := traverse_from_truthful Hs blankRootHash t hc p s
  cases root? with
  | none => exact ⟨hfrom.1, fun e he => let ⟨h, used, a, b, c⟩ := hfrom.2 e he; ⟨h, used, a, b, .inr c⟩⟩
  | some r =>
    by_cases hr : (r != blankRootHash && !(s.contains r)) = true
    · simp only [opTraverse, hr, ↓reduceIte]
      simp only [Bool.and_eq_true, Bool.not_eq_true'] at hr
      exact ⟨nofun, fun e he => ⟨r, [], (Except.error.inj he).symm, hr.2, .inl ⟨rfl, rfl⟩⟩⟩
    · rw [show opTraverse Hs blankRootHash (some r) t p s = opTraverse Hs blankRootHash none t p s by
        simp only [opTraverse, hr]; rfl]
      exact ⟨hfrom.1, fun e he => let ⟨h, used, a, b, c⟩ := hfrom.2 e he; ⟨h, used, a, b, .inr c⟩⟩

/-- **retry converges**: after supplying the reported node the same lookup never names that hash
    again, strictly fewer path fetches are outstanding, and nothing that was present disappears — so
    each hash is asked for at most once and at most `1 + #path nodes` attempts are needed -/
theorem get_retry_progress (Hs : Hashing) (blankRootHash : Hash) (T : TrieSt) (key : Bytes) (s : OpSt)
    (h root rk : Bytes) (pre : Option Path) (body : Bytes)
    (he : opGet Hs blankRootHash T key s = .error (.missingTrieNode h root rk pre)) :
    let s' : OpSt := { s with store := { s.store with base := Dict.insert s.store.base h body } }
    (∀ root' rk' pre', opGet Hs blankRootHash T key s' ≠ .error (.missingTrieNode h root' rk' pre')) ∧
    (h = T.root ∨ (outstanding Hs T key s'.store).length < (outstanding Hs T key s.store).length) ∧
    (∀ x, s.store.contains x = true → s'.store.contains x = true) :=
  opGet_retry_progress_gen Hs blankRootHash T key s h root rk pre body he

/-- in the database traffic of `_set` and `_delete` no fetch follows a write -/
theorem set_reads_before_writes (Hs : Hashing) (t : Node) (k : Path) (v : Bytes) : ReadsFirst (setE Hs t k v).2 :=
  setE_readsFirst Hs t k v

theorem delete_reads_before_writes (Hs : Hashing) (t : Node) (k : Path) : ReadsFirst (deleteE Hs t k).2 :=
  deleteE_readsFirst_gen Hs t k

/-- **failure is atomic**: when `set`/`delete` raises `MissingTrieNode` the database, the scratch cache,
    the reference counts and the pending prunes are as before the call; the report names an absent
    hash, the trie's root and the requested key -/
theorem set_delete_missing_atomic (Hs : Hashing) (blankRootHash : Hash) (T : TrieSt) (hc : Canon T.tree)
    (key : Bytes) (val : Option Bytes) (s : OpSt) (hrs : RefSound Hs T.tree (nibs key))
    (h root rk : Bytes) (pre : Option Path)
    (he : (opSetDel Hs blankRootHash T key val s).2 = .error (.missingTrieNode h root rk pre)) :
    (opSetDel Hs blankRootHash T key val s).1.store.base = s.store.base ∧
    (opSetDel Hs blankRootHash T key val s).1.store.cache = s.store.cache ∧
    (opSetDel Hs blankRootHash T key val s).1.counts = s.counts ∧
    (opSetDel Hs blankRootHash T key val s).1.pending = [] ∧
    s.store.contains h = false ∧ root = T.root ∧ rk = key := by
  have _ := hc
  have _ := hrs
  unfold opSetDel at he ⊢
  obtain ⟨h1, h2, h3, h4, h5, _⟩ :=
    opCore_missing Hs blankRootHash T key val { s with pending := [] } h root rk pre _ rfl he
  exact ⟨by rw [h1], by rw [h1], h2, rfl, h3, h4, h5⟩

/-- every fetch of `_set` is a hashed subtree at a prefix of the key; every fetch of `_delete` is that or
    the sibling `_normalize_branch_node` must read to collapse a branch on the key's path -/
theorem set_reads_on_path (Hs : Hashing) (t : Node) (hc : Canon t) (k : Path) (v : Bytes) (h : Hash)
    (hm : Ev.read h ∈ (setE Hs t k v).2) : OnPath Hs t k h := setE_reads_on_path Hs t hc k v h hm

theorem delete_reads_on_path (Hs : Hashing) (t : Node) (hc : Canon t) (k : Path) (h : Hash)
    (hm : Ev.read h ∈ (deleteE Hs t k).2) : OnPath Hs t k h ∨ SiblingOnPath Hs t k h :=
  deleteE_reads_on_path Hs t hc k h hm

/-- **the node reported by a failing `set` / `delete` lies on the requested path** (root, a hashed subtree
    at a prefix of the key, or — delete — the sibling needed to collapse a branch on that path) -/
theorem set_delete_missing_on_path (Hs : Hashing) (blankRootHash : Hash) (T : TrieSt) (hc : Canon T.tree) (key : Bytes)
    (val : Option Bytes) (s : OpSt) (h root rk : Bytes) (pre : Option Path)
    (he : (opSetDel Hs blankRootHash T key val s).2 = .error (.missingTrieNode h root rk pre)) :
    h = T.root ∨ OnPath Hs T.tree (nibs key) h ∨ SiblingOnPath Hs T.tree (nibs key) h :=
  opSetDel_missing_on_path Hs blankRootHash T hc key val s h root rk pre he

/-- **retry converges for `set` / `delete` too**: after supplying the reported node the same call never
    names that hash again and strictly fewer of its fetches are outstanding -/
theorem set_delete_retry_progress (Hs : Hashing) (blankRootHash : Hash) (T : TrieSt) (key : Bytes) (val : Option Bytes)
    (s : OpSt) (h root rk : Bytes) (pre : Option Path) (body : Bytes)
    (he : (opSetDel Hs blankRootHash T key val s).2 = .error (.missingTrieNode h root rk pre)) :
    let s' : OpSt := { s with store := { s.store with base := Dict.insert s.store.base h body } }
    (∀ root' rk' pre', (opSetDel Hs blankRootHash T key val s').2 ≠ .error (.missingTrieNode h root' rk' pre')) ∧
    (h = T.root ∨ (outstandingOp Hs T key val s'.store).length < (outstandingOp Hs T key val s.store).length) := by
  intro s'
  have hself : s'.store.contains h = true := Store.contains_insert_self s.store h body
  have hmono : ∀ x, s.store.contains x = true → s'.store.contains x = true :=
    fun x hx => Store.contains_insert_mono s.store h x body hx
  unfold opSetDel at he
  obtain ⟨_, _, habs, _, _, hw⟩ :=
    opCore_missing Hs blankRootHash T key val { s with pending := [] } h root rk pre _ rfl he
  refine ⟨fun root' rk' pre' he' => ?_,
    hw.imp (·.2) fun hm => absent_filter_lt _ _ _ hmono h (List.mem_filterMap.2 ⟨_, hm, rfl⟩) habs hself⟩
  unfold opSetDel at he'
  have habs' : s'.store.contains h = false :=
    (opCore_missing Hs blankRootHash T key val { s' with pending := [] } h root' rk' pre' _ rfl he').2.2.1
  rw [hself] at habs'
  cases habs'

end PyTrie.Props.C07

/-! ## Raw level: `_set` / `_delete` as written, on incomplete databases

`Model/HexRaw.lean` is the statement-by-statement transcription of the write path over raw nodes and a database of rlp
bytes (run against the code, also with node bodies removed). `PartialD H db t`: whatever the database holds under the hash
of a hashed subtree of `t` is its encoding. The theorems: the raw-level functions find every node they fetch and then
return exactly what they return on the complete database, or stop at the **first** fetch the database cannot answer; a
reported hash is absent and lies on the requested path (for delete: or is the sibling a normalisation reads). -/
namespace PyTrie.Props.C07
open PyTrie PyTrie.Hex PyTrie.HexD PyTrie.HexRaw PyTrie.HexRawT
open PyTrie.HexW (OnPath SiblingOnPath)

theorem raw_set_partial (H : Bytes → Bytes) (hlen : ∀ b, (H b).length = 32) (t : Node) (hc : Canon t) (k : Path) (v : Bytes)
    (st : HexRaw.St) (hst : PartialD H st.db t) (fuel : Nat) (hf : 2 * k.length + 2 ≤ fuel) :
    rawSet H fuel st (toItem H t) k v =
      match firstMissing st.db (setE (stdHashing H) t k v).2 with
      | some h => .error (.missing h)
      | none => .ok (toItem H (setE (stdHashing H) t k v).1,
          { db := applyPersists st.db (setE (stdHashing H) t k v).2, evs := st.evs ++ (setE (stdHashing H) t k v).2 }) :=
  rawSet_partial H hlen t hc k v st hst fuel hf

theorem raw_delete_partial (H : Bytes → Bytes) (hlen : ∀ b, (H b).length = 32) (t : Node) (hc : Canon t) (k : Path)
    (st : HexRaw.St) (hst : PartialD H st.db t) (fuel : Nat) (hf : 2 * k.length + 2 ≤ fuel) :
    rawDelete H fuel st (toItem H t) k =
      match firstMissing st.db (deleteE (stdHashing H) t k).2 with
      | some h => .error (.missing h)
      | none => .ok (toItem H (deleteE (stdHashing H) t k).1,
          { db := applyPersists st.db (deleteE (stdHashing H) t k).2, evs := st.evs ++ (deleteE (stdHashing H) t k).2 }) :=
  rawDelete_partial H hlen t hc k st hst fuel hf

theorem raw_set_missing_on_path (H : Bytes → Bytes) (hlen : ∀ b, (H b).length = 32) (t : Node) (hc : Canon t) (k : Path) (v : Bytes)
    (st : HexRaw.St) (hst : PartialD H st.db t) (fuel : Nat) (hf : 2 * k.length + 2 ≤ fuel) (h : Hash)
    (he : rawSet H fuel st (toItem H t) k v = .error (.missing h)) :
    lookup st.db h = none ∧ OnPath (stdHashing H) t k h :=
  rawSet_missing_on_path H hlen t hc k v st hst fuel hf h he

theorem raw_delete_missing_on_path (H : Bytes → Bytes) (hlen : ∀ b, (H b).length = 32) (t : Node) (hc : Canon t) (k : Path)
    (st : HexRaw.St) (hst : PartialD H st.db t) (fuel : Nat) (hf : 2 * k.length + 2 ≤ fuel) (h : Hash)
    (he : rawDelete H fuel st (toItem H t) k = .error (.missing h)) :
    lookup st.db h = none ∧ (OnPath (stdHashing H) t k h ∨ SiblingOnPath (stdHashing H) t k h) :=
  rawDelete_missing_on_path H hlen t hc k st hst fuel hf h he

/-! ## Raw level: lookups and traversals on incomplete databases

`traverseD` / `traverseOutD` / `getD` are `_traverse_from`, `traverse`/`traverse_from` and `get` over rlp-decoded nodes
fetched from the database (run against the code on the damaged databases of this check). `firstMissingRead` is the
first hashed node on the requested path — with the nibbles consumed to reach it — that the database cannot answer.
The raw-level readers return the tree-level result, or name that first entry of `traverseReads`. -/

theorem raw_traverse_partial (H : Bytes → Bytes) (hlen : ∀ b, (H b).length = 32) (db : Db) (t : Node) (hc : Canon t)
    (hst : PartialD H db t) (p : Path) (fuel : Nat) (hf : p.length < fuel) :
    traverseOutD H db fuel (toItem H t) p =
      match firstMissingRead H db t p [] with
      | some (h, pre) => .error (.missing h pre)
      | none => .ok (TravOut.toD H (traverseOut t p)) :=
  traverseOutD_partial H hlen db t hc hst p fuel hf

theorem raw_get_partial (H : Bytes → Bytes) (hlen : ∀ b, (H b).length = 32) (db : Db) (root : Hash) (t : Node) (hc : Canon t)
    (hroot : RootPartial H db root t) (hst : PartialD H db t) (k : Path) :
    getD H db root k =
      if isBlank t = false ∧ lookup db root = none then .error (.missing root [])
      else match firstMissingRead H db t k [] with
        | some (h, pre) => .error (.missing h pre)
        | none => .ok (Hex.get t k) :=
  getD_partial H hlen db root t hc hroot hst k

/-! ## Raw level: a failed call has written nothing

`Model/HexRawT.lean` is the raw-level write path returning the state also when an exception leaves it (the Python
mutates `self.db` in place; `Model/HexRaw.lean` drops the state on an exception). The two agree on every input, and
**for every input whatsoever** — any raw node, any database, any key — a `_set` / `_delete` / `set` / `delete` that
stops at a missing node leaves the database exactly as it was; only fetches and prune marks were recorded. -/

theorem rawT_set_agrees (H : Bytes → Bytes) (fuel : Nat) (st : HexRaw.St) (node : Item) (key : Path) (value : Bytes) :
    rawSet H fuel st node key value = forget (rawSetT H fuel st node key value) := rawSetT_agrees H fuel st node key value

theorem rawT_delete_agrees (H : Bytes → Bytes) (fuel : Nat) (st : HexRaw.St) (node : Item) (key : Path) :
    rawDelete H fuel st node key = forget (rawDeleteT H fuel st node key) := rawDeleteT_agrees H fuel st node key

theorem rawT_op_agrees (H : Bytes → Bytes) (db : Db) (root : Hash) (key : Bytes) (value : Option Bytes) :
    rawOp H db root key value =
      (match rawOpT H db root key value with
       | (st, .ok h) => .ok (h, st)
       | (_, .error e) => .error e) := rawOpT_agrees H db root key value

theorem raw_failed_set_writes_nothing (H : Bytes → Bytes) (h : Hash) (fuel : Nat) (st : HexRaw.St) (node : Item) (key : Path)
    (value : Bytes) (he : (rawSetT H fuel st node key value).2 = .error (.missing h)) :
    Quiet st (rawSetT H fuel st node key value).1 := (set_atomic_both H h fuel).1 st node key value he

theorem raw_failed_delete_writes_nothing (H : Bytes → Bytes) (hlen : ∀ b, (H b).length = 32) (h : Hash) (fuel : Nat)
    (st : HexRaw.St) (node : Item) (key : Path) (he : (rawDeleteT H fuel st node key).2 = .error (.missing h)) :
    Quiet st (rawDeleteT H fuel st node key).1 := delete_atomic_gen H hlen h fuel st node key (Or.inl he)

theorem raw_failed_op_leaves_db (H : Bytes → Bytes) (hlen : ∀ b, (H b).length = 32) (db : Db) (root : Hash) (key : Bytes)
    (value : Option Bytes) (h : Hash) (he : (rawOpT H db root key value).2 = .error (.missing h)) :
    (rawOpT H db root key value).1.db = db := rawOpT_atomic_gen H hlen db root key value h he

end PyTrie.Props.C07
