import PyTrie.Props.C14
/-! # C15 — SparseMerkleProof stays in sync from streamed updates alone

A `Proof` tracks (key, value, branch). The tree's leaf function evolves by `upd`; after each tree write
`set(key, value)` returns `pathHashes` of the new tree along `key` (C14 `set_returns_path`), and the proof
is fed `(key, value, first n of those hashes)`. The proof never looks at the tree. -/
namespace PyTrie.Props.C15
open PyTrie PyTrie.Smt
open PyTrie.Bin (Bits)

variable (H : Bytes → Bytes)

/-- the proof holds the tree's current value and branch for its key -/
def InSync (d : Nat) (f : Bits → Bytes) (p : Proof) : Prop :=
  p.key.length = d ∧ p.value = f p.key ∧ p.branch = siblings H d f p.key

/-- one streamed update: the written key and value, and how many of the returned hashes are passed on -/
structure Update where
  key : Bits
  value : Bytes
  n : Nat

/-- the hashes reach the first bit where the updated key differs from the tracked key -/
def Sufficient (tracked : Bits) (u : Update) : Prop :=
  u.key = tracked ∨ ∃ i, firstDiff tracked u.key = some i ∧ i < u.n

/-- what the proof is handed for update `u` when the tree's leaf function is `f` -/
def offered (d : Nat) (f : Bits → Bytes) (u : Update) : List Hash :=
  (pathHashes H d (upd f u.key u.value) u.key).take u.n

/-- feed a stream; `none` as soon as an update is rejected -/
def feed (d : Nat) : (Bits → Bytes) → Proof → List Update → Option (Proof × (Bits → Bytes))
  | f, p, [] => some (p, f)
  | f, p, u :: us =>
    match p.update u.key u.value (offered H d f u) with
    | .ok p' => feed d (upd f u.key u.value) p' us
    | .error _ => none

/-- a synchronized proof has the tree's root hash -/
theorem in_sync_root (d : Nat) (f : Bits → Bytes) (p : Proof) (h : InSync H d f p) :
    p.rootHash H = merkleRoot H d f := by
  rw [Proof.rootHash, h.2.1, h.2.2]
  exact calcRoot_siblings H d f p.key h.1

/-- **one update** keeps a synchronized proof synchronized when the hashes are sufficient … -/
theorem update_keeps_sync (d : Nat) (f : Bits → Bytes) (p : Proof) (hs : InSync H d f p) (u : Update)
    (hk : u.key.length = d) (hsuf : Sufficient p.key u) :
    ∃ p', p.update u.key u.value (offered H d f u) = .ok p' ∧ p'.key = p.key ∧
      InSync H d (upd f u.key u.value) p' := by
  have ht := proof_update_tracks H d f p hs.1 hs.2.1 hs.2.2 u.key hk u.value u.n
  rcases hsuf with heq | ⟨i, hi, hlt⟩
  · obtain ⟨p', h1, h2, h3, h4⟩ := ht.1 heq
    exact ⟨p', h1, h2, by rw [InSync, h2]; exact ⟨hs.1, h3, h4⟩⟩
  · obtain ⟨p', h1, h2, h3, h4⟩ := ht.2.1 i hi hlt
    exact ⟨p', h1, h2, by rw [InSync, h2]; exact ⟨hs.1, h3, h4⟩⟩

/-- … and a list that stops short of the first differing bit is rejected with `ValidationError`
    (the proof, being a value, is unchanged) -/
theorem short_update_rejected (d : Nat) (f : Bits → Bytes) (p : Proof) (hs : InSync H d f p) (u : Update)
    (hk : u.key.length = d) (i : Nat) (hi : firstDiff p.key u.key = some i) (hn : u.n ≤ i) :
    p.update u.key u.value (offered H d f u) = .error .validation :=
  (proof_update_tracks H d f p hs.1 hs.2.1 hs.2.2 u.key hk u.value u.n).2.2 i hi hn

/-- **the whole stream**: fed every subsequent update of the tree in order — other keys at any
    divergence depth, its own key, repeated writes, deletions (= writes of the default) — with
    sufficient hash lists, the proof is accepted throughout and ends with the value, branch and root
    hash of the final tree -/
theorem stream_tracks (d : Nat) (f : Bits → Bytes) (p : Proof) (hs : InSync H d f p) (us : List Update)
    (hk : ∀ u ∈ us, u.key.length = d) (hsuf : ∀ u ∈ us, Sufficient p.key u) :
    ∃ p', feed H d f p us = some (p', us.foldl (fun g u => upd g u.key u.value) f) ∧ p'.key = p.key ∧
      InSync H d (us.foldl (fun g u => upd g u.key u.value) f) p' ∧
      p'.rootHash H = merkleRoot H d (us.foldl (fun g u => upd g u.key u.value) f) := by
  induction us generalizing f p with
  | nil => exact ⟨p, rfl, rfl, hs, in_sync_root H d f p hs⟩
  | cons u us ih =>
    obtain ⟨p1, h1, h2, h3⟩ := update_keeps_sync H d f p hs u (hk u (by simp)) (hsuf u (by simp))
    obtain ⟨p', h4, h5, h6, h7⟩ := ih (upd f u.key u.value) p1 h3 (fun x hx => hk x (by simp [hx]))
      (fun x hx => by rw [h2]; exact hsuf x (by simp [hx]))
    refine ⟨p', ?_, h5.trans h2, h6, h7⟩
    simp only [feed, h1, List.foldl_cons]
    exact h4

end PyTrie.Props.C15
