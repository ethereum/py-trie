import PyTrie.Props.C17
/-! # C17, continued: `copy()` as it behaves, and a ScratchDB used for several blocks in a row

`copy()` is listed among C17's observables. What the code computes (`merge(wrapped, cache)` with the `DELETED` entries
filtered out) is: buffered writes win, a key whose latest buffered action is a delete is ABSENT from the copy (it does not
read through, unlike `__getitem__` / `__contains__`), untouched keys keep the wrapped value — i.e. the copy is what a commit
with `do_deletes=True` would leave. Stated here as a theorem about the model that is run against the code.

Blocks in a row on one object: after each block the buffer is empty (both exits), so the next block starts from the wrapped
database the previous one left; `runBlocks` folds blocks over a ScratchDB, and the wrapped database at the end answers every
key by the last COMMITTED action on it (aborted blocks contribute nothing). -/
namespace PyTrie.Props.C17
open PyTrie PyTrie.Sdb
open PyTrie.HexW hiding NoDupKeys

/-- **`copy()`**: latest buffered write, absent after a buffered delete, the wrapped value otherwise -/
theorem copy_spec (w : Dict Bytes) (hw : NoDupKeys w) (acts : List Act) (k : Bytes) :
    Dict.get? (copy (runActs { wrapped := w, cache := [] } acts)) k =
      match lastAct acts k with
      | some (some v) => some v
      | some none => none
      | none => Dict.get? w k := by
  rw [copy_get? _ (by rw [Sdb.wrapped_untouched]; exact hw) (cache_lastAct w acts k).2 k,
    (cache_lastAct w acts k).1, Sdb.wrapped_untouched]
  cases lastAct acts k with
  | none => rfl
  | some o => cases o <;> rfl

/-- `copy()` is what a commit with `do_deletes=True` would leave (as a mapping) -/
theorem copy_eq_commit_with_deletes (w : Dict Bytes) (hw : NoDupKeys w) (acts : List Act) (k : Bytes) :
    Dict.get? (copy (runActs { wrapped := w, cache := [] } acts)) k =
      Dict.get? (commit (runActs { wrapped := w, cache := [] } acts) true none).2.1.wrapped k := by
  rw [copy_spec w hw acts k, (Sdb.commit_spec w hw acts true k).2.2]
  cases lastAct acts k with
  | none => rfl
  | some o => cases o <;> rfl

/-- one block on a ScratchDB: its buffered actions, how it is left (`committed = false`: by an exception), the flag -/
structure Block where
  acts : List Act
  committed : Bool
  doDeletes : Bool

def runBlock (s : Sdb) (b : Block) : Sdb :=
  let s' := runActs s b.acts
  if b.committed then (commit s' b.doDeletes none).2.1 else abort s'

def runBlocks (s : Sdb) (bs : List Block) : Sdb := bs.foldl runBlock s

/-- what the blocks leave under key `k`, block by block: a committed block's latest action on `k` decides (a delete only
    when deletes were requested), anything else leaves the previous answer -/
def blocksSpec (start : Option Bytes) (k : Bytes) : List Block → Option Bytes
  | [] => start
  | b :: rest =>
    blocksSpec (if b.committed then
        (match lastAct b.acts k with
         | some (some v) => some v
         | some none => if b.doDeletes then none else start
         | none => start)
      else start) k rest

/-- the buffer is empty after every block, and the wrapped database keeps having unique keys -/
theorem runBlock_clean (s : Sdb) (hc : s.cache = []) (hw : NoDupKeys s.wrapped) (b : Block) :
    (runBlock s b).cache = [] ∧ NoDupKeys (runBlock s b).wrapped := by
  have _ := hc
  have hw' : NoDupKeys (runActs s b.acts).wrapped := by rw [runActs_wrapped]; exact hw
  unfold runBlock
  split
  · exact ⟨rfl, commitLoop_nodup _ _ _ _ hw'⟩
  · exact ⟨rfl, hw'⟩

private theorem runBlock_get? (w : Dict Bytes) (hw : NoDupKeys w) (b : Block) (k : Bytes) :
    Dict.get? (runBlock { wrapped := w, cache := [] } b).wrapped k =
      blocksSpec (Dict.get? w k) k [b] := by
  unfold runBlock blocksSpec
  split
  · exact (Sdb.commit_spec w hw b.acts b.doDeletes k).2.2
  · rw [Sdb.abort_spec]; rfl

private theorem runBlocks_spec_aux (s : Sdb) (hc : s.cache = []) (hw : NoDupKeys s.wrapped) (bs : List Block)
    (k : Bytes) :
    (runBlocks s bs).cache = [] ∧
    Dict.get? (runBlocks s bs).wrapped k = blocksSpec (Dict.get? s.wrapped k) k bs := by
  induction bs generalizing s with
  | nil => exact ⟨hc, rfl⟩
  | cons b rest ih =>
    obtain ⟨hc', hw'⟩ := runBlock_clean s hc hw b
    obtain ⟨w, c⟩ := s
    subst hc
    rw [show runBlocks _ (b :: rest) = runBlocks (runBlock { wrapped := w, cache := [] } b) rest from rfl,
      (ih _ hc' hw').2, runBlock_get? w hw b k]
    exact ⟨(ih _ hc' hw').1, rfl⟩

/-- **several blocks in a row on one ScratchDB**: the buffer is empty at the end and every key reads the last committed action -/
theorem runBlocks_spec (w : Dict Bytes) (hw : NoDupKeys w) (bs : List Block) (k : Bytes) :
    (runBlocks { wrapped := w, cache := [] } bs).cache = [] ∧
    Dict.get? (runBlocks { wrapped := w, cache := [] } bs).wrapped k = blocksSpec (Dict.get? w k) k bs :=
  runBlocks_spec_aux { wrapped := w, cache := [] } rfl hw bs k

/-! non-vacuity: three blocks on one object — a committed one without deletes (its delete of key 2 is ignored), an aborted
    one, a committed one with deletes — evaluated, and `copy()` in the middle of an open block -/

example : (runBlocks { wrapped := [([1], [9]), ([2], [8])], cache := [] }
    [⟨[.write [1] [7], .delete [2]], true, false⟩, ⟨[.write [3] [5], .delete [1]], false, true⟩,
     ⟨[.delete [1], .write [4] [4]], true, true⟩]).wrapped = [([2], [8]), ([4], [4])] := by decide

example : copy (runActs { wrapped := [([1], [9]), ([2], [8])], cache := [] } [.write [1] [7], .delete [2], .write [3] [5]])
    = [([1], [7]), ([3], [5])] := by decide

end PyTrie.Props.C17
