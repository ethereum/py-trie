import PyTrie.Props.HistoryFailCommit
import PyTrie.Lemmas.FailOpAux
/-! # C04 / C05 — histories in which a DIRECT `set` / `delete` is cut short by a failing database write (non-pruning trie)

C04: "… and this still holds when the operation in progress is aborted by a failing database write". `C04.failed_op_keeps_roots`
and `set_delete_append_only` are the per-operation statements. Here a fourth kind of step joins the histories of
`Props/HistoryFailCommit.lean`: a direct call whose `(n+1)`-th database write is refused (`failOp k v n`; the harness does this
with a dict that raises — op kind `fset` of the C04 check). `GoodG` adds, for such a step, the no-collision premises of the
call, the two physical side conditions on the database it reads (the tree-free reader needs them to follow the refused call:
an earlier call may have stored a 2^64-byte body) and that it really is cut short (`.error .writeFailed`; otherwise it is an
ordinary call).

Theorems: such a step leaves tries and counts exactly as before and loses no database binding — what it wrote before the
refusal stays, as unreachable entries; the between-steps invariant holds again; along whole histories the tree-free and the
tree-carrying world agree call by call, the trie holds the tree of the calls that count, and `get` returns the map model. -/
namespace PyTrie.Props.Free
open PyTrie PyTrie.Hex PyTrie.HexD PyTrie.HexW PyTrie.HexRaw PyTrie.HexFree
open PyTrie.Props.C01 (Op run spec)

inductive HStepG where
  | step (s : HStepF)
  | failOp (k : Bytes) (v : Option Bytes) (n : Nat)

section
variable (H : Bytes → Bytes)

/-- a direct call with the `(n+1)`-th database write refused; the fault is cleared afterwards -/
def stepWG (w : World) : HStepG → List (Except Exn Unit) × World
  | .step s => stepWF H w s
  | .failOp k v n =>
    let (r, w') := ({ w with failAfter := some n } : World).setDel (stdHashing H) (blankRoot H) (.trie 0) k v
    ([r], { w' with failAfter := none })

def stepFG (fw : FWorld) : HStepG → List (Except Exn Unit) × FWorld
  | .step s => stepFF H fw s
  | .failOp k v n =>
    let (r, f') := ({ fw with failAfter := some n } : FWorld).setDel H false k v
    ([r], { f' with failAfter := none })

def runWG (w : World) : List HStepG → List (Except Exn Unit) × World
  | [] => ([], w)
  | s :: rest => let (a, w') := stepWG H w s; let (b, w'') := runWG w' rest; (a ++ b, w'')

def runFG (fw : FWorld) : List HStepG → List (Except Exn Unit) × FWorld
  | [] => ([], fw)
  | s :: rest => let (a, f') := stepFG H fw s; let (b, f'') := runFG f' rest; (a ++ b, f'')

def GoodG : World → List HStepG → Prop
  | _, [] => True
  | w, .step s :: rest => GoodF H w [s] ∧ GoodG (stepWG H w (.step s)).2 rest
  | w, .failOp k v n :: rest =>
    RefSound (stdHashing H) (w.tries[0]!).tree (nibs k) ∧
    NoClobber w.base (opWrites (stdHashing H) (w.tries[0]!) k v) ∧
    Dict.get? w.base (blankRoot H) = none ∧
    (∀ h b, Dict.get? w.base h = some b → b.length < 2 ^ 64) ∧
    (({ w with failAfter := some n } : World).setDel (stdHashing H) (blankRoot H) (.trie 0) k v).1 = .error .writeFailed ∧
    GoodG (stepWG H w (.failOp k v n)).2 rest

def flattenStepsG : List HStepG → List Op
  | [] => []
  | .step s :: r => flattenStepsF [s] ++ flattenStepsG r
  | .failOp _ _ _ :: r => flattenStepsG r

theorem stepWG_failOp (w : World) (k : Bytes) (v : Option Bytes) (n : Nat) :
    stepWG H w (.failOp k v n) =
      ([(({ w with failAfter := some n } : World).setDel (stdHashing H) (blankRoot H) (.trie 0) k v).1],
       { (({ w with failAfter := some n } : World).setDel (stdHashing H) (blankRoot H) (.trie 0) k v).2 with
         failAfter := none }) := by
  simp only [stepWG]

theorem stepFG_failOp (fw : FWorld) (k : Bytes) (v : Option Bytes) (n : Nat) :
    stepFG H fw (.failOp k v n) =
      ([(({ fw with failAfter := some n } : FWorld).setDel H false k v).1],
       { (({ fw with failAfter := some n } : FWorld).setDel H false k v).2 with failAfter := none }) := by
  simp only [stepFG]

theorem flattenStepsG_cons (s : HStepG) (rest : List HStepG) :
    flattenStepsG (s :: rest) = flattenStepsG [s] ++ flattenStepsG rest := by
  cases s <;> simp [flattenStepsG]

/-- **one direct call cut short by a refused write, non-pruning trie**: tries and counts exactly as before, no binding lost,
    the fault cleared, the between-steps invariant holds again -/
theorem fail_op_step (w : World) (hinv : WInv H false w) (k : Bytes) (v : Option Bytes) (n : Nat)
    (hrs : RefSound (stdHashing H) (w.tries[0]!).tree (nibs k))
    (hnc : NoClobber w.base (opWrites (stdHashing H) (w.tries[0]!) k v))
    (hfail : (({ w with failAfter := some n } : World).setDel (stdHashing H) (blankRoot H) (.trie 0) k v).1 = .error .writeFailed) :
    WInv H false (stepWG H w (.failOp k v n)).2 ∧
    (stepWG H w (.failOp k v n)).2.tries = w.tries ∧
    (stepWG H w (.failOp k v n)).2.counts = w.counts ∧
    Preserved w.base (stepWG H w (.failOp k v n)).2.base := by
  have hpr : (w.tries[0]!).prune = false := hinv.pr
  have heq := (World.setDel_trie_error_eq (stdHashing H) (blankRoot H) ({ w with failAfter := some n } : World) 0 k v _ hfail).2
  have hcnt := opSetDel_noprune_counts (stdHashing H) (blankRoot H) (w.tries[0]!) hpr k v
    (({ w with failAfter := some n } : World).opSt 0)
  have hpres : Preserved w.base _ := opSetDel_noprune_preserved (stdHashing H) (blankRoot H) (w.tries[0]!) hpr k v
    (({ w with failAfter := some n } : World).opSt 0) rfl hnc
  rw [stepWG_failOp, heq]
  generalize opSetDel (stdHashing H) (blankRoot H) (w.tries[0]!) k v (({ w with failAfter := some n } : World).opSt 0) = q
    at hcnt hpres
  have hcnt' : w.counts.set! 0 q.1.counts = w.counts := by
    rw [hcnt]; exact array_set!_getElem! w.counts 0
  exact ⟨winv_congr H false w _ hinv rfl hcnt' hinv.nb rfl hpres nofun, rfl, hcnt', hpres⟩

/-- **one step**: the rest of the run is still good; a step of `Props/HistoryFailCommit.lean` acts as there, a direct call
    cut short by a refused write as nothing at all — in both worlds -/
theorem stepWG_tracks (w : World) (hinv : WInv H false w) (s : HStepG) (rest : List HStepG)
    (hg : GoodG H w (s :: rest)) :
    GoodG H (stepWG H w s).2 rest ∧
    Tracks H false w (fun t => (flattenStepsG [s]).foldl C01.applyOp t) (stepWG H w s) (fun fw => stepFG H fw s) := by
  cases s with
  | step s =>
    obtain ⟨hg1, hg2⟩ := hg
    refine ⟨hg2, (stepWF_tracks H w hinv s [] hg1).2.congr fun t => ?_⟩
    rw [show flattenStepsG [.step s] = flattenStepsF [s] from List.append_nil _]
  | failOp k v n =>
    obtain ⟨hg1, hg2, hbk, hsm, hg3, hg4⟩ := hg
    obtain ⟨f1, f2, -, -⟩ := fail_op_step H w hinv k v n hg1 hg2 hg3
    simp only [stepWG_failOp, stepFG_failOp] at hg4 f1 f2 ⊢
    refine ⟨hg4, f1, by rw [f2]; rfl, fun hlen fw hs => ?_⟩
    -- the tree-free reader needs the two physical side conditions to follow the refused call
    obtain ⟨ho, hs'⟩ := sim_setDel_outer H hlen _ _ (sim_setFail fw w hs (some n)) k v hinv.canon hinv.comp hbk hsm
    exact ⟨congrArg (fun x => [x]) (outcome_eq _ _ ho), sim_setFail _ _ hs' none⟩

/-- **a whole history with failing direct writes and failing commits** acts as its flattened history, in both worlds -/
theorem runWG_tracks (steps : List HStepG) :
    ∀ w : World, WInv H false w → GoodG H w steps →
      Tracks H false w (fun t => (flattenStepsG steps).foldl C01.applyOp t) (runWG H w steps)
        (fun fw => runFG H fw steps) := by
  induction steps with
  | nil => exact fun w h _ => .refl h
  | cons s rest ih =>
    intro w hinv hg
    obtain ⟨hg', h1⟩ := stepWG_tracks H w hinv s rest hg
    refine (h1.comp (ih _ h1.inv hg')).congr fun t => ?_
    rw [flattenStepsG_cons s rest, List.foldl_append]

/-- **whole histories with failing direct writes and failing commits, tree-carrying world** -/
theorem history_fail_op_world (steps : List HStepG) (hgood : GoodG H (freshW H false) steps) :
    WInv H false (runWG H (freshW H false) steps).2 ∧
    ((runWG H (freshW H false) steps).2.tries[0]!).tree = run (flattenStepsG steps) ∧
    Complete (stdHashing H) (blankRoot H) (runWG H (freshW H false) steps).2.base ((runWG H (freshW H false) steps).2.tries[0]!) := by
  have h := runWG_tracks H steps _ (winv_fresh H false) hgood
  exact ⟨h.inv, h.tree, h.inv.comp⟩

/-- **the tree-free world agrees call by call and ends in the same state** -/
theorem history_fail_op_lockstep (hlen : ∀ b, (H b).length = 32) (steps : List HStepG)
    (hgood : GoodG H (freshW H false) steps) :
    (runFG H (FWorld.init H false) steps).1 = (runWG H (freshW H false) steps).1 ∧
    Sim (runFG H (FWorld.init H false) steps).2 (runWG H (freshW H false) steps).2 :=
  (runWG_tracks H steps _ (winv_fresh H false) hgood).sim hlen _ (sim_fresh H false)

/-- **still a correct map afterwards** -/
theorem history_fail_op_get (hlen : ∀ b, (H b).length = 32) (steps : List HStepG)
    (hgood : GoodG H (freshW H false) steps)
    (hbk : Dict.get? (runFG H (FWorld.init H false) steps).2.base (blankRoot H) = none)
    (hsm : ∀ h b, Dict.get? (runFG H (FWorld.init H false) steps).2.base h = some b → b.length < 2 ^ 64) (key : Bytes) :
    (runFG H (FWorld.init H false) steps).2.get H false key = .ok (spec (flattenStepsG steps) key) :=
  tracks_get H hlen (runWG_tracks H steps _ (winv_fresh H false) hgood) hbk hsm key

end
end PyTrie.Props.Free
