import PyTrie.Props.C10Raw
import PyTrie.Props.HistoryProgress
/-! # C10 over the database a history WITH `squash_changes` blocks leaves (tree-free world)

`C10.raw_nodes_is_preorder` / `raw_items_exact` speak about histories of direct calls. With `Free.history_blocks_world` (after any
history with blocks the database is complete for the tree of the flattened history) the same holds for the tree-free world
after any history of direct calls and committed / aborted blocks, pruning on or off: `nodes()` is the pre-order sequence of
the trie of the calls that count, `items()` yields exactly its stored pairs in key order. -/
namespace PyTrie.Props.C10
open PyTrie PyTrie.Hex PyTrie.Hex.Node PyTrie.HexD PyTrie.HexW PyTrie.HexRaw PyTrie.HexFree PyTrie.Fog
open PyTrie.Props.C01 (Op run spec)
open PyTrie.Props.Free (flattenSteps Good' good_of_good' history_blocks_world)

/-- **`nodes()` over the tree-free world's database after a history with blocks = the pre-order of the flattened history's trie** -/
theorem raw_nodes_is_preorder_blocks (H : Bytes → Bytes) (hlen : ∀ b, (H b).length = 32) (prune : Bool) (steps : List HStep)
    (hgood : Good' H (freshW H prune) steps)
    (hbk : Dict.get? (runF H (FWorld.init H prune) steps).2.base (blankRoot H) = none)
    (hsm : ∀ h b, Dict.get? (runF H (FWorld.init H prune) steps).2.base h = some b → b.length < 2 ^ 64)
    (fuel : Nat) (hf : (preorder (run (flattenSteps steps)) []).length < fuel) :
    nodesOfD H (runF H (FWorld.init H prune) steps).2.base (runF H (FWorld.init H prune) steps).2.outer.root fuel =
      .ok ((preorder (run (flattenSteps steps)) []).map (fun e => (e.1, Ann.toD H (annotate e.2)))) := by
  have hg := good_of_good' H prune steps hgood
  obtain ⟨_, _, htree, _, hcomp, _⟩ := history_blocks_world H hlen prune steps hg
  obtain ⟨_, hsim⟩ := Free.history_lockstep H hlen prune steps hg
  obtain ⟨hbase, _, _, _, hout, _, _⟩ := hsim
  rw [hbase] at hbk hsm ⊢
  rw [hout]
  generalize (runW H (freshW H prune) steps).2 = w at htree hcomp hbk hsm ⊢
  show nodesOfD H w.base (w.tries[0]!).root fuel = _
  rw [nodesOfD_complete H hlen (w.tries[0]!) (htree ▸ PyTrie.Props.C01.canon_run _) w.base hcomp hbk hsm fuel, htree,
    nodes_loop_is_preorder (flattenSteps steps) fuel hf]

/-- **`items()` over that database = exactly the stored pairs of the calls that count, each once, in key order** -/
theorem raw_items_exact_blocks (H : Bytes → Bytes) (hlen : ∀ b, (H b).length = 32) (prune : Bool) (steps : List HStep)
    (hgood : Good' H (freshW H prune) steps)
    (hbk : Dict.get? (runF H (FWorld.init H prune) steps).2.base (blankRoot H) = none)
    (hsm : ∀ h b, Dict.get? (runF H (FWorld.init H prune) steps).2.base h = some b → b.length < 2 ^ 64)
    (fuel : Nat) (hf : (preorder (run (flattenSteps steps)) []).length < fuel) :
    ∃ l, itemsOfD H (runF H (FWorld.init H prune) steps).2.base (runF H (FWorld.init H prune) steps).2.outer.root fuel = .ok l ∧
      (∀ k v, (nibs k, v) ∈ l ↔ v ≠ [] ∧ spec (flattenSteps steps) k = v) ∧
      (l.map (·.1)).Pairwise (fun a b => plt a b = true) := by
  refine ⟨itemsOf (run (flattenSteps steps)), ?_, fun k v => items_exact _ k v, items_sorted _⟩
  unfold itemsOfD
  rw [raw_nodes_is_preorder_blocks H hlen prune steps hgood hbk hsm fuel hf]
  simp only [itemsOf, List.filterMap_map]
  rfl

end PyTrie.Props.C10
