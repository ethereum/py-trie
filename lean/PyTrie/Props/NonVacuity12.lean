import PyTrie.Props.NonVacuity3
import PyTrie.Props.C07Retry
import PyTrie.Props.C06Refused
/-! # Non-vacuity, part 12: the retry loops of C07 on a concrete trie, the refused first write of C06

`t1` (a hashed extension over a hashed branch with a hashed leaf and an embedded one) with NONE of its bodies present: the lookup
retry loop asks for the root, the branch and the leaf — each once, in that order — and then returns the stored value; the
`set` retry loop ends with a trie. `C07.get_retry_loop_converges` / `op_retry_loop_converges` are applied (their premises are
checked), and the loops are also evaluated directly. -/
namespace PyTrie.Props.NonVacuity12
open PyTrie PyTrie.Hex PyTrie.Hex.Node PyTrie.HexD PyTrie.HexW
open PyTrie.Props.NonVacuity PyTrie.Props.NonVacuity3
open PyTrie.Props.C07 (retryGet retryOp supply)

def T1 : TrieSt := { tree := t1, root := hRoot, prune := false }
def full : Dict Bytes := rawDb
def s0 : OpSt := { store := { base := [], cache := none, failAfter := none }, counts := [], pending := [] }

/- the elaborator may not run the executor to see what `rawDb` holds; the kernel computes what is needed of it in
   `get_eval` and `op_eval` -/
attribute [local irreducible] rawDb

/-- the lookup loop evaluated: the source has the root and every node on the path of `k1`; two of them are outstanding
    after the root; exactly root, branch, leaf are asked for, latest first; three attempts fail, the fourth returns -/
theorem get_eval :
    (Dict.contains full T1.root = true ∧
      (traverseReads toyHs T1.tree (nibs k1) []).all (fun e => Dict.contains full e.1) = true ∧
      (outstanding toyHs T1 k1 s0.store).length = 2) ∧
    (retryGet toyHs (blankRoot toyH) full T1 k1 4 s0 []).2 = [hLeaf, hBr, hRoot] ∧
    (retryGet toyHs (blankRoot toyH) full T1 k1 3 s0 []).1.isNone = true ∧
    Hex.get t1 (nibs k1) = longV := by
  decide +kernel

theorem full_has_root : T1.root ≠ blankRoot toyH → Dict.contains full T1.root = true := fun _ => get_eval.1.1

theorem full_has_path : ∀ e ∈ traverseReads toyHs T1.tree (nibs k1) [], Dict.contains full e.1 = true :=
  fun e he => List.all_eq_true.1 get_eval.1.2.1 e he

theorem outstanding_len : (outstanding toyHs T1 k1 s0.store).length = 2 := get_eval.1.2.2

/-- **`C07.get_retry_loop_converges` applies**: from an EMPTY database the loop converges to the stored value, asks for no
    hash twice and only for hashes the source has -/
theorem get_loop_witness :
    (retryGet toyHs (blankRoot toyH) full T1 k1 4 s0 []).1 = some (.ok (Hex.get t1 (nibs k1))) ∧
    (retryGet toyHs (blankRoot toyH) full T1 k1 4 s0 []).2.Nodup :=
  have h := C07.get_retry_loop_converges toyHs (blankRoot toyH) full T1 t1_canon k1 s0 full_has_root full_has_path 4
    (by rw [outstanding_len]; decide)
  ⟨h.1, h.2.1⟩

/-- … and by evaluation: exactly root, branch, leaf were asked for, latest first; three attempts failed, the fourth returned -/
theorem get_loop_evaluated :
    (retryGet toyHs (blankRoot toyH) full T1 k1 4 s0 []).2 = [hLeaf, hBr, hRoot] ∧
    (retryGet toyHs (blankRoot toyH) full T1 k1 3 s0 []).1.isNone = true ∧
    Hex.get t1 (nibs k1) = longV := get_eval.2

def sFull : OpSt := { store := { base := rawDb, cache := none, failAfter := some 0 }, counts := [], pending := [] }
def T1p : TrieSt := { tree := t1, root := hRoot, prune := true }

def isWriteFailed : Except Exn TrieSt → Bool
  | .error .writeFailed => true
  | _ => false

theorem eq_of_isWriteFailed (r : Except Exn TrieSt) (h : isWriteFailed r = true) : r = .error .writeFailed := by
  unfold isWriteFailed at h
  split at h
  · rfl
  · cases h

/-- `set(k1, 09)` evaluated: the source has every node the operation reads; two are outstanding after the root; the loop
    asks for the same three hashes; and on the full database with a failing first write the call is refused -/
theorem op_eval :
    (((opTree toyHs T1 k1 (some [9])).2.all fun e => match e with | .read h => Dict.contains full h | _ => true) = true ∧
      (outstandingOp toyHs T1 k1 (some [9]) s0.store).length = 2) ∧
    (retryOp toyHs (blankRoot toyH) full T1 k1 (some [9]) 4 s0 []).2 = [hLeaf, hBr, hRoot] ∧
    isWriteFailed (opSetDel toyHs (blankRoot toyH) T1p k1 (some [9]) sFull).2 = true := by
  decide +kernel

theorem full_has_reads : ∀ e ∈ (opTree toyHs T1 k1 (some [9])).2, ∀ h, e = Ev.read h → Dict.contains full h = true := by
  intro e he h heq
  have := List.all_eq_true.1 op_eval.1.1 e he
  rw [heq] at this
  exact this

theorem outstandingOp_len : (outstandingOp toyHs T1 k1 (some [9]) s0.store).length = 2 := op_eval.1.2

/-- **`C07.op_retry_loop_converges` applies** to `set(k1, 09)` on the empty database -/
theorem op_loop_witness :
    ∃ s' r, (retryOp toyHs (blankRoot toyH) full T1 k1 (some [9]) 4 s0 []).1 = some (s', r) ∧
      (∀ h root rk pre, r ≠ .error (.missingTrieNode h root rk pre)) ∧
      (retryOp toyHs (blankRoot toyH) full T1 k1 (some [9]) 4 s0 []).2.Nodup := by
  obtain ⟨s', r, h1, h2, _, h4, _⟩ := C07.op_retry_loop_converges toyHs (blankRoot toyH) full T1 k1 (some [9]) s0
    full_has_root full_has_reads 4 (by rw [outstandingOp_len]; decide)
  exact ⟨s', r, h1, h2, h4⟩

/-- the same three hashes, by evaluation -/
theorem op_loop_evaluated : (retryOp toyHs (blankRoot toyH) full T1 k1 (some [9]) 4 s0 []).2 = [hLeaf, hBr, hRoot] :=
  op_eval.2.1

/-! ## a refused first write (C06) -/

theorem refused_is_writeFailed : isWriteFailed (opSetDel toyHs (blankRoot toyH) T1p k1 (some [9]) sFull).2 = true :=
  op_eval.2.2

/-- **`C06.first_write_refused_atomic` applies**: a `set` on a pruning trie whose first database write is refused returns
    `WriteFailed` and leaves store, counts and pending marks as they were -/
theorem refused_witness :
    (opSetDel toyHs (blankRoot toyH) T1p k1 (some [9]) sFull).1.store = sFull.store ∧
    (opSetDel toyHs (blankRoot toyH) T1p k1 (some [9]) sFull).1.counts = sFull.counts :=
  have h := C06.first_write_refused_atomic toyHs (blankRoot toyH) T1p k1 (some [9]) sFull rfl rfl
    (eq_of_isWriteFailed _ refused_is_writeFailed)
  ⟨h.1, h.2.1⟩

end PyTrie.Props.NonVacuity12
