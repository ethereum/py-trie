import PyTrie.Props.NonVacuity7
import PyTrie.Props.FreeExec
import PyTrie.Props.C10Raw
import PyTrie.Props.C04History
/-! # Non-vacuity, part 8: the history-level raw theorems

With the toy hash `toyH` and the checked executor histories of `NonVacuity4/6/7.lean`:

1. `C09.walk_over_history` / `C09.walk_over_history_never_stuck`: five walk steps interleaved with the eight operations of
   the pruning history `hist8`; the third step hits a stale cached parent one of whose children was pruned by the operation
   just before it (`cstepD` raises `MissingTraversalNode`, `cstepDR` retries from the root and succeeds); the walk ends with
   an empty fog; the pairs met are stated, and the two conclusions of the theorem are instantiated on them;
2. `C10.raw_nodes_is_preorder` on the final pruned database of `hist8`: the five nodes in pre-order;
3. `C10.raw_nodes_partial`, left disjunct: the same database with one live hashed leaf withheld;
4. `C04.history_old_roots_readable`: the non-pruning run of `hist5`, version 2 read through the final database.

Hypotheses are discharged from the checked `ReachVersions` / `ReachOpsNC` proofs; concrete outcomes by kernel evaluation. -/
namespace PyTrie.Props.NonVacuity8
open PyTrie PyTrie.Hex PyTrie.Hex.Node PyTrie.HexD PyTrie.Fog PyTrie.Walk
open PyTrie.Props.NonVacuity PyTrie.Props.NonVacuity2 PyTrie.Props.NonVacuity4 PyTrie.Props.NonVacuity6
open PyTrie.Props.NonVacuity7
open PyTrie.HexW PyTrie.HexRaw
open PyTrie.HexFree (ReachVersions WritesAgree WEv opsOf schedOf initT initS)
open PyTrie.Props.C01 (Op run spec applyOp)

/-! ## 0. Boolean tests and their soundness -/

mutual
theorem item_eq_of_beq : ∀ a b : Item, Item.beq a b = true → a = b
  | .str a, .str b, h => by simp only [Item.beq, beq_iff_eq] at h; rw [h]
  | .list a, .list b, h => by simp only [Item.beq] at h; rw [itemList_eq_of_beq a b h]
  | .str _, .list _, h => by simp [Item.beq] at h
  | .list _, .str _, h => by simp [Item.beq] at h
theorem itemList_eq_of_beq : ∀ a b : List Item, Item.beqList a b = true → a = b
  | [], [], _ => rfl
  | x :: xs, y :: ys, h => by
    simp only [Item.beqList, Bool.and_eq_true] at h
    rw [item_eq_of_beq x y h.1, itemList_eq_of_beq xs ys h.2]
  | [], _ :: _, h => by simp [Item.beqList] at h
  | _ :: _, [], h => by simp [Item.beqList] at h
end

/-- the raw cache holds `(parent, seg)` at `p`, as a test -/
def hitDB (c : Frontier Item) (p : Path) (parent : Item) (seg : Path) : Bool :=
  match Frontier.get c p with
  | some (n, s) => Item.beq n parent && s == seg
  | none => false

theorem hitD_of_B (c : Frontier Item) (p : Path) (parent : Item) (seg : Path) (h : hitDB c p parent seg = true) :
    Frontier.get c p = some (parent, seg) := by
  unfold hitDB at h
  split at h
  · next n s heq =>
    simp only [Bool.and_eq_true, beq_iff_eq] at h
    rw [heq, item_eq_of_beq _ _ h.1, h.2]
  · cases h

/-- the raw-level step returned a new state with this fog and these pairs met -/
def stepShapeB (fog : Fog) (met : List (Path × Bytes)) : Except TErr (Option CStateD) → Bool
  | .ok (some r) => r.fog == fog && r.met == met
  | _ => false

theorem of_stepShapeB (fog : Fog) (met : List (Path × Bytes)) (x : Except TErr (Option CStateD))
    (h : stepShapeB fog met x = true) : ∃ r, x = .ok (some r) ∧ r.fog = fog ∧ r.met = met := by
  unfold stepShapeB at h
  split at h
  · next r =>
    simp only [Bool.and_eq_true, beq_iff_eq] at h
    exact ⟨r, rfl, h.1, h.2⟩
  · cases h

/-- equality test for lists of (prefix, node) (`Node` has no decidable equality: `sameB`) -/
def sameListB : List (Path × Node) → List (Path × Node) → Bool
  | [], [] => true
  | e :: r, e' :: r' => e.1 == e'.1 && sameB e.2 e'.2 && sameListB r r'
  | _, _ => false

theorem sameListB_eq (a b : List (Path × Node)) (h : sameListB a b = true) : a = b := by
  induction a generalizing b with
  | nil => cases b with
    | nil => rfl
    | cons _ _ => cases h
  | cons e r ih =>
    cases b with
    | nil => cases h
    | cons e' r' =>
      simp only [sameListB, Bool.and_eq_true, beq_iff_eq] at h
      obtain ⟨p, n⟩ := e
      obtain ⟨p', n'⟩ := e'
      simp only at h
      rw [h.1.1, sameB_eq _ _ h.1.2, ih r' h.2]

/-- equality test for raw annotated nodes -/
def annDB (a b : AnnD) : Bool :=
  a.subs == b.subs && a.value == b.value && a.suffix == b.suffix && Item.beq a.raw b.raw && decide (a.kind = b.kind)

theorem annDB_eq (a b : AnnD) (h : annDB a b = true) : a = b := by
  obtain ⟨s1, v1, x1, r1, k1⟩ := a
  obtain ⟨s2, v2, x2, r2, k2⟩ := b
  simp only [annDB, Bool.and_eq_true, beq_iff_eq, decide_eq_true_eq] at h
  obtain ⟨⟨⟨⟨h1, h2⟩, h3⟩, h4⟩, h5⟩ := h
  rw [h1, h2, h3, item_eq_of_beq _ _ h4, h5]

def annListB : List (Path × AnnD) → List (Path × AnnD) → Bool
  | [], [] => true
  | e :: r, e' :: r' => e.1 == e'.1 && annDB e.2 e'.2 && annListB r r'
  | _, _ => false

theorem annListB_eq (a b : List (Path × AnnD)) (h : annListB a b = true) : a = b := by
  induction a generalizing b with
  | nil => cases b with
    | nil => rfl
    | cons _ _ => cases h
  | cons e r ih =>
    cases b with
    | nil => cases h
    | cons e' r' =>
      simp only [annListB, Bool.and_eq_true, beq_iff_eq] at h
      obtain ⟨p, n⟩ := e
      obtain ⟨p', n'⟩ := e'
      simp only at h
      rw [h.1.1, annDB_eq _ _ h.1.2, ih r' h.2]

/-- `nodes()` returned exactly this list -/
def nodesOkB (l : List (Path × AnnD)) : Except TErr (List (Path × AnnD)) → Bool
  | .ok l' => annListB l' l
  | _ => false

theorem nodes_of_okB (l : List (Path × AnnD)) (r : Except TErr (List (Path × AnnD))) (h : nodesOkB l r = true) :
    r = .ok l := by
  match r, h with
  | .ok l', h => rw [annListB_eq l' l h]

/-- `nodes()` raised `MissingTraversalNode(h, pre)` -/
def nodesMissB (h : Hash) (pre : Path) : Except TErr (List (Path × AnnD)) → Bool
  | .error (.missing h' pre') => h' == h && pre' == pre
  | _ => false

theorem nodes_of_missB (h : Hash) (pre : Path) (r : Except TErr (List (Path × AnnD))) (hm : nodesMissB h pre r = true) :
    r = .error (.missing h pre) := by
  unfold nodesMissB at hm
  split at hm
  · simp only [Bool.and_eq_true, beq_iff_eq] at hm
    rw [hm.1, hm.2]
  · cases hm

/-! ## 1. `C09.walk_over_history` on a walk interleaved with the pruning history `hist8`

`hist8 = hist6 ++ [set k1 longV, set k3 [6,6]]` (`NonVacuity7.lean`). After `hist6` the trie is `t6`: a root branch whose
child 1 is the hashed branch `br6` over two hashed leaves (`k1 ↦ longW` at `[1,2]`, `k3 ↦ longV` at `[1,4]`) and whose child 2
is an embedded leaf (`k4 ↦ [6]`). The events:

* the six operations of `hist6`;
* walk step at `[]` (root `t6`; caches `t6` as parent of `[1]` and `[2]`), walk step at `[1]` (hit on `t6`; caches `br6` as
  parent of `[1,2]` and `[1,4]`);
* `set k1 longV`: the pruning trie removes the leaf holding `longW`, the branch `br6` and the root `t6`;
* walk step at `[1,2]`: hit on the stale parent `br6`, whose child 2 is the pruned leaf — `MissingTraversalNode`; the retry
  drops the entry and traverses from the current root: meets `(k1, longV)`;
* walk step at `[1,4]`: hit on the stale parent `br6`, whose child 4 (the leaf holding `longV`) is still in the database: meets
  `(k3, longV)`;
* `set k3 [6,6]`: branch and root pruned and replaced once more;
* walk step at `[2]`: hit on the stale (pruned) old root `t6`, child embedded: meets `(k4, [6])`. The fog is complete. -/

def evs : List WEv :=
  hist6.map .op ++
  [.step [], .step [1], .op (.set k1 longV), .step [1, 2], .step [1, 4], .op (.set k3 [6, 6]), .step [2]]

/-- the operations of the events are, definitionally, the checked pruning history `hist8` -/
theorem evs_ops : opsOf evs = hist8 := rfl

/-- **the hypothesis of `walk_over_history`**, from the checked `ReachVersions` proof of `hist8` (pruning on) -/
theorem evs_reach : ReachVersions toyH true (opsOf evs) Tp8 sp8 := hist8_versions_p

/-- the schedule of the theorem: each walk step with the executor's database, root and tree of that moment -/
def sched : List StepT := schedOf toyH (initT toyH true) initS evs

def schedD : List StepD := sched.map StepT.toD

/-- the state of the executor after seven operations (between the third and the fourth walk step) -/
def db7 : Dict Bytes := (runW toyHs (blankRoot toyH) true (hist8.take 7)).2.store.base
def t7 : Node := run (hist8.take 7)
def root7 : Hash := rootHash toyH t7

/-- the pre-order sequence of the final tree of `hist8`: root branch, hashed branch at `[1]`, hashed leaf at `[1,2]`, embedded
    leaves at `[1,4]` and `[2]` -/
def pre8 : List (Path × Node) :=
  [([], t8), ([1], br8), ([1, 2], leaf [] longV), ([1, 4], leaf [] [6, 6]), ([2], leaf [5] [6])]

/-- the withheld node of section 3: the hashed leaf at `[1,2]` -/
def hW : Hash := hashOf toyH (leaf [] longV)

/-- the database of the final state with that body erased -/
def db8w : Dict Bytes := Dict.erase db8 hW

/-- the raw state after the first `n` steps of the schedule (the start state if the run stopped earlier — never the case) -/
def wAfter (n : Nat) : CStateD :=
  match crunDR toyH cstartD (schedD.take n) with
  | .ok (some r) => r
  | _ => cstartD

theorem wAfter_ok (n : Nat) (h : okSomeB (crunDR toyH cstartD (schedD.take n)) = true) :
    crunDR toyH cstartD (schedD.take n) = .ok (some (wAfter n)) := by
  unfold wAfter
  generalize crunDR toyH cstartD (schedD.take n) = r at h ⊢
  match r, h with
  | .ok (some r), _ => rfl

/-! ### `walk_over_history_never_stuck`: a Boolean checker for `InFogRun` -/
section InFog
variable (H : Bytes → Bytes)

/-- `InFogRun` as a test: run `cstepDR` along the schedule, checking at each step that the prefix is in the fog -/
def inFogRunB : CStateD → List StepD → Bool
  | _, [] => true
  | s, e :: rest =>
    decide (e.p ∈ s.fog) &&
      (match cstepDR H e.db e.root s e.p with
       | .ok (some s') => inFogRunB s' rest
       | _ => true)

theorem inFogRun_of_B (s : CStateD) (l : List StepD) (h : inFogRunB H s l = true) : InFogRun H s l := by
  induction l generalizing s with
  | nil => trivial
  | cons e rest ih =>
    simp only [inFogRunB, Bool.and_eq_true, decide_eq_true_eq] at h
    refine ⟨h.1, fun s' hs => ?_⟩
    have h2 := h.2
    rw [hs] at h2
    exact ih s' h2

end InFog

/-- what the kernel computes about the schedule and the final pruned database -/
def SchedFacts : Prop :=
    -- section 1, the schedule: databases, roots and prefixes of the five steps; what the tries of the five moments hold;
    -- `k4` is stable; every stored key has at most two nibbles (used in `NonVacuity10.lean`)
    (schedD.map (fun e => (e.db, e.root, e.p)) =
        [(prunedBase6, root6, []), (prunedBase6, root6, [1]), (db7, root7, [1, 2]), (db7, root7, [1, 4]), (db8, root8, [2])] ∧
      sched.map (fun e => (get e.t (nibs k1), get e.t (nibs k2), get e.t (nibs k3), get e.t (nibs k4))) =
        [(longW, [], longV, [6]), (longW, [], longV, [6]), (longV, [], longV, [6]), (longV, [], longV, [6]),
         (longV, [], [6, 6], [6])] ∧
      sched.all (fun e => get e.t (nibs k4) == [6]) = true ∧
      sched.all (fun e => (itemsOf e.t).all (fun x => decide (x.1.length ≤ 2))) = true) ∧
    -- section 2: the side conditions of the raw-level theorems on the final database; what `nodes()` returns over it
    ((Dict.get? db8 (blankRoot toyH) = none ∧ db8.all (fun e => decide (e.2.length < 100)) = true) ∧
      nodesOkB (pre8.map (fun e => (e.1, Ann.toD toyH (annotate e.2)))) (nodesOfD toyH db8 Tp8.root 20) = true) ∧
    -- section 3: the withheld node; the final tree; what `nodes()` returns over the database with the withheld body erased
    (isHashed toyH (leaf [] longV) = true ∧ (hW == root8) = false ∧
      lookup db8 hW = some (enc toyH (leaf [] longV)) ∧ db8.length = 3 ∧ db8w.length = 2) ∧
    sameB Tp8.tree t8 = true ∧
    nodesMissB hW [2] (nodesOfD toyH db8w root8 20) = true ∧
    lookup db8w hW = none

/-- … and about the walk -/
def WalkFacts : Prop :=
    -- the run and its first two steps return a state, and every scheduled prefix is in the fog of its moment
    (okSomeB (crunDR toyH cstartD schedD) = true ∧ okSomeB (crunDR toyH cstartD (schedD.take 2)) = true ∧
      inFogRunB toyH cstartD schedD = true) ∧
    -- fog and pairs met along the run
    ((List.range 6).map (fun n => ((wAfter n).fog, (wAfter n).met)) =
        [([[]], []),
         ([[1], [2]], []),
         ([[1, 2], [1, 4], [2]], []),
         ([[1, 4], [2]], [(nibs k1, longV)]),
         ([[2]], [(nibs k3, longV), (nibs k1, longV)]),
         ([], [(nibs k4, [6]), (nibs k3, longV), (nibs k1, longV)])] ∧
      (wAfter 5).fog = [] ∧ (wAfter 5).met = [(nibs k4, [6]), (nibs k3, longV), (nibs k1, longV)]) ∧
    -- the third step: stale parent, pruned child, retry
    (hitDB (wAfter 2).cache [1, 2] (toItem toyH br6) [2] = true ∧
      lookup prunedBase6 (hashOf toyH (leaf [] longW)) = some (enc toyH (leaf [] longW)) ∧
      lookup db7 (hashOf toyH (leaf [] longW)) = none ∧
      missB (hashOf toyH (leaf [] longW)) [2] (cstepD toyH db7 root7 (wAfter 2) [1, 2]) = true ∧
      stepShapeB [[1, 4], [2]] [(nibs k1, longV)] (cstepDR toyH db7 root7 (wAfter 2) [1, 2]) = true) ∧
    -- the fourth and fifth steps
    hitDB (wAfter 3).cache [1, 4] (toItem toyH br6) [4] = true ∧
    okSomeB (cstepD toyH db7 root7 (wAfter 3) [1, 4]) = true ∧
    hitDB (wAfter 4).cache [2] (toItem toyH t6) [2] = true ∧ lookup db8 (hashOf toyH t6) = none ∧
    okSomeB (cstepD toyH db8 root8 (wAfter 4) [2]) = true

instance : Decidable SchedFacts := by unfold SchedFacts; infer_instance
instance : Decidable WalkFacts := by unfold WalkFacts; infer_instance

/-- **The events, evaluated once** (as in `NonVacuity4.hist5_eval`: the run of the history, the schedule and the states of
    the walk are shared). What sections 1–3 compute is stated in the two definitions above (two, each with a `Decidable`
    instance of its own: one instance for all of it is larger than instance search accepts); the theorems below that rest
    on evaluation are the components. -/
theorem events_eval : SchedFacts ∧ WalkFacts := by decide +kernel

/-- the five steps see three different databases and roots -/
theorem schedD_steps :
    schedD.map (fun e => (e.db, e.root, e.p)) =
      [(prunedBase6, root6, []), (prunedBase6, root6, [1]), (db7, root7, [1, 2]), (db7, root7, [1, 4]), (db8, root8, [2])] :=
  events_eval.1.1.1

theorem sched_len : schedD.length = 5 := by
  have := congrArg List.length schedD_steps
  rwa [List.length_map] at this

/-- what the trie holds for `k1`, `k2`, `k3`, `k4` at each of the five steps: only `k4` keeps one (non-empty) value -/
theorem sched_views :
    sched.map (fun e => (get e.t (nibs k1), get e.t (nibs k2), get e.t (nibs k3), get e.t (nibs k4))) =
      [(longW, [], longV, [6]), (longW, [], longV, [6]), (longV, [], longV, [6]), (longV, [], longV, [6]),
       (longV, [], [6, 6], [6])] :=
  events_eval.1.1.2.1

theorem k4_stable : ∀ e ∈ sched, get e.t (nibs k4) = [6] := by
  intro e he
  simpa using List.all_eq_true.1 events_eval.1.1.2.2.1 e he

/-- the general theorem's intermediate fact: `SchedOk` holds for this schedule -/
theorem sched_ok : SchedOk toyH sched :=
  PyTrie.HexFree.schedOk_of_history toyH toyH_len true evs Tp8 sp8 evs_reach

theorem run_ok : okSomeB (crunDR toyH cstartD schedD) = true := events_eval.2.1.1

/-- **the run, evaluated**: every step returns a state -/
theorem run_eval : crunDR toyH cstartD schedD = .ok (some (wAfter 5)) := by
  have ht : schedD.take 5 = schedD := List.take_of_length_le (by rw [sched_len]; exact Nat.le_refl 5)
  have := wAfter_ok 5 (by rw [ht]; exact run_ok)
  rwa [ht] at this

theorem run2_eval : crunDR toyH cstartD (schedD.take 2) = .ok (some (wAfter 2)) := wAfter_ok 2 events_eval.2.1.2.1

/-- fog and pairs met after 0 … 5 steps -/
theorem walk_progress :
    (List.range 6).map (fun n => ((wAfter n).fog, (wAfter n).met)) =
      [([[]], []),
       ([[1], [2]], []),
       ([[1, 2], [1, 4], [2]], []),
       ([[1, 4], [2]], [(nibs k1, longV)]),
       ([[2]], [(nibs k3, longV), (nibs k1, longV)]),
       ([], [(nibs k4, [6]), (nibs k3, longV), (nibs k1, longV)])] :=
  events_eval.2.2.1.1

theorem end_state :
    (wAfter 5).fog = [] ∧ (wAfter 5).met = [(nibs k4, [6]), (nibs k3, longV), (nibs k1, longV)] :=
  events_eval.2.2.1.2

/-- **the retry path runs at the third step** (prefix `[1,2]`, database and root after `set k1 longV`): the cache of the
    state after two steps holds the body of `br6` for `[1,2]`; the leaf holding `longW` — in the database when `br6` was
    cached — has been pruned; `cstepD` raises `MissingTraversalNode` for exactly that leaf (prefix `[2]` from the parent);
    `cstepDR` returns a state: the prefix explored, `(k1, longV)` — the NEW value, read from the current root — met -/
theorem retry_step :
    Frontier.get (wAfter 2).cache [1, 2] = some (toItem toyH br6, [2]) ∧
    lookup prunedBase6 (hashOf toyH (leaf [] longW)) = some (enc toyH (leaf [] longW)) ∧
    lookup db7 (hashOf toyH (leaf [] longW)) = none ∧
    cstepD toyH db7 root7 (wAfter 2) [1, 2] = .error (.missing (hashOf toyH (leaf [] longW)) [2]) ∧
    ∃ r, cstepDR toyH db7 root7 (wAfter 2) [1, 2] = .ok (some r) ∧ r.fog = [[1, 4], [2]] ∧ r.met = [(nibs k1, longV)] :=
  have h := events_eval.2.2.2.1
  ⟨hitD_of_B _ _ _ _ h.1, h.2.1, h.2.2.1, eq_of_missB _ _ _ h.2.2.2.1, of_stepShapeB _ _ _ h.2.2.2.2⟩

/-- the fourth step is a hit on the same stale parent that still resolves (no retry), the fifth a hit on the pruned old root -/
theorem later_steps :
    Frontier.get (wAfter 3).cache [1, 4] = some (toItem toyH br6, [4]) ∧
    okSomeB (cstepD toyH db7 root7 (wAfter 3) [1, 4]) = true ∧
    Frontier.get (wAfter 4).cache [2] = some (toItem toyH t6, [2]) ∧ lookup db8 (hashOf toyH t6) = none ∧
    okSomeB (cstepD toyH db8 root8 (wAfter 4) [2]) = true :=
  have h := events_eval.2.2.2.2
  ⟨hitD_of_B _ _ _ _ h.1, h.2.1, hitD_of_B _ _ _ _ h.2.2.1, h.2.2.2⟩

/-- **`C09.walk_over_history` on the witness**: the disjunct that holds is the right one; the state `s'` it provides has the raw
    image the evaluation shows (`wAfter 5`), hence an empty fog and these three pairs met — `(k4, [6])` for the one key whose
    value is the same at all five steps (its final value), `(k1, longV)` read from the current root by the retry (the final
    value; the first two steps saw `longW`), `(k3, longV)` read through the stale parent (the value of versions 5–7; the final
    one is `[6,6]`) —; and the theorem's two conclusions hold for it -/
theorem walk_over_history_witness :
    ∃ s' : CState, crunDR toyH cstartD (sched.map StepT.toD) = .ok (some (toCD toyH s')) ∧
      toCD toyH s' = wAfter 5 ∧ s'.fog = [] ∧
      s'.met = [(nibs k4, [6]), (nibs k3, longV), (nibs k1, longV)] ∧
      (∀ k v, (k, v) ∈ s'.met → v ≠ [] ∧ ∃ i, i ≤ hist8.length ∧ get (run (hist8.take i)) k = v) ∧
      (s'.fog = [] → ∀ k val, val ≠ [] → (∀ e ∈ sched, get e.t k = val) → (k, val) ∈ s'.met) := by
  rcases C09.walk_over_history toyH toyH_len true evs Tp8 sp8 evs_reach with hn | ⟨s', hrun, h1, h2⟩
  · cases hn.symm.trans run_eval
  · have he : toCD toyH s' = wAfter 5 := Option.some.inj (Except.ok.inj (hrun.symm.trans run_eval))
    have hf : s'.fog = (wAfter 5).fog := by rw [← he]; rfl
    have hm : s'.met = (wAfter 5).met := by rw [← he]; rfl
    exact ⟨s', hrun, he, hf.trans end_state.1, hm.trans end_state.2, h1, h2⟩

theorem sched_inFogB : inFogRunB toyH cstartD schedD = true := events_eval.2.1.2.2

-- the elaborator, looking at a goal `InFogRun …` on closed terms, would unfold it and run the schedule
attribute [local irreducible] InFogRun

/-- every scheduled prefix is an unexplored prefix of the fog of that moment -/
theorem sched_inFog : InFogRun toyH cstartD (sched.map StepT.toD) := inFogRun_of_B toyH _ _ sched_inFogB

/-- **`C09.walk_over_history_never_stuck` applies** -/
theorem walk_never_stuck_witness :
    ∃ s' : CState, crunDR toyH cstartD (sched.map StepT.toD) = .ok (some (toCD toyH s')) :=
  C09.walk_over_history_never_stuck toyH toyH_len true evs Tp8 sp8 evs_reach sched_inFog

/-- **the two conclusions instantiated** (through the theorem, not by evaluation): completeness — `k4` holds `[6]` at every
    step, so `(k4, [6])` is met; soundness — the met pair `(k3, longV)` was held after some prefix of the history, although the
    final trie holds `[6,6]` there -/
theorem walk_over_history_instances :
    ∃ s' : CState, crunDR toyH cstartD (sched.map StepT.toD) = .ok (some (toCD toyH s')) ∧
      (nibs k4, [6]) ∈ s'.met ∧
      ((nibs k3, longV) ∈ s'.met ∧ ∃ i, i ≤ hist8.length ∧ get (run (hist8.take i)) (nibs k3) = longV) ∧
      get (run hist8) (nibs k3) = [6, 6] := by
  obtain ⟨s', hrun, _, hfog, hmet, h1, h2⟩ := walk_over_history_witness
  refine ⟨s', hrun, h2 hfog (nibs k4) [6] (by decide) k4_stable, ⟨?_, ?_⟩, by decide +kernel⟩
  · rw [hmet]; decide
  · exact (h1 (nibs k3) longV (by rw [hmet]; decide)).2

/-! ## 2. `C10.raw_nodes_is_preorder` on the final pruned database of `hist8` -/

/-- the `ReachOpsNC` hypothesis, from the checked `ReachVersions` proof -/
theorem hist8_reach_nc : ReachOpsNC (stdHashing toyH) (blankRoot toyH) true hist8 Tp8 sp8 :=
  PyTrie.HexFree.reachVersions_nc toyH true hist8 Tp8 sp8 hist8_versions_p

theorem db8_blank : Dict.get? db8 (blankRoot toyH) = none := events_eval.1.2.1.1.1

theorem db8_short : ∀ h b, Dict.get? db8 h = some b → b.length < 2 ^ 64 := bodies_short64 db8 events_eval.1.2.1.1.2

theorem pre8_eq : preorder (run hist8) [] = pre8 := sameListB_eq _ _ (by decide +kernel)

/-- **`C10.raw_nodes_is_preorder` applies** (`fuel := 20`): `nodes()` over the pruned database yields the five nodes in pre-order -/
theorem nodes_preorder_witness :
    nodesOfD toyH db8 Tp8.root 20 = .ok (pre8.map (fun e => (e.1, Ann.toD toyH (annotate e.2)))) := by
  have h := C10.raw_nodes_is_preorder toyH toyH_len true hist8 Tp8 sp8 hist8_reach_nc
  rw [← db8_def, pre8_eq] at h
  exact h db8_blank db8_short 20 (by decide)

/-- cross-check: the same equation by evaluating `nodesOfD` in the kernel (no theorem involved) -/
theorem nodes_preorder_eval :
    nodesOfD toyH db8 Tp8.root 20 = .ok (pre8.map (fun e => (e.1, Ann.toD toyH (annotate e.2)))) :=
  nodes_of_okB _ _ events_eval.1.2.1.2

/-- prefixes, kinds, and which of the nodes are stored under their hash -/
theorem nodes_preorder_shape :
    pre8.map (fun e => (e.1, (annotate e.2).kind, isHashed toyH e.2)) =
      [([], .branch, true), ([1], .branch, true), ([1, 2], .leaf, true), ([1, 4], .leaf, false), ([2], .leaf, false)] := by
  decide +kernel

/-! ## 3. `C10.raw_nodes_partial`, left disjunct: the same tree over its database with one body withheld -/

/-- the withheld node is hashed, is not the root, and was in the database (three entries, two left) -/
theorem withheld_live :
    isHashed toyH (leaf [] longV) = true ∧ (hW == root8) = false ∧
    lookup db8 hW = some (enc toyH (leaf [] longV)) ∧ db8.length = 3 ∧ db8w.length = 2 :=
  events_eval.1.2.2.1

theorem Tp8_tree : Tp8.tree = t8 := sameB_eq _ _ events_eval.1.2.2.2.1

theorem db8_complete : Complete (stdHashing toyH) (blankRoot toyH) db8 Tp8 :=
  db8_def ▸ Raw.pruned_db_complete (stdHashing toyH) (blankRoot toyH) true hist8 Tp8 sp8 hist8_reach_nc

/-- **the hypotheses of `raw_nodes_partial`**: `Free.partial_of_complete_db` on the complete pruned database, then
    `Free.partial_kept_by_withholding` -/
theorem db8w_partial : RootPartial toyH db8w root8 t8 ∧ PartialD toyH db8w t8 := by
  have h := Free.partial_kept_by_withholding toyH Tp8 db8 hW
    (Free.partial_of_complete_db toyH Tp8 db8 db8_complete db8_blank db8_short)
  rw [Tp8_tree, Tp8_state.2] at h
  exact h

theorem nodes_partial_eval : nodesMissB hW [2] (nodesOfD toyH db8w root8 20) = true := events_eval.1.2.2.2.2.1

/-- from `C10.raw_nodes_partial`: if the evaluation shows `MissingTraversalNode(h, pre)`, the left disjunct holds with these -/
theorem nodes_missing (db : Db) (root : Hash) (t : Node) (hc : Canon t) (hroot : RootPartial toyH db root t)
    (hst : PartialD toyH db t) (fuel : Nat) (h : Hash) (pre : Path)
    (hev : nodesMissB h pre (nodesOfD toyH db root fuel) = true) :
    nodesOfD toyH db root fuel = .error (.missing h pre) ∧ lookup db h = none ∧
    nodesOfD toyH db root fuel ≠ .ok ((nodesOf t fuel).map (fun e => (e.1, Ann.toD toyH (annotate e.2)))) := by
  have he := nodes_of_missB h pre _ hev
  rcases C10.raw_nodes_partial toyH toyH_len db root t hc hroot hst fuel with ⟨h', pre', he', hl⟩ | hr
  · rw [he] at he'
    injection he' with he'
    injection he' with h1 h2
    subst h1
    refine ⟨he, hl, ?_⟩
    rw [he]; intro hx; cases hx
  · rw [he] at hr; cases hr

/-- **`C10.raw_nodes_partial` on the witness is the left disjunct**: `MissingTraversalNode` for exactly the withheld leaf (prefix
    `[2]` from its cached parent, the branch at `[1]`), which the database indeed does not hold; the right disjunct is false -/
theorem nodes_partial_witness :
    nodesOfD toyH db8w root8 20 = .error (.missing hW [2]) ∧ lookup db8w hW = none ∧
    nodesOfD toyH db8w root8 20 ≠ .ok ((nodesOf t8 20).map (fun e => (e.1, Ann.toD toyH (annotate e.2)))) :=
  nodes_missing db8w root8 t8 t8_canon db8w_partial.1 db8w_partial.2 20 hW [2] nodes_partial_eval

theorem nodes_partial_lookup_eval : lookup db8w hW = none := events_eval.1.2.2.2.2.2

/-! ## 4. `C04.history_old_roots_readable` on the non-pruning run of `hist5`

`hist5 = [set k1 longV, set k2 [5], set k1 longW, set k3 longV, delete k2]` (`NonVacuity4.lean`): `k1` is overwritten by the third
operation, `k2` deleted by the fifth. Version 2 holds `k1 ↦ longV`, `k2 ↦ [5]`; the final trie `k1 ↦ longW`, `k3 ↦ longV`. -/

/-- the final state of the non-pruning run (its database is `fullBase`) -/
def Tnp : TrieSt := (runW toyHs (blankRoot toyH) false hist5).1
def snp : OpSt := (runW toyHs (blankRoot toyH) false hist5).2

def getOkB (v : Bytes) : Except TErr Bytes → Bool
  | .ok v' => v' == v
  | _ => false

/-- **the non-pruning run of `hist5`, evaluated once** (one kernel evaluation for what this section computes) -/
theorem np_eval :
    -- contents and roots of version 2 and of the final version
    (spec (hist5.take 2) k1 = longV ∧ spec (hist5.take 2) k2 = [5] ∧ spec (hist5.take 2) k3 = [] ∧
      spec hist5 k1 = longW ∧ spec hist5 k2 = [] ∧ spec hist5 k3 = longV ∧
      rootHash toyH (run (hist5.take 2)) ≠ Tnp.root) ∧
    -- four reads
    (getOkB longV (getD toyH fullBase (rootHash toyH (run (hist5.take 2))) (nibs k1)) = true ∧
      getOkB [5] (getD toyH fullBase (rootHash toyH (run (hist5.take 2))) (nibs k2)) = true ∧
      getOkB longW (getD toyH fullBase Tnp.root (nibs k1)) = true ∧
      getOkB [] (getD toyH fullBase Tnp.root (nibs k2)) = true) ∧
    -- the final root as a projection of the run (for rewriting, as in `NonVacuity4.hist5_eval`)
    Tnp.root = (runW toyHs (blankRoot toyH) false hist5).1.root := by
  decide +kernel

theorem fullBase_blank : Dict.get? fullBase (blankRoot toyH) = none := full_blank

theorem fullBase_short : ∀ h b, Dict.get? fullBase h = some b → b.length < 2 ^ 64 := full_short

/-- **`C04.history_old_roots_readable` applies**, for every version `i ≤ 5` and every key -/
theorem old_root_readable (i : Nat) (hi : i ≤ 5) (key : Bytes) :
    getD toyH fullBase (rootHash toyH (run (hist5.take i))) (nibs key) = .ok (spec (hist5.take i) key) := by
  have h := C04.history_old_roots_readable toyH toyH_len hist5 _ _ hist5_reach_np
  rw [← fullBase_def] at h
  exact h fullBase_blank fullBase_short i hi key

/-- version 2 and the final version differ on all three keys, and have different roots -/
theorem old_contents :
    spec (hist5.take 2) k1 = longV ∧ spec (hist5.take 2) k2 = [5] ∧ spec (hist5.take 2) k3 = [] ∧
    spec hist5 k1 = longW ∧ spec hist5 k2 = [] ∧ spec hist5 k3 = longV ∧
    rootHash toyH (run (hist5.take 2)) ≠ Tnp.root := np_eval.1

/-- **the old root returns the OLD values through the FINAL database**: the overwritten key gives `longV` (now `longW`), the
    deleted key gives `[5]` (now absent) -/
theorem old_root_witness :
    getD toyH fullBase (rootHash toyH (run (hist5.take 2))) (nibs k1) = .ok longV ∧
    getD toyH fullBase (rootHash toyH (run (hist5.take 2))) (nibs k2) = .ok [5] ∧
    getD toyH fullBase Tnp.root (nibs k1) = .ok longW ∧
    getD toyH fullBase Tnp.root (nibs k2) = .ok [] := by
  refine ⟨?_, ?_, ?_, ?_⟩
  · rw [old_root_readable 2 (by decide) k1, old_contents.1]
  · rw [old_root_readable 2 (by decide) k2, old_contents.2.1]
  · rw [np_eval.2.2, full_get k1, old_contents.2.2.2.1]
  · rw [np_eval.2.2, full_get k2, old_contents.2.2.2.2.1]

/-- cross-check: the four reads evaluated in the kernel (no theorem involved) -/
theorem old_root_eval :
    getOkB longV (getD toyH fullBase (rootHash toyH (run (hist5.take 2))) (nibs k1)) = true ∧
    getOkB [5] (getD toyH fullBase (rootHash toyH (run (hist5.take 2))) (nibs k2)) = true ∧
    getOkB longW (getD toyH fullBase Tnp.root (nibs k1)) = true ∧
    getOkB [] (getD toyH fullBase Tnp.root (nibs k2)) = true := np_eval.2.1

end PyTrie.Props.NonVacuity8
