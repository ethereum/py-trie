import PyTrie.Props.C09
/-! # C09 — termination of whole walks ("always terminates with the fog complete")

`C09.step_decreases` is the one-step statement: while no consulted version stores a key longer than `L` nibbles, a step
strictly decreases the measure `mu L fog`, which starts at `17^(L+1)`. Here it is composed over whole walks, at the three
levels at which walks are modelled: the abstract walk (`wrun`), the walk as callers write it with the `TrieFrontierCache`
(`crun`), and the raw-level walk over root hash + database + cache of raw bodies with the caller's retry (`crunDR`), the trie
being modified between steps. In every case

    number of steps taken + measure of the fog that is left ≤ 17^(L+1),

so no walk has more than `17^(L+1)` steps, and a walk loop `while not fog.is_complete: step(some unexplored prefix)` — which
by `raw_walk_never_stuck` can always take its next step — must reach the complete fog. (Termination under unboundedly many
ever-longer keys is false and not claimed: `L` bounds the keys of the versions consulted.) -/
namespace PyTrie.Props.C09
open PyTrie PyTrie.Hex PyTrie.HexD PyTrie.Fog PyTrie.Walk

theorem fog_length_le_mu (L : Nat) (f : Fog) : f.length ≤ mu L f :=
  length_le_mu L f

/-- **whole abstract walks are bounded** -/
theorem walk_length_bounded (L : Nat) (sched : List (Node × Path)) (s' : WState)
    (hcanon : ∀ e ∈ sched, Canon e.1) (hL : ∀ e ∈ sched, ∀ k, get e.1 k ≠ [] → k.length ≤ L)
    (hrun : wrun start sched = some s') :
    sched.length + mu L s'.fog ≤ 17 ^ (L + 1) := by
  have h := wrun_bound L sched start s' wf_init (mu_start L).2 hcanon hL hrun
  have h0 : mu L start.fog = 17 ^ (L + 1) := (mu_start L).1
  omega

/-- **whole walks with the frontier cache are bounded** (stale cache entries included: each concrete step is an abstract step
    on a version of the schedule) -/
theorem concrete_walk_length_bounded (L : Nat) (sched : List (Node × Path)) (s' : CState)
    (hcanon : ∀ e ∈ sched, Canon e.1) (hL : ∀ e ∈ sched, ∀ k, get e.1 k ≠ [] → k.length ≤ L)
    (hrun : crun cstart sched = some s') :
    sched.length + mu L s'.fog ≤ 17 ^ (L + 1) := by
  obtain ⟨sched', hlen, hmem, hr⟩ := crun_start_is_wrun sched s' hcanon hrun
  exact hlen ▸ walk_length_bounded L sched' (toW s') (forall_versions hmem (Q := Canon) hcanon)
    (forall_versions hmem (Q := fun t => ∀ k, get t k ≠ [] → k.length ≤ L) hL) hr

/-- **whole raw-level walks are bounded** — root hash and database as they are at each step, cache of raw bodies, retry on a
    stale entry; whatever state the run ends in -/
theorem raw_walk_length_bounded (H : Bytes → Bytes) (hlen : ∀ b, (H b).length = 32) (L : Nat) (sched : List StepT)
    (hok : SchedOk H sched) (hL : ∀ e ∈ sched, ∀ k, get e.t k ≠ [] → k.length ≤ L)
    (r : CStateD) (hrun : crunDR H cstartD (sched.map StepT.toD) = .ok (some r)) :
    sched.length + mu L r.fog ≤ 17 ^ (L + 1) ∧ sched.length + r.fog.length ≤ 17 ^ (L + 1) := by
  have h1 : sched.length + mu L r.fog ≤ 17 ^ (L + 1) := by
    rcases crunDR_is_wrun_len H hlen sched hok with hnone | ⟨s', hrun', sched', hlen', hmem, hwr⟩
    · rw [hnone] at hrun; cases hrun
    · rw [hrun'] at hrun
      cases hrun
      exact hlen' ▸ walk_length_bounded L sched' (toW s') (forall_versions hmem (Q := Canon) fun e he => (hok.1 e he).1)
        (forall_versions hmem (Q := fun t => ∀ k, get t k ≠ [] → k.length ≤ L) hL) hwr
  have h2 := fog_length_le_mu L r.fog
  exact ⟨h1, by omega⟩

/-- hence: a raw-level walk that has taken `17^(L+1)` steps has a complete fog (and no walk is longer) -/
theorem raw_walk_complete_at_bound (H : Bytes → Bytes) (hlen : ∀ b, (H b).length = 32) (L : Nat) (sched : List StepT)
    (hok : SchedOk H sched) (hL : ∀ e ∈ sched, ∀ k, get e.t k ≠ [] → k.length ≤ L)
    (r : CStateD) (hrun : crunDR H cstartD (sched.map StepT.toD) = .ok (some r)) :
    sched.length ≤ 17 ^ (L + 1) ∧ (sched.length = 17 ^ (L + 1) → r.fog = []) := by
  obtain ⟨_, h⟩ := raw_walk_length_bounded H hlen L sched hok hL r hrun
  refine ⟨by omega, fun he => ?_⟩
  have : r.fog.length = 0 := by omega
  exact List.length_eq_zero_iff.1 this

end PyTrie.Props.C09
