import PyTrie.Lemmas.WalkHistory
/-! # C09 — a fog-guided walk finds everything, even while the trie changes

The walk is modelled abstractly (`Lemmas/WalkProofs.lean`): a state is the fog plus the pairs met; a
step takes *any* unexplored prefix `p` (whatever query / key chose it) and the description of *some
version* `t` of the trie at `p` — the current version when traversing from the root, an older one
when a `TrieFrontierCache` entry is used: a cached parent is the node of an older version at a prefix
`q`, and `traverse_from(parent, seg)` = `traverse(q ++ seg)` in that version (`C08.traverse_from_eq`,
`C08.traverse_from_sim`) — uses the simulated node on `TraversedPartialPath` (`TravOut.desc`), and
records the sub-segments with `explore`. A schedule is an arbitrary list of such steps; mutations of
the trie between steps only determine which versions occur. -/
namespace PyTrie.Props.C09
open PyTrie PyTrie.Hex PyTrie.HexD PyTrie.HexW PyTrie.HexRaw PyTrie.HexFree PyTrie.Fog PyTrie.Walk
open PyTrie.Props.C01 (Op run spec)

/-- a step on an unexplored prefix is never rejected (`explore` accepts the sub-segments of every
    description) and keeps the fog well-formed -/
theorem step_defined (s : WState) (hw : Wf s.fog) (t : Node) (hc : Canon t) (p : Path) (hp : p ∈ s.fog) :
    ∃ s', wstep s t p = some s' ∧ Wf s'.fog := wstep_defined s hw t hc p hp

/-- **every key whose value stayed the same in all versions consulted is met with that value** once
    the fog is complete — for every exploration order and every interleaving with modifications -/
theorem finds_stable (sched : List (Node × Path)) (s' : WState)
    (hcanon : ∀ e ∈ sched, Canon e.1) (k : Path) (val : Bytes) (hval : val ≠ [])
    (hstable : ∀ e ∈ sched, get e.1 k = val)
    (hrun : wrun start sched = some s') (hdone : s'.fog = []) : (k, val) ∈ s'.met :=
  walk_finds_stable sched s' hcanon k val hval hstable hrun hdone

/-- during the walk: a stable key is already met or still lies under an unexplored prefix -/
theorem invariant (sched : List (Node × Path)) (s s' : WState) (hw : Wf s.fog)
    (hcanon : ∀ e ∈ sched, Canon e.1) (k : Path) (val : Bytes) (hval : val ≠ [])
    (hstable : ∀ e ∈ sched, get e.1 k = val)
    (hinv : (k, val) ∈ s.met ∨ ∃ q ∈ s.fog, q <+: k)
    (hrun : wrun s sched = some s') :
    (k, val) ∈ s'.met ∨ ∃ q ∈ s'.fog, q <+: k :=
  have _ := hw  -- well-formedness of the fog is not needed
  walk_invariant sched s s' hcanon k val hval hstable hinv hrun

/-- **nothing is met that was never stored** -/
theorem sound (sched : List (Node × Path)) (s' : WState)
    (hcanon : ∀ e ∈ sched, Canon e.1) (hrun : wrun start sched = some s') (k : Path) (v : Bytes)
    (hm : (k, v) ∈ s'.met) : ∃ e ∈ sched, v ≠ [] ∧ get e.1 k = v := by
  rcases walk_sound sched start s' hcanon hrun k v hm with h | h
  · simp [start] at h
  · exact h

/-- **on an unchanging trie the pairs met are exactly the contents** -/
theorem exact (t : Node) (hc : Canon t) (ps : List Path) (s' : WState)
    (hrun : wrun start (ps.map fun p => (t, p)) = some s') (hdone : s'.fog = []) (k : Path) (v : Bytes) :
    (k, v) ∈ s'.met ↔ v ≠ [] ∧ get t k = v := walk_exact t hc ps s' hrun hdone k v

/-- **termination**: while no consulted version stores a key longer than `L` nibbles, every step strictly
    decreases a measure that starts at `17^(L+1)`, so the fog is complete after at most that many steps
    whatever the order and the interleaving (termination under unboundedly many ever-longer
    modifications is false and not claimed) -/
theorem step_decreases (L : Nat) (s s' : WState) (hw : Wf s.fog) (hg : Grounded L s.fog) (t : Node) (hc : Canon t)
    (hL : ∀ k, get t k ≠ [] → k.length ≤ L) (p : Path) (hp : p ∈ s.fog) (h : wstep s t p = some s') :
    mu L s'.fog < mu L s.fog ∧ Grounded L s'.fog :=
  have _ := hp  -- follows from `h`: `explore` accepts unexplored prefixes only
  wstep_decreases L s s' hw hg t hc hL p h

theorem measure_start (L : Nat) : mu L Fog.init = 17 ^ (L + 1) ∧ Grounded L Fog.init := mu_start L

/-! ## The walk as callers write it, with the `TrieFrontierCache`

`Model/Walk.lean` transcribes the loop body (cache lookup → `traverse_from(cached parent, segment)` or
`traverse(prefix)` → simulated node on a partial path → `explore` → `cache.add` / `cache.delete`); the
correspondence check drives exactly these calls on the real objects. The cached parents are node objects of
*older* versions of the trie. -/

/-- a concrete step (cache hit or miss) is an abstract step on some version that occurred, and every cache entry
    keeps describing some version at its prefix -/
theorem concrete_step (versions : List Node) (t : Node) (ht : t ∈ versions) (hcv : ∀ v ∈ versions, Canon v)
    (s : CState) (hc : CacheOkV versions s.cache) (p : Path) (s' : CState) (h : cstep t s p = some s') :
    (∃ v ∈ versions, wstep (toW s) v p = some (toW s')) ∧ CacheOkV versions s'.cache :=
  cstep_is_wstep versions t ht (hcv t ht) s hc p s' h

/-- **the concrete walk with the cache finds every stable key**: `sched` lists the trie's current version and
    the chosen prefix at each step (any order, any interleaving with modifications, stale cache entries
    included); once the fog is complete every key that had the value `val` in all those versions has been met -/
theorem concrete_finds_stable (sched : List (Node × Path)) (s' : CState)
    (hcanon : ∀ e ∈ sched, Canon e.1) (k : Path) (val : Bytes) (hval : val ≠ [])
    (hstable : ∀ e ∈ sched, get e.1 k = val)
    (hrun : crun cstart sched = some s') (hdone : s'.fog = []) : (k, val) ∈ s'.met := by
  obtain ⟨sched', _, hmem, hr⟩ := crun_start_is_wrun sched s' hcanon hrun
  exact walk_finds_stable sched' (toW s') (forall_versions hmem (Q := Canon) hcanon) k val hval
    (forall_versions hmem (Q := (get · k = val)) hstable) hr hdone

/-- and it meets nothing that was never stored -/
theorem concrete_sound (sched : List (Node × Path)) (s' : CState)
    (hcanon : ∀ e ∈ sched, Canon e.1) (hrun : crun cstart sched = some s') (k : Path) (v : Bytes)
    (hm : (k, v) ∈ s'.met) : ∃ e ∈ sched, v ≠ [] ∧ get e.1 k = v := by
  obtain ⟨sched', _, hmem, hr⟩ := crun_start_is_wrun sched s' hcanon hrun
  obtain ⟨x, hx, hne, hg⟩ := sound sched' (toW s') (forall_versions hmem (Q := Canon) hcanon) hr k v hm
  obtain ⟨e0, he0, h0⟩ := hmem x hx
  exact ⟨e0, he0, hne, h0 ▸ hg⟩

/-! ## A stale cached parent over the current database (raw level)

What a `TrieFrontierCache` entry holds is a node object of an *older* version. `traverse_from(parent, segment)` reads the
children of that node from the database **as it is now**. Because nodes are addressed by the hash of their content, the
current database either still holds the body of each child it needs — then the result is what the older version says — or
it does not (pruned) — then `MissingTraversalNode` names the first absent one; it can never produce a description that
belongs to neither. `PartialD H db parent`: whatever `db` holds under the hash of a hashed subtree of `parent` is that
subtree's encoding (true of any database obtained from consistent writes and removals: `Free.partial_kept_by_*`). -/

theorem stale_parent_truthful (H : Bytes → Bytes) (hlen : ∀ b, (H b).length = 32) (db : Db) (parent : Node) (hc : Canon parent)
    (hst : PartialD H db parent) (seg : Path) (fuel : Nat) (hf : seg.length < fuel) :
    traverseOutD H db fuel (toItem H parent) seg =
      match firstMissingRead H db parent seg [] with
      | some (h, pre) => .error (.missing h pre)
      | none => .ok (TravOut.toD H (traverseOut parent seg)) :=
  traverseOutD_partial H hlen db parent hc hst seg fuel hf

/-! ## Every earlier version stays consistent with the current database

`ReachVersions H prune ops T s`: the executor's run of a history, with the run-level premises of `ReachOpsNC` and, in
addition, at every step: the step's writes agree with the nodes of every earlier version (no two different nodes among the
versions of the run share a hash). Then whatever the current database — pruned or not — holds under the hash of a node of
ANY earlier version is that node's encoding. With `stale_parent_truthful` (and `C07.raw_traverse_partial`,
`raw_get_partial`): reading an older version through the current database — a stale `TrieFrontierCache` parent, a node kept
from before a mutation, an old root — returns what that version says or reports the first missing node. -/

theorem earlier_versions_consistent (H : Bytes → Bytes) (prune : Bool) (ops : List Op) (T : TrieSt) (s : OpSt)
    (h : ReachVersions H prune ops T s) (i : Nat) (hi : i ≤ ops.length) :
    RootPartial H s.store.base (rootHash H (run (ops.take i))) (run (ops.take i)) ∧
    PartialD H s.store.base (run (ops.take i)) :=
  all_versions_consistent H prune ops T s h i hi

/-- one operation keeps any canonical tree consistent with the database, whatever trie it operates on and however it ends -/
theorem op_keeps_other_tree_consistent (H : Bytes → Bytes) (T : TrieSt) (key : Bytes) (val : Option Bytes) (s : OpSt)
    (t0 : Node) (hc0 : Canon t0) (root0 : Hash)
    (hp : RootPartial H s.store.base root0 t0 ∧ PartialD H s.store.base t0)
    (hag : WritesAgree H (opWrites (stdHashing H) T key val) t0) :
    RootPartial H (opSetDel (stdHashing H) (blankRoot H) T key val s).1.store.base root0 t0 ∧
    PartialD H (opSetDel (stdHashing H) (blankRoot H) T key val s).1.store.base t0 :=
  opSetDel_keeps_tree_consistent H T key val s t0 hc0 root0 hp hag

/-- **reading any earlier version through the current database**: `traverse` from the old root's node returns what that
    version says or `MissingTraversalNode` for the first absent node on the path -/
theorem old_version_read_truthful (H : Bytes → Bytes) (hlen : ∀ b, (H b).length = 32) (prune : Bool) (ops : List Op) (T : TrieSt)
    (s : OpSt) (h : ReachVersions H prune ops T s) (i : Nat) (hi : i ≤ ops.length) (p : Path) (fuel : Nat) (hf : p.length < fuel) :
    traverseOutD H s.store.base fuel (toItem H (run (ops.take i))) p =
      match firstMissingRead H s.store.base (run (ops.take i)) p [] with
      | some (h, pre) => .error (.missing h pre)
      | none => .ok (TravOut.toD H (traverseOut (run (ops.take i)) p)) :=
  traverseOutD_partial H hlen s.store.base (run (ops.take i)) (PyTrie.Props.C01.canon_run _)
    (all_versions_consistent H prune ops T s h i hi).2 p fuel hf

/-! ## The walk step at raw level

`Model/WalkD.lean`: the loop body over a root hash, the database as it is now, and a `TrieFrontierCache` of raw node
bodies — run against the code in every walk of the correspondence check, stale pruned parents included. `toCD` maps a
tree-level walk state to its raw image; `CacheOkD`: every cached parent is canonical and partially consistent with the
database (true along any run: `earlier_versions_consistent`). -/

/-- **the raw-level step is the tree-level step, or `MissingTraversalNode` for a node that really is absent** — so
    `concrete_finds_stable`, `concrete_sound` and the termination measure are statements about the raw-level loop body -/
theorem raw_step_refines (H : Bytes → Bytes) (hlen : ∀ b, (H b).length = 32) (db : Db) (root : Hash) (t : Node) (hc : Canon t)
    (hroot : RootPartial H db root t) (hst : PartialD H db t)
    (s : CState) (hcache : CacheOkD H db s.cache) (p : Path) :
    (∃ h pre, cstepD H db root (toCD H s) p = .error (.missing h pre) ∧ lookup db h = none) ∨
    cstepD H db root (toCD H s) p = .ok ((cstep t s p).map (toCD H)) :=
  cstepD_refines H hlen db root t hc hroot hst s hcache p

/-- the cache invariant of the raw level is kept by every successful step: the new entries are nodes of the current
    version or of a cached parent -/
theorem raw_cache_invariant (H : Bytes → Bytes) (db : Db) (t : Node) (hc : Canon t) (hst : PartialD H db t)
    (s : CState) (hcache : CacheOkD H db s.cache) (p : Path) (s' : CState) (h : cstep t s p = some s') :
    CacheOkD H db s'.cache := by
  refine Walk.cstep_cacheAll hcache h fun d hd _ _ => ?_
  obtain ⟨v, q, hv, e⟩ := iterOut_from (Q := fun n => Canon n ∧ PartialD H db n) ⟨hc, hst⟩ hcache p
  exact canon_partial_desc H db v hv.1 hv.2 q d (e ▸ hd)

/-- **one step with the caller's retry never raises** on a database complete for the current version, whatever stale
    parents the cache holds (`except MissingTraversalNode: cache.delete(prefix)` and again, from the root — `cstepDR`): it is
    the tree-level step, taken with the cache as it is or after dropping the entry for the prefix -/
theorem raw_step_with_retry (H : Bytes → Bytes) (hlen : ∀ b, (H b).length = 32) (db : Db) (root : Hash) (t : Node) (hc : Canon t)
    (hroot : RootPartial H db root t) (hrootIn : isBlank t = false → (lookup db root).isSome) (hst : StoredD H db t)
    (s : CState) (hcache : CacheOkD H db s.cache) (p : Path) :
    ∃ s0 : CState, (s0 = s ∨ s0 = { s with cache := Fog.Frontier.delete s.cache p }) ∧
      cstepDR H db root (toCD H s) p = .ok ((cstep t s0 p).map (toCD H)) :=
  cstepDR_complete H hlen db root t hc hroot hrootIn hst s hcache p

/-- **the whole walk at raw level** — root hash and database as they are at each step (the trie may be modified between
    steps, pruning on or off), `TrieFrontierCache` of raw bodies, the retry on a stale entry —: under `SchedOk` (each step's
    database is complete for the version current at that step and partially consistent with the earlier versions of the
    schedule, which is what `earlier_versions_consistent` provides along every executor history) it never raises; every
    met pair was stored in some version; and once the fog is complete every key that kept its value through all versions
    has been met with that value -/
theorem raw_walk_finds_stable_and_sound (H : Bytes → Bytes) (hlen : ∀ b, (H b).length = 32) (sched : List StepT)
    (hok : SchedOk H sched) :
    (crunDR H cstartD (sched.map StepT.toD) = .ok none) ∨
    ∃ s' : CState, crunDR H cstartD (sched.map StepT.toD) = .ok (some (toCD H s')) ∧
      (∀ k v, (k, v) ∈ s'.met → ∃ e ∈ sched, v ≠ [] ∧ get e.t k = v) ∧
      (s'.fog = [] → ∀ k val, val ≠ [] → (∀ e ∈ sched, get e.t k = val) → (k, val) ∈ s'.met) :=
  crunDR_is_tree_run H hlen sched hok

/-- **never stuck**: when every scheduled prefix is an unexplored prefix of the fog at that step (what `nearest_unknown` /
    `nearest_right` return), the whole raw-level walk runs to the end of the schedule — no step raises, `explore` accepts
    every description (real or simulated, from the current version or from a stale cached parent) -/
theorem raw_walk_never_stuck (H : Bytes → Bytes) (hlen : ∀ b, (H b).length = 32) (sched : List StepT)
    (hok : SchedOk H sched) (hfog : InFogRun H cstartD (sched.map StepT.toD)) :
    ∃ s' : CState, crunDR H cstartD (sched.map StepT.toD) = .ok (some (toCD H s')) :=
  crunDR_defined H hlen sched hok hfog

/-! ## The walk interleaved with an executor history, end to end

`WEv` = a `set`/`delete` call of the executor (pruning on or off) or a step of the walk; `schedOf` gives every step the
executor's database and root of that moment. The premise `SchedOk` is discharged from the run-level premise of the history. -/

/-- **a fog-guided walk over the executor's own databases** — modifications between the steps, pruning on or off, frontier
    cache with stale entries, retry from the root when a stale parent no longer resolves —: never raises; every met pair
    was held by the trie after some prefix of the history; once the fog is complete every key that had the same value at
    every step of the walk has been met with it -/
theorem walk_over_history (H : Bytes → Bytes) (hlen : ∀ b, (H b).length = 32) (prune : Bool) (evs : List WEv) (T : TrieSt)
    (s : OpSt) (h : ReachVersions H prune (opsOf evs) T s) :
    let sched := schedOf H (initT H prune) initS evs
    (crunDR H cstartD (sched.map StepT.toD) = .ok none) ∨
    ∃ s' : CState, crunDR H cstartD (sched.map StepT.toD) = .ok (some (toCD H s')) ∧
      (∀ k v, (k, v) ∈ s'.met → v ≠ [] ∧ ∃ i, i ≤ (opsOf evs).length ∧ get (run ((opsOf evs).take i)) k = v) ∧
      (s'.fog = [] → ∀ k val, val ≠ [] → (∀ e ∈ sched, get e.t k = val) → (k, val) ∈ s'.met) :=
  PyTrie.HexFree.walk_over_history H hlen prune evs T s h

/-- … and with every prefix taken from the fog of that moment it runs to the end of the schedule (no step rejected) -/
theorem walk_over_history_never_stuck (H : Bytes → Bytes) (hlen : ∀ b, (H b).length = 32) (prune : Bool) (evs : List WEv)
    (T : TrieSt) (s : OpSt) (h : ReachVersions H prune (opsOf evs) T s)
    (hfog : InFogRun H cstartD ((schedOf H (initT H prune) initS evs).map StepT.toD)) :
    ∃ s' : CState, crunDR H cstartD ((schedOf H (initT H prune) initS evs).map StepT.toD) = .ok (some (toCD H s')) :=
  PyTrie.HexFree.walk_over_history_never_stuck H hlen prune evs T s h hfog

end PyTrie.Props.C09
