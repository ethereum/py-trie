import PyTrie.Props.NonVacuity2
import PyTrie.Props.C12Refusals
/-! # Non-vacuity, part 13: a binary-trie history with refused calls in the middle -/
namespace PyTrie.Props.NonVacuity13
open PyTrie PyTrie.Bin PyTrie.Bin.BNode PyTrie.BinRaw
open PyTrie.Props.NonVacuity PyTrie.Props.NonVacuity2
open PyTrie.Props.C12 (Op run spec apply)
open PyTrie.Props.Raw (BinReachAll binRawRunAll acceptedFrom)

/-- the hypotheses of one `BinReachAll` step (accepted or refused), as a test -/
def stepAllB (H : Bytes → Bytes) (t : Option BNode) (o : Op) : Bool := !(o.key.isEmpty) && ncTopB H t o

def allB (H : Bytes → Bytes) : Option BNode → List Op → Bool
  | _, [] => true
  | t, o :: r => stepAllB H t o && allB H (C12.step t o) r

theorem reachAll_of_B (H : Bytes → Bytes) (pre : List Op) (t : Option BNode) (ops : List Op)
    (hr : BinReachAll H pre t) (h : allB H t ops = true) : BinReachAll H (pre ++ ops) (ops.foldl C12.step t) := by
  induction ops generalizing pre t with
  | nil => simpa using hr
  | cons o r ih =>
    simp only [allB, stepAllB, Bool.and_eq_true, Bool.not_eq_true', List.isEmpty_eq_false_iff] at h
    obtain ⟨⟨hk, hnc⟩, hrest⟩ := h
    have hstep : BinReachAll H (pre ++ [o]) (C12.step t o) := by
      unfold C12.step
      cases ha : apply t o with
      | ok t' => exact BinReachAll.ok pre t o t' hr hk ha (ncTop_of_B H t o hnc)
      | error e => exact BinReachAll.refused pre t o e hr hk ha (ncTop_of_B H t o hnc)
    have := ih (pre ++ [o]) (C12.step t o) hstep hrest
    simpa [List.append_assoc] using this

/-- two stored keys; a write to their common proper prefix `00` (refused); a write to an extension `00101` of a stored key
    (refused); an accepted write; a delete of an absent related key (accepted: a no-op) -/
def rops : List Op :=
  [.set [false, false, true, false] [0xaa], .set [false, false, true, true] [0xbb],
   .set [false, false] [0x01], .set [false, false, true, false, true] [0x02],
   .set [true] [0xdd], .delete [false, false]]

theorem rops_ok : allB mixH none rops = true := by decide +kernel

theorem rops_reach : BinReachAll mixH rops (run rops) := by
  have := reachAll_of_B mixH [] none rops BinReachAll.init rops_ok
  simpa [run] using this

/-- which calls were refused, by evaluation of the TREE level -/
theorem rops_accepted : acceptedFrom none rops = [true, true, false, false, true, true] := by decide +kernel

/-- **`Raw.bin_history_with_refusals` applies**: the raw-level run reports the same refusals and ends at the tree-level root -/
theorem refusals_witness :
    ∃ st, binRawRunAll mixH rops (mixH [], { db := [] }) = ([true, true, false, false, true, true], (rootOf mixH (run rops), st)) := by
  obtain ⟨st, h, _⟩ := Raw.bin_history_with_refusals mixH mixH_len rops _ rops_reach
  exact ⟨st, by rw [h, rops_accepted]⟩

/-- … and `get` over its database returns the map model with the prefix rule -/
theorem refusals_get_witness (k : Bits) :
    ∃ st, (binRawRunAll mixH rops (mixH [], { db := [] })).2 = (rootOf mixH (run rops), st) ∧
      bgetD (mixH []) st.db (k.length + 1) (rootOf mixH (run rops)) k = .ok (spec rops k) :=
  Raw.bin_history_with_refusals_get mixH mixH_len rops _ rops_reach k

end PyTrie.Props.NonVacuity13
