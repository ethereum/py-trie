import PyTrie.Lemmas.SdbProofs
/-! # C17 — ScratchDB buffers a batch and commits it atomically or not at all

`Sdb.*` transcribes `trie/utils/db.py`. A batch is any list of buffered writes and deletes on a fresh
ScratchDB over any pre-existing wrapped database `w`; reads and membership tests do not change the
state, so they may be interleaved anywhere (the theorems describe what they return after any prefix). -/
namespace PyTrie.Props.C17
open PyTrie PyTrie.Sdb
open PyTrie.HexW hiding NoDupKeys

/-- while the batch is open the wrapped database is never written -/
theorem wrapped_untouched (w : Dict Bytes) (acts : List Act) :
    (runActs { wrapped := w, cache := [] } acts).wrapped = w := Sdb.wrapped_untouched w acts

/-- reads see the latest buffered write; after a buffered delete (or no action) they read through -/
theorem read_latest (w : Dict Bytes) (acts : List Act) (k : Bytes) :
    getItem (runActs { wrapped := w, cache := [] } acts) k =
      match lastAct acts k with
      | some (some v) => some v
      | _ => Dict.get? w k := Sdb.read_latest w acts k

theorem contains_latest (w : Dict Bytes) (acts : List Act) (k : Bytes) :
    contains (runActs { wrapped := w, cache := [] } acts) k =
      match lastAct acts k with
      | some (some _) => true
      | _ => Dict.contains w k := Sdb.contains_latest w acts k

/-- normal exit: last-write-wins, deletes only if requested, untouched keys untouched, buffer empty -/
theorem commit_spec (w : Dict Bytes) (hw : NoDupKeys w) (acts : List Act) (dd : Bool) (k : Bytes) :
    let r := commit (runActs { wrapped := w, cache := [] } acts) dd none
    r.1 = true ∧ r.2.1.cache = [] ∧
    Dict.get? r.2.1.wrapped k =
      match lastAct acts k with
      | some (some v) => some v
      | some none => if dd then none else Dict.get? w k
      | none => Dict.get? w k := Sdb.commit_spec w hw acts dd k

/-- exceptional exit at any position: wrapped database exactly as it was, buffer empty -/
theorem abort_spec (w : Dict Bytes) (acts : List Act) :
    abort (runActs { wrapped := w, cache := [] } acts) = { wrapped := w, cache := [] } := Sdb.abort_spec w acts

/-- a commit whose n-th write fails: buffer empty, every binding afterwards is old or a buffered write -/
theorem commit_failure_spec (w : Dict Bytes) (acts : List Act) (dd : Bool) (n : Nat) :
    let r := commit (runActs { wrapped := w, cache := [] } acts) dd (some n)
    r.2.1.cache = [] ∧
    ∀ k v, Dict.get? r.2.1.wrapped k = some v → Dict.get? w k = some v ∨ lastAct acts k = some (some v) :=
  Sdb.commit_failure_spec w acts dd n

/-- non-vacuity: write, delete, rewrite, delete of a pre-existing key -/
example : (commit (runActs { wrapped := [([1], [9]), ([2], [8])], cache := [] }
    [.write [1] [7], .delete [1], .write [3] [5], .delete [2], .write [1] [6]]) true none).2.1.wrapped
    = [([1], [6]), ([3], [5])] := by decide

end PyTrie.Props.C17
