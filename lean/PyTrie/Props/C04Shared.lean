import PyTrie.Props.C04
import PyTrie.Props.C04History
import PyTrie.Lemmas.RawHistory
import PyTrie.Lemmas.SharedDb
import PyTrie.Lemmas.HistoryAux
/-! # C04 — several non-pruning tries over ONE database, whole interleaved histories

Events: a new empty non-pruning trie on the shared database (`HexaryTrie(db)`), a trie opened at a root some trie had before
(`HexaryTrie(db, root)` / `at_root(root)`), a `set` / `delete` on trie number `i`. `srun` applies them with the world
executor (`World.setDel`: all database traffic and root updates). `SGood` is the run-level premise: each `set` / `delete`
is addressed to an existing trie and its writes do not clobber a stored entry with another body (`NoClobber` — false only if
the run itself exhibits a hash collision), plus the reference-equality side conditions of `op_keeps_complete`.

Theorem: along every such history every call returns normally, changes only the trie it is addressed to (to the tree-level
result), preserves every database binding; afterwards the database is complete for EVERY trie and for EVERY root any trie
ever had, so the raw-level reader returns each trie's own contents and each old root's contents. -/
namespace PyTrie.Props.C04
open PyTrie PyTrie.Hex PyTrie.HexD PyTrie.HexW PyTrie.HexRaw

/-- events of a history over one shared database -/
inductive SEv where
  | newTrie
  | openAt (root : Hash)
  | op (i : Nat) (key : Bytes) (val : Option Bytes)

section
variable (H : Bytes → Bytes)

def sstep (w : World) : SEv → World
  | .newTrie => (w.newTrie (blankRoot H) false).1
  | .openAt r => match w.openAt (blankRoot H) r with
    | some (w', _) => w'
    | none => w
  | .op i k v => (w.setDel (stdHashing H) (blankRoot H) (.trie i) k v).2

def srun (w : World) (evs : List SEv) : World := evs.foldl (sstep H) w

/-- run-level premises of one event at world `w` -/
def SGoodEv (w : World) : SEv → Prop
  | .newTrie => True
  | .openAt _ => True
  | .op i k v =>
    i < w.tries.size ∧
    RefSound (stdHashing H) (w.tries[i]!).tree (nibs k) ∧
    (isBlank (opTree (stdHashing H) (w.tries[i]!) k v).1 = false →
      hashOf H (opTree (stdHashing H) (w.tries[i]!) k v).1 ≠ blankRoot H) ∧
    NoClobber w.base (opWrites (stdHashing H) (w.tries[i]!) k v)

/-- … of every event, along the run -/
def SGood : World → List SEv → Prop
  | _, [] => True
  | w, e :: rest => SGoodEv H w e ∧ SGood (sstep H w e) rest

/-- the tree-level effect of a call (`set k b""` is a delete, as in `HexaryTrie.set`) -/
def treeOp (t : Node) (k : Bytes) : Option Bytes → Node
  | some v => if v = [] then Hex.delete t (nibs k) else Hex.set t (nibs k) v
  | none => Hex.delete t (nibs k)

/-- the invariant of a shared database: no fault injected, no block open, every trie is non-pruning and canonical, the
    database is complete for every trie and for every recorded root -/
structure SInv (w : World) : Prop where
  fa : w.failAfter = none
  nb : w.batch = none
  csz : w.counts.size = w.tries.size
  tries : ∀ i, i < w.tries.size → (w.tries[i]!).prune = false ∧ Canon (w.tries[i]!).tree ∧
            Complete (stdHashing H) (blankRoot H) w.base (w.tries[i]!)
  roots : ∀ r t, (r, t) ∈ w.roots → Canon t ∧
            Complete (stdHashing H) (blankRoot H) w.base { tree := t, root := r, prune := false }

/-- the empty world satisfies the invariant -/
theorem sinv_empty : SInv H ({} : World) :=
  ⟨rfl, rfl, rfl, fun i hi => absurd hi (Nat.not_lt_zero i), fun r t h => by cases h⟩

private theorem canon_treeOp (t : Node) (k : Bytes) (v : Option Bytes) (hc : Canon t) : Canon (treeOp t k v) := by
  cases v with
  | none => exact canon_delete _ _ hc
  | some v =>
    simp only [treeOp]
    split
    · exact canon_delete _ _ hc
    · next hne => exact canon_set _ _ _ hne hc

/-- one more non-pruning canonical trie for which the database is complete -/
private theorem sinv_push (w : World) (hinv : SInv H w) (T : TrieSt) (hp : T.prune = false) (hc : Canon T.tree)
    (hcomp : Complete (stdHashing H) (blankRoot H) w.base T) :
    SInv H { w with tries := w.tries.push T, counts := w.counts.push [] } := by
  refine ⟨hinv.fa, hinv.nb, ?_, ?_, hinv.roots⟩
  · show (w.counts.push []).size = (w.tries.push T).size
    rw [Array.size_push, Array.size_push, hinv.csz]
  · intro j hj
    have hj' : j < w.tries.size + 1 := by simpa using hj
    show ((w.tries.push T)[j]!).prune = false ∧ Canon ((w.tries.push T)[j]!).tree ∧
      Complete (stdHashing H) (blankRoot H) w.base ((w.tries.push T)[j]!)
    rcases Nat.lt_succ_iff_lt_or_eq.1 hj' with hlt | rfl
    · rw [array_push_lt _ _ _ hlt]; exact hinv.tries j hlt
    · rw [array_push_last]; exact ⟨hp, hc, hcomp⟩

/-- a `set` / `delete` on trie `i`: everything `shared_step` and `shared_root_recorded` say about it -/
private theorem shared_op (w : World) (hinv : SInv H w) (i : Nat) (k : Bytes) (v : Option Bytes)
    (hg : SGoodEv H w (.op i k v)) :
    SInv H (sstep H w (.op i k v)) ∧ Preserved w.base (sstep H w (.op i k v)).base ∧
    (w.setDel (stdHashing H) (blankRoot H) (.trie i) k v).1 = .ok () ∧
    (sstep H w (.op i k v)).tries.size = w.tries.size ∧
    ((sstep H w (.op i k v)).tries[i]!).tree = treeOp (w.tries[i]!).tree k v ∧
    (∀ j, j ≠ i → (sstep H w (.op i k v)).tries[j]! = w.tries[j]!) ∧
    ∃ t, (((sstep H w (.op i k v)).tries[i]!).root, t) ∈ (sstep H w (.op i k v)).roots := by
  obtain ⟨hi, hrs, hbl, hnc⟩ := hg
  obtain ⟨hpr, hcan, hcomp⟩ := hinv.tries i hi
  obtain ⟨T', hok, htree, hpr', hpres', hcomp'⟩ := opSetDel_complete (stdHashing H) (blankRoot H) w.tries[i]! hpr hcan
    k v (w.opSt i) rfl hinv.fa hcomp hrs hnc hbl
  obtain ⟨hres, hbase, hfa, htries, hcounts, hbatch⟩ :=
    World.setDel_trie_ok (stdHashing H) (blankRoot H) w i k v T' hok
  obtain ⟨hroots, hrec⟩ := World.setDel_trie_ok_roots (stdHashing H) (blankRoot H) w i k v T' hok
  have hfa' := failAfter_none_preserved (stdHashing H) (blankRoot H) w.tries[i]! k v (w.opSt i) hinv.fa
  have htree' : T'.tree = treeOp (w.tries[i]!).tree k v := by cases v <;> exact htree
  simp only [sstep]
  generalize (w.setDel (stdHashing H) (blankRoot H) (.trie i) k v).2 = w' at hbase hfa htries hcounts hbatch hroots hrec ⊢
  have hpw : Preserved w.base w'.base := by rw [hbase]; exact hpres'
  have hti : w'.tries[i]! = T' := by rw [htries]; exact array_set!_self _ _ _ hi
  have hto : ∀ j, j ≠ i → w'.tries[j]! = w.tries[j]! := by
    intro j hj; rw [htries]; exact array_set!_other _ _ _ _ hj
  have hts : w'.tries.size = w.tries.size := by rw [htries]; exact array_set!_size _ _ _
  have hcw : Complete (stdHashing H) (blankRoot H) w'.base T' := by rw [hbase]; exact hcomp'
  have hcanT : Canon T'.tree := by rw [htree']; exact canon_treeOp _ k v hcan
  refine ⟨⟨hfa.trans hfa', hbatch.trans hinv.nb, ?_, ?_, ?_⟩, hpw, hres, hts, by rw [hti]; exact htree', hto,
    by rw [hti]; exact hrec⟩
  · rw [hcounts, htries, array_set!_size, array_set!_size]; exact hinv.csz
  · intro j hj
    rw [hts] at hj
    by_cases hji : j = i
    · subst hji
      rw [hti]; exact ⟨hpr', hcanT, hcw⟩
    · rw [hto j hji]
      obtain ⟨a, b, c⟩ := hinv.tries j hj
      exact ⟨a, b, complete_mono _ _ _ _ hpw _ c⟩
  · intro r t hrt
    rcases hroots _ hrt with hold | hnew
    · obtain ⟨a, b⟩ := hinv.roots r t hold
      exact ⟨a, complete_mono _ _ _ _ hpw _ b⟩
    · cases hnew
      exact ⟨hcanT, hpr' ▸ hcw⟩

/-- **one event keeps the invariant and every database binding**; a `set` / `delete` returns normally, moves trie `i` to
    the tree-level result and leaves every other trie as it was -/
theorem shared_step (w : World) (hinv : SInv H w) (e : SEv) (hg : SGoodEv H w e) :
    SInv H (sstep H w e) ∧ Preserved w.base (sstep H w e).base ∧
    (∀ i k v, e = .op i k v →
      (w.setDel (stdHashing H) (blankRoot H) (.trie i) k v).1 = .ok () ∧
      (sstep H w e).tries.size = w.tries.size ∧
      ((sstep H w e).tries[i]!).tree = treeOp (w.tries[i]!).tree k v ∧
      (∀ j, j ≠ i → (sstep H w e).tries[j]! = w.tries[j]!)) := by
  cases e with
  | newTrie =>
    refine ⟨?_, Preserved.refl _, fun i k v h => by cases h⟩
    exact sinv_push H w hinv _ rfl trivial (complete_blank _ _ _ _)
  | openAt r =>
    suffices h : SInv H (sstep H w (.openAt r)) ∧ Preserved w.base (sstep H w (.openAt r)).base from
      ⟨h.1, h.2, fun i k v h => by cases h⟩
    simp only [sstep]
    rcases World.openAt_cases (blankRoot H) w r with hn | ⟨t, hs, ht⟩
    · rw [hn]; exact ⟨hinv, Preserved.refl _⟩
    · rw [hs]
      refine ⟨?_, Preserved.refl _⟩
      rcases ht with ⟨hr, htb⟩ | hmem
      · subst hr htb
        exact sinv_push H w hinv _ rfl trivial (complete_blank _ _ _ _)
      · obtain ⟨a, b⟩ := hinv.roots r t hmem
        exact sinv_push H w hinv _ rfl a b
  | op i k v =>
    obtain ⟨h1, h2, h3, h4, h5, h6, _⟩ := shared_op H w hinv i k v hg
    refine ⟨h1, h2, ?_⟩
    intro i' k' v' he
    cases he
    exact ⟨h3, h4, h5, h6⟩

/-- **whole interleaved histories keep the invariant; nothing any intermediate database held is removed or altered** -/
theorem shared_history (evs : List SEv) (w : World) (hinv : SInv H w) (hg : SGood H w evs) :
    SInv H (srun H w evs) ∧ Preserved w.base (srun H w evs).base := by
  induction evs generalizing w with
  | nil => exact ⟨hinv, Preserved.refl _⟩
  | cons e rest ih =>
    obtain ⟨hg1, hg2⟩ := hg
    obtain ⟨h1, h2, _⟩ := shared_step H w hinv e hg1
    obtain ⟨i1, i2⟩ := ih (sstep H w e) h1 hg2
    exact ⟨i1, h2.trans i2⟩

/-- **every trie reads its own contents, every root any trie ever had reads the contents it had then** — through the
    raw-level reader (`get` over rlp-decoded nodes fetched from the shared database as it is at the end) -/
theorem shared_history_reads (hlen : ∀ b, (H b).length = 32) (evs : List SEv) (hg : SGood H ({} : World) evs)
    (hbk : Dict.get? (srun H {} evs).base (blankRoot H) = none)
    (hsm : ∀ h b, Dict.get? (srun H {} evs).base h = some b → b.length < 2 ^ 64) (key : Bytes) :
    (∀ i, i < (srun H {} evs).tries.size →
      getD H (srun H {} evs).base ((srun H {} evs).tries[i]!).root (nibs key) =
        .ok (Hex.get ((srun H {} evs).tries[i]!).tree (nibs key))) ∧
    (∀ r t, (r, t) ∈ (srun H {} evs).roots →
      getD H (srun H {} evs).base r (nibs key) = .ok (Hex.get t (nibs key))) := by
  obtain ⟨hinv, _⟩ := shared_history H evs {} (sinv_empty H) hg
  have hag : DbAgrees (srun H {} evs).base (srun H {} evs).base := fun _ => rfl
  refine ⟨fun i hi => ?_, fun r t hrt => ?_⟩
  · obtain ⟨_, hc, hcomp⟩ := hinv.tries i hi
    exact getD_of_complete H hlen _ hc _ hcomp hbk hsm _ hag (nibs key)
  · obtain ⟨hc, hcomp⟩ := hinv.roots r t hrt
    exact getD_of_complete H hlen { tree := t, root := r, prune := false } hc _ hcomp hbk hsm _ hag (nibs key)

/-- every root a trie has after one of its operations is recorded (so `shared_history_reads` covers it for good) -/
theorem shared_root_recorded (w : World) (hinv : SInv H w) (i : Nat) (k : Bytes) (v : Option Bytes)
    (hg : SGoodEv H w (.op i k v)) :
    ∃ t, (((sstep H w (.op i k v)).tries[i]!).root, t) ∈ (sstep H w (.op i k v)).roots :=
  (shared_op H w hinv i k v hg).2.2.2.2.2.2

end
end PyTrie.Props.C04
