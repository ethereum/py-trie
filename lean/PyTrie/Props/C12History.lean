import PyTrie.Props.RawLevel
import PyTrie.Props.C12
/-! # C12 — all earlier roots of a BinaryTrie remain readable from the same database, for every history

`binRawRun` threads `BinaryTrie._set` (raw level: node hashes and a database of encoded nodes, a write log) through a
history. The database is add-only (`Raw.bin_db_add_only`); here: after ANY history, reading at the root the trie had after
the first `i` calls — `BinaryTrie(db, old_root).get(k)` over the FINAL database — returns what was stored then.

Run-level premise besides `BinReach` (per-call no-collision facts): `FunctionalLog` — the final write log binds no hash to
two different bodies (false only if the run itself exhibits a hash collision between nodes of different versions). -/
namespace PyTrie.Props.Raw
open PyTrie PyTrie.Bin PyTrie.BinRaw
open PyTrie.Props.C12 (Op run spec)

/-- no hash is bound to two different bodies anywhere in the write log -/
def FunctionalLog (db : Db) : Prop := ∀ h b b', (h, b) ∈ db → (h, b') ∈ db → b = b'

private theorem rawSet_db_grows (H : Bytes → Bytes) (blank : Hash) (fuel : Nat) (st : St) (h : Hash) (k : Bits) (v : Bytes)
    (sub : Bool) (r : Hash) (st' : St) (hs : rawSet H blank fuel st h k v sub = .ok (r, st')) :
    ∃ added, st'.db = added ++ st.db := by
  have := BinRawT.rawSetT_db_suffix H blank fuel st h k v sub
  rwa [BinRawT.forget_eq_ok ((BinRawT.rawSetT_agrees H blank fuel st h k v sub).symm.trans hs)] at this

private theorem binRawRun_db_grows (H : Bytes → Bytes) (ops : List Op) (s s' : Hash × St)
    (h : binRawRun H ops s = .ok s') : ∃ added, s'.2.db = added ++ s.2.db := by
  induction ops generalizing s with
  | nil => cases h; exact ⟨[], rfl⟩
  | cons o rest ih =>
    simp only [binRawRun] at h
    split at h
    · cases h
    · next r1 st1 h1 =>
      obtain ⟨a1, ha1⟩ := rawSet_db_grows H _ _ _ _ _ _ _ _ _ h1
      obtain ⟨a2, ha2⟩ := ih _ h
      exact ⟨a2 ++ a1, by rw [ha2, List.append_assoc, ← ha1]⟩

private theorem mem_of_lookup {db : Db} {h : Hash} {b : Bytes} (hl : lookup db h = some b) : (h, b) ∈ db := by
  obtain ⟨⟨h', b'⟩, he, rfl⟩ := Option.map_eq_some_iff.1 hl
  have hh := List.find?_some he
  cases beq_iff_eq.1 hh
  exact List.mem_of_find?_eq_some he

private theorem lookup_append_functional (added old : Db) (hfun : FunctionalLog (added ++ old)) (h : Hash) (b : Bytes)
    (hl : lookup old h = some b) : lookup (added ++ old) h = some b := by
  have hm := List.mem_append_right added (mem_of_lookup hl)
  cases hf : lookup (added ++ old) h with
  | none =>
    have := List.find?_eq_none.1 (Option.map_eq_none_iff.1 hf) _ hm
    simp at this
  | some b' => rw [hfun h b' b (mem_of_lookup hf) hm]

/-- the history up to call `i` is itself a reachable history (prefix-closure of `BinReach`) -/
theorem bin_reach_prefix (H : Bytes → Bytes) (ops : List Op) (t : Option BNode) (h : BinReach H ops t) (i : Nat) :
    BinReach H (ops.take i) (run (ops.take i)) := by
  induction h with
  | init => simpa [run] using BinReach.init
  | step ops t o t' hr hk hap hnc ih =>
    by_cases hi : i ≤ ops.length
    · rw [List.take_append_of_le_length hi]
      exact ih
    · have hall : (ops ++ [o]).take i = ops ++ [o] := List.take_of_length_le (by simp; omega)
      rw [hall]
      have h' := BinReach.step ops t o t' hr hk hap hnc
      rw [← binReach_run H _ _ h']
      exact h'

/-- the write log of a prefix of the history is a suffix of the final write log -/
theorem bin_history_log_grows (H : Bytes → Bytes) (hlen : ∀ b, (H b).length = 32) (ops : List Op) (t : Option BNode)
    (h : BinReach H ops t) (i : Nat) :
    ∃ sti st added, binRawRun H (ops.take i) (H [], { db := [] }) = .ok (rootOf H (run (ops.take i)), sti) ∧
      binRawRun H ops (H [], { db := [] }) = .ok (rootOf H (run ops), st) ∧ st.db = added ++ sti.db := by
  obtain ⟨sti, hruni, _⟩ := binRawRun_refines H hlen _ _ (bin_reach_prefix H ops t h i)
  obtain ⟨st, hrun, _⟩ := binRawRun_refines H hlen ops t h
  rw [binReach_run H ops t h] at hrun
  have hsplit := binRawRun_append H (ops.take i) (ops.drop i) (H [], { db := [] })
  rw [List.take_append_drop, hrun, hruni] at hsplit
  obtain ⟨added, hadd⟩ := binRawRun_db_grows H _ _ _ hsplit.symm
  exact ⟨sti, st, added, hruni, hrun, hadd⟩

/-- **every earlier root stays fully readable**: `get` over the final database, started at the root the trie had after
    the first `i` calls, returns the map model's value of those `i` calls — for every key -/
theorem bin_history_old_roots_readable (H : Bytes → Bytes) (hlen : ∀ b, (H b).length = 32) (ops : List Op) (t : Option BNode)
    (h : BinReach H ops t) (st : St) (hrun : binRawRun H ops (H [], { db := [] }) = .ok (rootOf H (run ops), st))
    (hfun : FunctionalLog st.db) (i : Nat) (k : Bits) :
    bgetD (H []) st.db (k.length + 1) (rootOf H (run (ops.take i))) k = .ok (spec (ops.take i) k) := by
  have hp := bin_reach_prefix H ops t h i
  obtain ⟨sti, hruni, hsti⟩ := binRawRun_refines H hlen _ _ hp
  obtain ⟨sti', st', added, hruni', hrun', hadd⟩ := bin_history_log_grows H hlen ops t h i
  cases hruni.symm.trans hruni'
  cases hrun.symm.trans hrun'
  rw [← Props.C12.run_get _ (binReach_keys H _ _ hp) k]
  refine bgetD_allStored H hlen _ (binReach_canon H _ _ hp) st.db (fun n hn x hx => ?_) k
  have hx' := hsti n hn x hx
  exact ⟨hx'.1, hadd ▸ lookup_append_functional added sti.db (hadd ▸ hfun) _ _ hx'.2⟩

end PyTrie.Props.Raw
