import PyTrie.Lemmas.SmtProofs
/-! # C14 — SparseMerkleTree is a fixed-depth map whose root and branches always verify

`Smt.init/getAux/get/branch/set/delete/calcRoot` transcribe `trie/smt.py` at database level; the
database is the log of all writes. A history is any list of `set`/`delete` calls on keys of the
tree's size. `Functional db` (no hash bound to two bodies in the database) is the run-level
no-collision predicate; `H` is arbitrary with 32-byte output. -/
namespace PyTrie.Props.C14
open PyTrie PyTrie.Smt
open PyTrie.Bin (Bits)

inductive Op where
  | set (k : Bits) (v : Bytes)
  | delete (k : Bits)

def Op.key : Op → Bits
  | .set k _ => k
  | .delete k => k

variable (H : Bytes → Bytes)

def apply (t : Tree) : Op → Option (Tree × List Hash)
  | .set k v => Smt.set H t k v
  | .delete k => Smt.delete H t k

def step (t : Tree) (o : Op) : Tree :=
  match apply H t o with
  | some (t', _) => t'
  | none => t

def run (d : Nat) (dflt : Bytes) (ops : List Op) : Tree := ops.foldl (step H) (init H d dflt)

/-- the map model: last value written per key, the default for cleared / untouched keys -/
def specStep (dflt : Bytes) (f : Bits → Bytes) : Op → Bits → Bytes
  | .set k v => upd f k v
  | .delete k => upd f k dflt

def spec (dflt : Bytes) (ops : List Op) : Bits → Bytes := ops.foldl (specStep dflt) (fun _ => dflt)

def KeysSized (d : Nat) (ops : List Op) : Prop := ∀ o ∈ ops, o.key.length = d

/-- both operations are a `set` of some value at the operation's key -/
theorem apply_eq_set (t : Tree) (o : Op) :
    ∃ v, apply H t o = Smt.set H t o.key v ∧ ∀ f, specStep t.default f o = upd f o.key v := by
  cases o <;> exact ⟨_, rfl, fun _ => rfl⟩

theorem step_mono (t : Tree) (o : Op) :
    (step H t o).depth = t.depth ∧ (step H t o).default = t.default ∧ ∀ x ∈ t.db, x ∈ (step H t o).db := by
  obtain ⟨v, ha, _⟩ := apply_eq_set H t o
  unfold step
  rw [ha]
  cases h : Smt.set H t o.key v with
  | none => exact ⟨rfl, rfl, fun _ hx => hx⟩
  | some r => exact set_some H h

theorem functional_of_subset {db db' : Db} (hf : Functional db') (hs : ∀ x ∈ db, x ∈ db') : Functional db :=
  fun h b b' m1 m2 => hf h b b' (hs _ m1) (hs _ m2)

theorem step_rep (hlen : ∀ b, (H b).length = 32) (t : Tree) (f : Bits → Bytes) (hfun : Functional t.db)
    (hr : Rep H t.db t.depth t.root f) (o : Op) (hk : o.key.length = t.depth) :
    Rep H (step H t o).db t.depth (step H t o).root (specStep t.default f o) := by
  obtain ⟨v, ha, hs⟩ := apply_eq_set H t o
  obtain ⟨t', ups, h1, hd, -, -, h2, -⟩ := set_spec H hlen t f hfun hr o.key hk v
  rw [hs, step, ha, h1, ← hd]
  exact h2

theorem foldl_rel {σ τ ε : Type _} {g : σ → ε → σ} {g' : τ → ε → τ} {R : σ → τ → Prop} (es : List ε)
    (hstep : ∀ s v e, e ∈ es → R s v → R (g s e) (g' v e)) {s : σ} {v : τ} (h : R s v) :
    R (es.foldl g s) (es.foldl g' v) := by
  induction es generalizing s v with
  | nil => exact h
  | cons e es ih =>
    exact ih (fun s v x hx => hstep s v x (List.mem_cons_of_mem _ hx)) (hstep s v e List.mem_cons_self h)

/-- after any history the root resolves, through the database, to the full tree of the map model.
    The database only grows, so a functional database at the end was functional all along: the invariant
    of the fold is stated under that hypothesis on the current state. -/
theorem run_rep (hlen : ∀ b, (H b).length = 32) (d : Nat) (dflt : Bytes) (ops : List Op) (hk : KeysSized d ops)
    (hfun : Functional (run H d dflt ops).db) :
    Rep H (run H d dflt ops).db d (run H d dflt ops).root (spec dflt ops) := by
  have hi := init_rep H hlen d dflt
  refine (foldl_rel (R := fun (t : Tree) (f : Bits → Bytes) =>
    t.depth = d ∧ t.default = dflt ∧ (Functional t.db → Rep H t.db d t.root f))
    ops (fun t f o ho ⟨hd, hdf, hr⟩ => ?_) ⟨hi.2, rfl, fun _ => hi.1⟩).2.2 hfun
  obtain ⟨h1, h2, h3⟩ := step_mono H t o
  refine ⟨h1.trans hd, h2.trans hdf, fun hfun => ?_⟩
  have hfun0 := functional_of_subset hfun h3
  subst hd hdf
  exact step_rep H hlen t f hfun0 (hr hfun0) o (hk o ho)

/-- **the root is the Merkle root of the full depth-`d` tree of the current contents** — for every
    `H`, hence independent of the history -/
theorem root_is_merkle_root (hlen : ∀ b, (H b).length = 32) (d : Nat) (dflt : Bytes) (ops : List Op)
    (hk : KeysSized d ops) (hfun : Functional (run H d dflt ops).db) :
    (run H d dflt ops).root = merkleRoot H d (spec dflt ops) :=
  rep_root H _ d _ _ (run_rep H hlen d dflt ops hk hfun)

theorem root_history_independent (hlen : ∀ b, (H b).length = 32) (d : Nat) (dflt : Bytes) (ops₁ ops₂ : List Op)
    (h₁ : KeysSized d ops₁) (h₂ : KeysSized d ops₂)
    (f₁ : Functional (run H d dflt ops₁).db) (f₂ : Functional (run H d dflt ops₂).db)
    (h : spec dflt ops₁ = spec dflt ops₂) : (run H d dflt ops₁).root = (run H d dflt ops₂).root := by
  rw [root_is_merkle_root H hlen d dflt ops₁ h₁ f₁, root_is_merkle_root H hlen d dflt ops₂ h₂ f₂, h]

/-- once everything is cleared the root is the initial root again -/
theorem cleared_root_is_initial (hlen : ∀ b, (H b).length = 32) (d : Nat) (dflt : Bytes) (ops : List Op)
    (hk : KeysSized d ops) (hfun : Functional (run H d dflt ops).db) (h : spec dflt ops = fun _ => dflt) :
    (run H d dflt ops).root = (init H d dflt).root := by
  rw [root_is_merkle_root H hlen d dflt ops hk hfun, h]
  exact (rep_root H _ d _ _ (init_rep H hlen d dflt).1).symm

/-- **reads**: `get` returns the last value written (the default for cleared keys); a blank value reads
    as absent (`KeyError`) -/
theorem get_spec (hlen : ∀ b, (H b).length = 32) (d : Nat) (dflt : Bytes) (ops : List Op) (hk : KeysSized d ops)
    (hfun : Functional (run H d dflt ops).db) (key : Bits) (hkey : key.length = d) :
    Smt.get (run H d dflt ops) key =
      if spec dflt ops key = [] then .error .keyError else .ok (spec dflt ops key) := by
  exact get_of_rep H _ hfun d _ (run_rep H hlen d dflt ops hk hfun) key hkey

/-- **branches verify**: for every readable key `calc_root(key, value, branch(key))` is the root -/
theorem branch_verifies (hlen : ∀ b, (H b).length = 32) (d : Nat) (dflt : Bytes) (ops : List Op) (hk : KeysSized d ops)
    (hfun : Functional (run H d dflt ops).db) (key : Bits) (hkey : key.length = d) (br : List Hash)
    (hb : Smt.branch (run H d dflt ops) key = .ok br) :
    calcRoot H key (spec dflt ops key) br = (run H d dflt ops).root := by
  simp only [Smt.branch, getAux_of_rep H _ hfun d _ _ (run_rep H hlen d dflt ops hk hfun) key hkey] at hb
  split at hb <;> cases hb
  rw [calcRoot_siblings H d _ key hkey, root_is_merkle_root H hlen d dflt ops hk hfun]

/-- `set` / `delete` return the hashes of the updated path, root → leaf -/
theorem set_returns_path (hlen : ∀ b, (H b).length = 32) (t : Tree) (f : Bits → Bytes)
    (hfun : Functional t.db) (hr : Rep H t.db t.depth t.root f) (key : Bits) (hk : key.length = t.depth)
    (value : Bytes) :
    ∃ t' ups, Smt.set H t key value = some (t', ups) ∧ ups = pathHashes H t.depth (upd f key value) key := by
  obtain ⟨t', ups, h1, -, -, -, -, h3⟩ := set_spec H hlen t f hfun hr key hk value
  exact ⟨t', ups, h1, h3⟩

/-- `from_db` over the same database and root reads identically: reading depends on `db`, `root`, `depth` only -/
theorem from_db_same (t : Tree) (dflt' : Bytes) (key : Bits) :
    Smt.get { t with default := dflt' } key = Smt.get t key := rfl

end PyTrie.Props.C14
