import PyTrie.Props.NonVacuity11
import PyTrie.Props.HistoryFailOp
/-! # Non-vacuity, part 15: a history with a direct call cut short by a refused database write (C04)

Checker for `Free.GoodG`, a non-pruning history — a write; `set k2 longW` whose SECOND database write is refused (its first
write, the new leaf, stays behind as an unreachable entry); a failing commit; a write — that passes it, and
`Free.history_fail_op_world` and `_lockstep` applied to it. -/
namespace PyTrie.Props.NonVacuity15
open PyTrie PyTrie.Hex PyTrie.Hex.Node PyTrie.HexD
open PyTrie.Props.NonVacuity PyTrie.Props.NonVacuity2 PyTrie.Props.NonVacuity4 PyTrie.Props.NonVacuity5 PyTrie.Props.NonVacuity11
open PyTrie.HexW PyTrie.HexRaw PyTrie.HexFree
open PyTrie.Props.C01 (Op run spec)
open PyTrie.Props.Free (HStepF HStepG stepWG stepFG runWG runFG GoodG flattenStepsG)

section Checker
variable (H : Bytes → Bytes)

def goodGB : World → List HStepG → Bool
  | _, [] => true
  | w, .step s :: rest => goodFB H w [s] && goodGB (stepWG H w (.step s)).2 rest
  | w, .failOp k v n :: rest =>
    refSoundB (stdHashing H) (w.tries[0]!).tree (nibs k) &&
    noClobberB w.base (opWrites (stdHashing H) (w.tries[0]!) k v) &&
    (Dict.get? w.base (blankRoot H)).isNone &&
    w.base.all (fun e => decide (e.2.length < 2 ^ 64)) &&
    failedB (({ w with failAfter := some n } : World).setDel (stdHashing H) (blankRoot H) (.trie 0) k v).1 &&
    goodGB (stepWG H w (.failOp k v n)).2 rest

theorem goodG_of_B (w : World) (steps : List HStepG) (h : goodGB H w steps = true) : GoodG H w steps := by
  induction steps generalizing w with
  | nil => trivial
  | cons s rest ih =>
    cases s with
    | step s =>
      simp only [goodGB, Bool.and_eq_true] at h
      exact ⟨goodF_of_B H w [s] h.1, ih _ h.2⟩
    | failOp k v n =>
      simp only [goodGB, Bool.and_eq_true, Option.isNone_iff_eq_none] at h
      obtain ⟨⟨⟨⟨⟨h1, h2⟩, h3⟩, h4⟩, h5⟩, h6⟩ := h
      exact ⟨refSound_of_B _ _ _ h1, noClobber_of_B _ _ h2, h3, bodies_short _ _ h4, failed_of_B _ h5, ih _ h6⟩

end Checker

def gsteps : List HStepG :=
  [.step (.step (.op k1 (some longV))),
   .failOp k2 (some longW) 1,
   .step (.failBlock [(k3, some longV)] 0),
   .step (.step (.op k2 (some [5])))]

theorem gsteps_good_B : goodGB toyH (freshW toyH false) gsteps = true := by decide +kernel

theorem gsteps_good : GoodG toyH (freshW toyH false) gsteps := goodG_of_B toyH _ gsteps gsteps_good_B

theorem gflat : flattenStepsG gsteps = [.set k1 longV, .set k2 [5]] := rfl

/-! **`Free.history_fail_op_world` / `_lockstep` apply** -/

theorem world_witness :
    ((runWG toyH (freshW toyH false) gsteps).2.tries[0]!).tree = run (flattenStepsG gsteps) ∧
    Complete (stdHashing toyH) (blankRoot toyH) (runWG toyH (freshW toyH false) gsteps).2.base
      ((runWG toyH (freshW toyH false) gsteps).2.tries[0]!) :=
  (Free.history_fail_op_world toyH gsteps gsteps_good).2

theorem lockstep_witness :
    (runFG toyH (FWorld.init toyH false) gsteps).1 = (runWG toyH (freshW toyH false) gsteps).1 ∧
    Sim (runFG toyH (FWorld.init toyH false) gsteps).2 (runWG toyH (freshW toyH false) gsteps).2 :=
  Free.history_fail_op_lockstep toyH toyH_len gsteps gsteps_good

/-- by evaluation: the second outcome, the refused write, is not ok (that it is `WriteFailed` is part of `gsteps_good`,
    through `failedB`); it left exactly one entry behind (1 → 2 entries: the refused
    call wrote one node before it was stopped), the root did not move -/
theorem evaluated :
    (runFG toyH (FWorld.init toyH false) gsteps).1.map okB' = [true, false, true, false, true] ∧
    (runFG toyH (FWorld.init toyH false) (gsteps.take 1)).2.base.length + 1 =
      (runFG toyH (FWorld.init toyH false) (gsteps.take 2)).2.base.length ∧
    (runFG toyH (FWorld.init toyH false) (gsteps.take 1)).2.outer.root =
      (runFG toyH (FWorld.init toyH false) (gsteps.take 2)).2.outer.root := by
  decide +kernel

end PyTrie.Props.NonVacuity15
