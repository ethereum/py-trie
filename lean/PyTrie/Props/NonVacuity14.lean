import PyTrie.Props.NonVacuity
import PyTrie.Props.C14Rollback
/-! # Non-vacuity, part 14: a sparse-Merkle-tree history with rollbacks of `root_hash` (C14)

A depth-2 tree under the toy hash `mixH`; two writes, `root_hash` set back to the root after the first write, a write of the
key written last (a write on a rolled-back tree, whose last write belongs to an abandoned version), `root_hash` set back again,
to the very first root. `rollback_history_get` / `rollback_history_rep` apply. -/
namespace PyTrie.Props.NonVacuity14
open PyTrie PyTrie.Smt PyTrie.Props.C14
open PyTrie.Bin (Bits)
open PyTrie.Props.NonVacuity (mixH mixH_len functional_of_B)

def revs : List REv :=
  [.op (.set [false, true] [7]), .op (.set [true, true] [8]), .rollback 1, .op (.set [true, true] [9]), .rollback 0]

example : (rspecs [] revs).length = 6 := (rrun_lengths mixH 2 [] revs).2

theorem revs_sized : REvKeysSized 2 revs := by
  intro o ho
  simp only [revs, List.mem_cons, REv.op.injEq, List.mem_nil_iff, or_false] at ho
  rcases ho with rfl | rfl | h | rfl | h
  · rfl
  · rfl
  · cases h
  · rfl
  · cases h

theorem revs_functional : Functional (rrun mixH 2 [] revs).1.db := functional_of_B _ (by decide +kernel)

/-- **`rollback_history_get` applies**: after the second rollback the tree reads the FIRST version (everything default) -/
theorem rollback_witness (key : Bits) (hkey : key.length = 2) :
    Smt.get (rrun mixH 2 [] revs).1 key =
      if (rspecs [] revs).getLastD (fun _ => []) key = [] then .error .keyError
      else .ok ((rspecs [] revs).getLastD (fun _ => []) key) :=
  rollback_history_get mixH mixH_len 2 [] revs revs_sized revs_functional key hkey

/-- **`rollback_history_rep` applies at every version**; version 4 (after `rollback 1; set 11 := 09`) holds `01 ↦ 07`,
    `11 ↦ 09` and NOT the abandoned `11 ↦ 08` -/
theorem rollback_versions_witness (j : Nat) (hj : j ≤ 5) :
    Rep mixH (rrun mixH 2 [] revs).1.db 2 ((rrun mixH 2 [] revs).2.getD j []) ((rspecs [] revs).getD j (fun _ => [])) :=
  rollback_history_rep mixH mixH_len 2 [] revs revs_sized revs_functional j hj

example : ((rspecs [] revs).getD 4 (fun _ => [])) [true, true] = [9] ∧ ((rspecs [] revs).getD 4 (fun _ => [])) [false, true] = [7] ∧
    ((rspecs [] revs).getD 2 (fun _ => [])) [true, true] = [8] ∧ ((rspecs [] revs).getD 5 (fun _ => [])) [false, true] = [] := by
  decide +kernel

end PyTrie.Props.NonVacuity14
