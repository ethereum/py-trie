import PyTrie.Lemmas.FreeHistory
import PyTrie.Lemmas.PartialInvCex
/-! # The tree-free executor (C01, C04, C06, C07 over a transcription with no tree)

`Model/HexFree.lean` is `HexaryTrie.set` / `delete` / `get` as the code runs them: the trie is a root hash and a `prune`
flag over a database; the raw-level `_set` / `_delete` (raw nodes fetched from the database) produce the node to store
and the events; `_prune_on_success`, `_prune_node`, `_set_db_value`, `_set_root_node`, `_complete_pruning` apply them.
It is run against the code after every direct operation of every hexary history of the correspondence checks (outcome,
root, full database, reference counts). Here: it computes what the tree-carrying executor of `Model/HexWorld.lean`
computes, so the theorems proved about that executor are theorems about this transcription. -/
namespace PyTrie.Props.Free
open PyTrie PyTrie.Hex PyTrie.HexD PyTrie.HexW PyTrie.HexRaw PyTrie.HexFree
open PyTrie.Props.C01 (Op run spec)

/-- one `set` / `delete`, pruning on or off, on any database that is complete for the trie's root: same exit state, same
    new root, same exception — with no run-level hypothesis (only: the blank-root hash is not a key, no body has 2^64 bytes) -/
theorem op_is_executor_op (H : Bytes → Bytes) (hlen : ∀ b, (H b).length = 32) (T : TrieSt) (hc : Canon T.tree) (key : Bytes)
    (val : Option Bytes) (s : OpSt) (hcache : s.store.cache = none) (hfa : s.store.failAfter = none)
    (hcomp : Complete (stdHashing H) (blankRoot H) s.store.base T)
    (hbk : Dict.get? s.store.base (blankRoot H) = none)
    (hsm : ∀ h b, Dict.get? s.store.base h = some b → b.length < 2 ^ 64) :
    freeSetDel H (toFree T) key val s =
      ((opSetDel (stdHashing H) (blankRoot H) T key val s).1,
       match (opSetDel (stdHashing H) (blankRoot H) T key val s).2 with
       | .ok T' => .ok (toFree T')
       | .error e => .error e) := by
  have _ := hfa
  rw [← storeDb_plain hcache] at hcomp hbk hsm
  exact freeSetDel_of_complete H hlen T hc key val s (Store.cacheNoDup_plain _ hcache) hcomp hbk hsm

/-- `ReachFree` is `ReachOpsNC` plus the two physical side conditions at every state -/
theorem reach_free_is_reach (H : Bytes → Bytes) (prune : Bool) (ops : List Op) (T : TrieSt) (s : OpSt) (h : ReachFree H prune ops T s) :
    ReachOpsNC (stdHashing H) (blankRoot H) prune ops T s := by
  induction h with
  | init => exact ReachOpsNC.init
  | step ops T s o T' _ hrs hbl hnc _ _ hok ih => exact ReachOpsNC.step ops T s o T' ih hrs hbl hnc hok

/-- whole histories: the tree-free run reaches exactly the executor's state (database, reference counts) and root -/
theorem run_is_executor_run (H : Bytes → Bytes) (hlen : ∀ b, (H b).length = 32) (prune : Bool) (ops : List Op) (T : TrieSt) (s : OpSt)
    (h : ReachFree H prune ops T s) :
    freeRun H prune (ops.map fun o => (opKey o, opVal o))
      (⟨blankRoot H, prune⟩, { store := { base := [], cache := none, failAfter := none }, counts := [], pending := [] }) =
      .ok (toFree T, s) := by
  induction h with
  | init => rfl
  | step ops T s o T' hreach hrs hbl hnc hbk hsm hok ih =>
    have hnc' := reach_free_is_reach H prune ops T s hreach
    obtain ⟨htree, _, hcache, _, _⟩ := reachOps_inv _ _ prune ops T s (reachOpsNC_reachOps _ _ prune ops T s hnc')
    have hcanon : Canon T.tree := htree ▸ PyTrie.Props.C01.canon_run ops
    have hcomp := reachOpsNC_complete _ _ prune ops T s hnc'
    rw [← storeDb_plain hcache] at hcomp hbk hsm
    have hone := freeSetDel_of_complete H hlen T hcanon (opKey o) (opVal o) s (Store.cacheNoDup_plain _ hcache)
      hcomp hbk hsm
    rw [hok] at hone
    simp only [List.map_append, List.map_cons, List.map_nil]
    rw [freeRun_snoc H prune _ (opKey o) (opVal o) _ _ _ ih, hone]

/-- **C01 / C06 for the tree-free executor**: after any history, pruning on or off, its `get` (the raw-level reader over
    its database) returns the last value stored under the key, `b""` if none -/
theorem run_get (H : Bytes → Bytes) (hlen : ∀ b, (H b).length = 32) (prune : Bool) (ops : List Op) (T : TrieSt) (s : OpSt)
    (h : ReachFree H prune ops T s)
    (hbk : Dict.get? s.store.base (blankRoot H) = none)
    (hsm : ∀ h b, Dict.get? s.store.base h = some b → b.length < 2 ^ 64) (key : Bytes) :
    freeGet H (toFree T) key s = .ok (spec ops key) := by
  have hnc := reach_free_is_reach H prune ops T s h
  have hcache : s.store.cache = none :=
    (reachOps_inv _ _ prune ops T s (reachOpsNC_reachOps _ _ prune ops T s hnc)).2.2.1
  unfold freeGet
  rw [storeDb_plain hcache]
  exact (pruned_db_get H hlen prune ops T s hnc hbk hsm key) ▸ rfl

/-- **C06 for the tree-free executor**: after any history on a pruning trie its reference counts are the true reference
    counts and its database holds exactly the live nodes, each with its encoding -/
theorem run_pruning_exact (H : Bytes → Bytes) (hlen : ∀ b, (H b).length = 32) (ops : List Op) (T : TrieSt) (s : OpSt)
    (h : ReachFree H true ops T s) :
    freeRun H true (ops.map fun o => (opKey o, opVal o))
      (⟨blankRoot H, true⟩, { store := { base := [], cache := none, failAfter := none }, counts := [], pending := [] }) =
      .ok (toFree T, s) ∧
    (∀ x, s.counts.val x = occRoot (stdHashing H) (run ops) x) ∧
    (∀ x, Dict.contains s.store.base x = true ↔ 0 < occRoot (stdHashing H) (run ops) x) ∧
    Complete (stdHashing H) (blankRoot H) s.store.base T := by
  have hnc := reach_free_is_reach H true ops T s h
  have hr := reachOpsNC_reachOps _ _ true ops T s hnc
  obtain ⟨htree, _, _, _, hdb⟩ := reachOps_inv _ _ true ops T s hr
  simp only [if_true] at hdb
  refine ⟨run_is_executor_run H hlen true ops T s h, ?_, ?_, reachOpsNC_complete _ _ true ops T s hnc⟩
  · intro x; rw [← htree]; exact hdb.counts x
  · intro x; rw [← htree]; exact hdb.keys x

/-! ## The tree-free executor on incomplete databases (C07) -/

/-- on ANY partial database (whatever is stored under a node's hash is its encoding) the tree-free `set` / `delete`
    returns the exit state, root and exception of the tree-carrying executor — pruning on or off -/
theorem op_partial (H : Bytes → Bytes) (hlen : ∀ b, (H b).length = 32) (T : TrieSt) (hc : Canon T.tree) (key : Bytes)
    (val : Option Bytes) (s : OpSt) (hcache : s.store.cache = none)
    (hroot : RootPartial H s.store.base T.root T.tree) (hst : PartialD H s.store.base T.tree) :
    freeSetDel H (toFree T) key val s =
      ((opSetDel (stdHashing H) (blankRoot H) T key val s).1,
       match (opSetDel (stdHashing H) (blankRoot H) T key val s).2 with
       | .ok T' => .ok (toFree T')
       | .error e => .error e) := by
  rw [← storeDb_plain hcache] at hroot hst
  exact freeSetDel_eq_opSetDel H hlen T hc key val s (Store.cacheNoDup_plain _ hcache) hroot hst

/-- **a tree-free `set` / `delete` that raises `MissingTrieNode`**: the whole store (database, failure counter) and the
    reference counts are what they were, no pending prune mark is left, the hash it names is absent and is the root's, a
    hashed subtree on the key's path, or the sibling a delete must read to collapse a branch -/
theorem op_missing_atomic (H : Bytes → Bytes) (hlen : ∀ b, (H b).length = 32) (T : TrieSt) (hc : Canon T.tree) (key : Bytes)
    (val : Option Bytes) (s : OpSt) (hcache : s.store.cache = none)
    (hroot : RootPartial H s.store.base T.root T.tree) (hst : PartialD H s.store.base T.tree)
    (hrs : RefSound (stdHashing H) T.tree (nibs key))
    (h root rk : Bytes) (pre : Option Path)
    (he : (freeSetDel H (toFree T) key val s).2 = .error (.missingTrieNode h root rk pre)) :
    (freeSetDel H (toFree T) key val s).1.store = s.store ∧ (freeSetDel H (toFree T) key val s).1.counts = s.counts ∧
    (freeSetDel H (toFree T) key val s).1.pending = [] ∧
    s.store.contains h = false ∧
    (h = T.root ∨ OnPath (stdHashing H) T.tree (nibs key) h ∨ SiblingOnPath (stdHashing H) T.tree (nibs key) h) := by
  have _ := hrs
  rw [← storeDb_plain hcache] at hroot hst
  exact freeSetDel_missing_atomic H hlen T hc key val s (Store.cacheNoDup_plain _ hcache) hroot hst h root rk pre he

/-! ## The tree-free executor over a `ScratchDB`, and the tree-free world in lockstep with the tree-carrying one (C05)

`storeDb st` is what a trie can read through its database object (the buffered writes of a `ScratchDB` in front of the
wrapped dict; a buffered *delete* reads through). `FWorld` is `squash_changes` without trees. `Sim fw w`: same database,
one outer trie with the same root / prune flag / counts, the same open block (cache, batch root, batch counts). Two
subtleties: the view only agrees with `ScratchDB.__contains__` / `__getitem__` when the cache has unique keys (true of
every cache built by writes; `CacheNoDup`, preserved by every executor step: `Lemmas/CacheNoDupPres.lean`), and the world
must *have* a counts slot for its trie. -/

/-- one `set` / `delete` over any store — plain dict or `ScratchDB` — whose view is complete for the trie's root -/
theorem op_is_executor_op_view (H : Bytes → Bytes) (hlen : ∀ b, (H b).length = 32) (T : TrieSt) (hc : Canon T.tree) (key : Bytes)
    (val : Option Bytes) (s : OpSt) (hnd : s.store.CacheNoDup)
    (hcomp : Complete (stdHashing H) (blankRoot H) (storeDb s.store) T)
    (hbk : Dict.get? (storeDb s.store) (blankRoot H) = none)
    (hsm : ∀ h b, Dict.get? (storeDb s.store) h = some b → b.length < 2 ^ 64) :
    freeSetDel H (toFree T) key val s =
      ((opSetDel (stdHashing H) (blankRoot H) T key val s).1,
       match (opSetDel (stdHashing H) (blankRoot H) T key val s).2 with
       | .ok T' => .ok (toFree T')
       | .error e => .error e) :=
  freeSetDel_of_complete H hlen T hc key val s hnd hcomp hbk hsm

/-- reading through the database object is looking up the view (unique cache keys) — and not otherwise -/
theorem view_is_what_is_read (st : Store) (hnd : st.CacheNoDup) (h : Hash) : lookup (storeDb st) h = st.get? h :=
  lookup_storeDb st h hnd

/-- entering a block keeps the two worlds in step -/
theorem lockstep_begin (fw : FWorld) (w : World) (h : Sim fw w) (hb : w.batch = none) : Sim fw.batchBegin (w.batchBegin 0) :=
  sim_batchBegin fw w h hb

/-- leaving a block — normally, by an exception, or with a failing commit — gives the same outcome and keeps them in step -/
theorem lockstep_end (fw : FWorld) (w : World) (h : Sim fw w) (raised : Bool) :
    (fw.batchEnd raised).1 = (w.batchEnd raised).1 ∧ Sim (fw.batchEnd raised).2 (w.batchEnd raised).2 :=
  sim_batchEnd fw w h raised

/-- an operation on the outer trie keeps them in step (same outcome / exception) -/
theorem lockstep_op_outer (H : Bytes → Bytes) (hlen : ∀ b, (H b).length = 32) (fw : FWorld) (w : World) (h : Sim fw w) (key : Bytes)
    (val : Option Bytes) (hc : Canon w.tries[0]!.tree)
    (hcomp : Complete (stdHashing H) (blankRoot H) (storeDb (w.opSt 0).store) w.tries[0]!)
    (hbk : Dict.get? (storeDb (w.opSt 0).store) (blankRoot H) = none)
    (hsm : ∀ x b, Dict.get? (storeDb (w.opSt 0).store) x = some b → b.length < 2 ^ 64) :
    (match (fw.setDel H false key val).1, (w.setDel (stdHashing H) (blankRoot H) (.trie 0) key val).1 with
     | .ok _, .ok _ => True
     | .error e, .error e' => e = e'
     | _, _ => False) ∧
    Sim (fw.setDel H false key val).2 (w.setDel (stdHashing H) (blankRoot H) (.trie 0) key val).2 :=
  sim_setDel_outer H hlen fw w h key val hc hcomp hbk hsm

/-- an operation on the batch trie of the open block keeps them in step -/
theorem lockstep_op_batch (H : Bytes → Bytes) (hlen : ∀ b, (H b).length = 32) (fw : FWorld) (w : World) (h : Sim fw w) (b : Batch)
    (hwb : w.batch = some b) (hnd : NoDupKeys b.cache) (key : Bytes) (val : Option Bytes) (hc : Canon b.trie.tree)
    (hcomp : Complete (stdHashing H) (blankRoot H) (storeDb (w.batchOpSt b).store) b.trie)
    (hbk : Dict.get? (storeDb (w.batchOpSt b).store) (blankRoot H) = none)
    (hsm : ∀ x b', Dict.get? (storeDb (w.batchOpSt b).store) x = some b' → b'.length < 2 ^ 64) :
    (match (fw.setDel H true key val).1, (w.setDel (stdHashing H) (blankRoot H) .batch key val).1 with
     | .ok _, .ok _ => True
     | .error e, .error e' => e = e'
     | _, _ => False) ∧
    Sim (fw.setDel H true key val).2 (w.setDel (stdHashing H) (blankRoot H) .batch key val).2 :=
  sim_setDel_batch H hlen fw w h b hwb hnd key val hc hcomp hbk hsm

/-- the cache of the open block keeps unique keys through every step of the world -/
theorem cache_keys_unique_begin (w : World) (i : Nat) : (w.batchBegin i).BatchNoDup := World.batchNoDup_batchBegin w i

theorem cache_keys_unique_op (Hs : Hashing) (blankRootHash : Hash) (w : World) (tg : Target) (key : Bytes) (val : Option Bytes)
    (h : w.BatchNoDup) : (w.setDel Hs blankRootHash tg key val).2.BatchNoDup :=
  World.batchNoDup_setDel Hs blankRootHash w tg key val h

/-! ## The view stays complete through a block on a pruning trie

These discharge the completeness hypothesis of the lockstep theorems along `squash_changes` on a pruning trie: on entry
the batch trie reads the outer database; every batch operation keeps what it reads complete for its new root (run-level
no-collision predicate over the view); a successful commit leaves the outer database complete for the new outer root. -/

theorem view_complete_on_entry (Hs : Hashing) (blankRootHash : Hash) (w : World) (i : Nat) (hnb : w.batch = none)
    (hcomp : Complete Hs blankRootHash w.base (w.tries[i]!)) :
    ∃ b, (w.batchBegin i).batch = some b ∧
      Complete Hs blankRootHash (storeDb ((w.batchBegin i).batchOpSt b).store) b.trie := by
  have _ := hnb
  exact ⟨_, rfl, hcomp⟩

theorem view_complete_batch_op (Hs : Hashing) (blankRootHash : Hash) (T : TrieSt) (hc : Canon T.tree) (key : Bytes)
    (val : Option Bytes) (s : OpSt) (hfa : s.store.failAfter = none) (hinv : PruneInvV Hs blankRootHash T s)
    (hcomp : Complete Hs blankRootHash (storeDb s.store) T) (hrs : RefSound Hs T.tree (nibs key))
    (hnc : NoClobber (storeDb s.store) (opWrites Hs T key val))
    (hblank : isBlank (opTree Hs T key val).1 = false → Hs.hashOf (opTree Hs T key val).1 ≠ blankRootHash)
    (T' : TrieSt) (hok : (opSetDel Hs blankRootHash T key val s).2 = .ok T') :
    Complete Hs blankRootHash (storeDb (opSetDel Hs blankRootHash T key val s).1.store) T' :=
  opSetDel_prune_complete_view Hs blankRootHash T hc key val s hfa hinv hcomp hrs hnc hblank T' hok

theorem complete_after_commit (Hs : Hashing) (blankRootHash : Hash) (w : World) (b : Batch) (hb : w.batch = some b)
    (hi : b.outer < w.tries.size) (hic : b.outer < w.counts.size)
    (hop : (w.tries[b.outer]!).prune = true) (hfa : w.failAfter = none)
    (hinv : PruneInvV Hs blankRootHash b.trie (w.batchOpSt b))
    (hcomp : Complete Hs blankRootHash (storeDb (w.batchOpSt b).store) b.trie) :
    Complete Hs blankRootHash (w.batchEnd false).2.base ((w.batchEnd false).2.tries[b.outer]!) := by
  have _ := hic
  exact batchEnd_complete Hs blankRootHash w b hb hi hop hfa hinv hcomp

/-! ## … and through a block on a NON-pruning trie

The batch trie of a non-pruning outer trie may buffer a delete for a node that is still referenced (its counts start empty
over a non-empty database); `ScratchDB.__getitem__` reads through a buffered delete, so the node stays readable, with the
right body because a buffered write of a key the wrapped database holds carries the same body (`CacheConsistent`). -/

theorem np_cache_consistent_on_entry (base : Dict Bytes) (fa : Option Nat) :
    CacheConsistent { base := base, cache := some [], failAfter := fa } := cacheConsistent_begin base fa

theorem np_view_complete_batch_op (Hs : Hashing) (blankRootHash : Hash) (base0 : Dict Bytes) (T : TrieSt) (hc : Canon T.tree)
    (key : Bytes) (val : Option Bytes) (s : OpSt) (hinv : BatchInvNP Hs blankRootHash base0 T s) (hcons : CacheConsistent s.store)
    (hcomp : Complete Hs blankRootHash (storeDb s.store) T) (hrs : RefSound Hs T.tree (nibs key))
    (hnc : NoClobber (storeDb s.store) (opWrites Hs T key val))
    (hblank : isBlank (opTree Hs T key val).1 = false → Hs.hashOf (opTree Hs T key val).1 ≠ blankRootHash)
    (T' : TrieSt) (hok : (opSetDel Hs blankRootHash T key val s).2 = .ok T') :
    Complete Hs blankRootHash (storeDb (opSetDel Hs blankRootHash T key val s).1.store) T' ∧
    CacheConsistent (opSetDel Hs blankRootHash T key val s).1.store :=
  opSetDel_np_complete_view Hs blankRootHash base0 T hc key val s hinv hcons hcomp hrs hnc hblank T' hok

/-- the commit of a block on a non-pruning trie pushes no deletes: the database is complete for the new root and keeps
    every binding it had (C04 through `squash_changes`, with bodies) -/
theorem np_complete_after_commit (Hs : Hashing) (blankRootHash : Hash) (base0 : Dict Bytes) (T : TrieSt) (s : OpSt)
    (hinv : BatchInvNP Hs blankRootHash base0 T s) (hcons : CacheConsistent s.store) (c : Dict (Option Bytes))
    (hcache : s.store.cache = some c) (hcomp : Complete Hs blankRootHash (storeDb s.store) T) :
    Complete Hs blankRootHash (commitLoop false c base0 none).2.1 { T with prune := false } ∧
    Preserved base0 (commitLoop false c base0 none).2.1 :=
  commit_np_complete Hs blankRootHash base0 T s hinv hcons c hcache hcomp

/-! ## Whole histories with `squash_changes` blocks

`HStep` = a direct `set` / `delete`, or a block (calls on the batch trie, left normally or by an exception). `runW` runs a
history in the tree-carrying `World`, `runF` in the tree-free `FWorld`. `Good` is the conjunction, along the run, of the
run-level premises of every call executed (no hash collision among the data the call touches, the two physical side
conditions on what it reads, the call returns normally). -/

/-- **the tree-free world and the tree-carrying world return the same outcome for every call of every history — direct
    operations, blocks left normally or by an exception, pruning on or off — and end in the same database, root and
    reference counts** -/
theorem history_lockstep (H : Bytes → Bytes) (hlen : ∀ b, (H b).length = 32) (prune : Bool) (steps : List HStep)
    (hgood : Good H (freshW H prune) steps) :
    (runF H (FWorld.init H prune) steps).1 = (runW H (freshW H prune) steps).1 ∧
    Sim (runF H (FWorld.init H prune) steps).2 (runW H (freshW H prune) steps).2 :=
  lockstep_history H hlen prune steps hgood

/-! ## Partial consistency is an invariant (C07 over histories with withheld node bodies)

`RootPartial` / `PartialD`: whatever the database holds under the hash of the root / of a hashed subtree is that node's
encoding (it may hold nothing). True of every complete database, kept by removing entries, by supplying the body of a
node of the tree, and by every `set` / `delete` — returning or raising, pruning on or off. With `Free.op_partial` (the
tree-free executor equals the tree-carrying one on every partially consistent state) the two executors therefore stay
equal along every history of operations interleaved with removals and re-insertions of node bodies. Two hypotheses
cannot be dropped (`Lemmas/PartialInvCex.lean`): supplying a body needs the tree to be canonical (the child of an
empty-path extension is unreachable by `nodeAt`), and an operation needs its writes to be consistent also with the
*withheld* nodes of the old tree (`hold`) — `NoClobber` cannot see a node whose body is not there. -/

theorem partial_of_complete_db (H : Bytes → Bytes) (T : TrieSt) (d : Dict Bytes)
    (hcomp : Complete (stdHashing H) (blankRoot H) d T)
    (hbk : Dict.get? d (blankRoot H) = none) (hsm : ∀ h b, Dict.get? d h = some b → b.length < 2 ^ 64) :
    RootPartial H d T.root T.tree ∧ PartialD H d T.tree := partial_of_complete H T d hcomp hbk hsm

theorem partial_kept_by_withholding (H : Bytes → Bytes) (T : TrieSt) (d : Dict Bytes) (h : Hash)
    (hp : RootPartial H d T.root T.tree ∧ PartialD H d T.tree) :
    RootPartial H (Dict.erase d h) T.root T.tree ∧ PartialD H (Dict.erase d h) T.tree := partial_erase H T d h hp

theorem partial_kept_by_supplying (H : Bytes → Bytes) (T : TrieSt) (hc : Canon T.tree) (d : Dict Bytes) (n : Node)
    (hp : RootPartial H d T.root T.tree ∧ PartialD H d T.tree)
    (hnc : ∀ m : Node, hashOf H m = hashOf H n → (m = T.tree ∨ ∃ q, nodeAt T.tree q = some m) → enc H m = enc H n) :
    RootPartial H (Dict.insert d (hashOf H n) (enc H n)) T.root T.tree ∧
    PartialD H (Dict.insert d (hashOf H n) (enc H n)) T.tree := partial_insert_node H T hc d n hp hnc

theorem partial_kept_by_op (H : Bytes → Bytes) (hlen : ∀ b, (H b).length = 32) (T : TrieSt) (hc : Canon T.tree) (key : Bytes)
    (val : Option Bytes) (s : OpSt) (hcache : s.store.cache = none)
    (hroot : RootPartial H s.store.base T.root T.tree) (hst : PartialD H s.store.base T.tree)
    (hrs : RefSound (stdHashing H) T.tree (nibs key))
    (hnc : NoClobber s.store.base (opWrites (stdHashing H) T key val))
    (hold : ∀ (m : Node) (b : Bytes), (hashOf H m, b) ∈ opWrites (stdHashing H) T key val →
      (m = T.tree ∨ (isHashed H m = true ∧ ∃ q, nodeAt T.tree q = some m)) → b = enc H m)
    (hblank : isBlank (opTree (stdHashing H) T key val).1 = false → hashOf H (opTree (stdHashing H) T key val).1 ≠ blankRoot H)
    (hbk : ∀ h b, (h, b) ∈ opWrites (stdHashing H) T key val → h ≠ blankRoot H)
    (hsm : ∀ h b, (h, b) ∈ opWrites (stdHashing H) T key val → b.length < 2 ^ 64) :
    (match (opSetDel (stdHashing H) (blankRoot H) T key val s).2 with
     | .ok T' => RootPartial H (opSetDel (stdHashing H) (blankRoot H) T key val s).1.store.base T'.root T'.tree ∧
                 PartialD H (opSetDel (stdHashing H) (blankRoot H) T key val s).1.store.base T'.tree
     | .error _ => RootPartial H (opSetDel (stdHashing H) (blankRoot H) T key val s).1.store.base T.root T.tree ∧
                   PartialD H (opSetDel (stdHashing H) (blankRoot H) T key val s).1.store.base T.tree) := by
  -- `hlen`, `hcache`, `hrs` are not needed: the exit base is characterised for every store and every outcome
  have _ := hlen; have _ := hcache; have _ := hrs
  exact opSetDel_partial_preserved H T hc key val s hroot hst hnc hold hblank hbk hsm

end PyTrie.Props.Free
