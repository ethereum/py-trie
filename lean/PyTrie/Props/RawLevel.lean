import PyTrie.Lemmas.BinRawRefines
import PyTrie.Lemmas.IterRefines
import PyTrie.Lemmas.RawHistory
import PyTrie.Lemmas.BinRawHistory
import PyTrie.Lemmas.BinRawAtomic
import PyTrie.Lemmas.PruneBodies
/-! # The raw level refines the tree, effect and world layers

`Model/HexRaw.lean` transcribes `_set`, `_set_kv_node`, `_set_branch_node`, `_delete`, `_delete_kv_node`,
`_delete_branch_node`, `_normalize_branch_node`, `_persist_node`, `_prune_node` and `get_node` statement by
statement over the data the Python code manipulates (raw nodes: `b""`, 2- and 17-item lists of byte strings /
hashes / embedded lists; a database of rlp bytes). The theorems: on the raw encoding of any canonical tree
whose hashed subtrees are stored, these functions return the raw encoding of the tree-level result and
emit **exactly** the event list (fetches, prunes, persists, in order) of `setE` / `deleteE`, and the database
afterwards is the old one plus those persists. So every theorem about the tree / effect / world layers is a
theorem about this transcription, which is itself run against the code (`hx.rawop`: new root and added
database entries after every direct operation of a non-pruning trie). The later sections state the same
for the binary trie's `_set`, the hexary read path, `NodeIterator`, whole histories (hexary and binary) and
the databases of pruning tries. -/
namespace PyTrie.Props.Raw
open PyTrie PyTrie.Hex PyTrie.HexD PyTrie.HexRaw

theorem set_refines (H : Bytes → Bytes) (hlen : ∀ b, (H b).length = 32) (t : Node) (hc : Canon t) (k : Path) (v : Bytes)
    (st : St) (hst : StoredD H st.db t) (fuel : Nat) (hf : 2 * k.length + 2 ≤ fuel) :
    rawSet H fuel st (toItem H t) k v =
      .ok (toItem H (setE (stdHashing H) t k v).1,
           { db := applyPersists st.db (setE (stdHashing H) t k v).2, evs := st.evs ++ (setE (stdHashing H) t k v).2 }) :=
  rawSet_refines H hlen t hc k v st hst fuel hf

theorem delete_refines (H : Bytes → Bytes) (hlen : ∀ b, (H b).length = 32) (t : Node) (hc : Canon t) (k : Path)
    (st : St) (hst : StoredD H st.db t) (fuel : Nat) (hf : 2 * k.length + 2 ≤ fuel) :
    rawDelete H fuel st (toItem H t) k =
      .ok (toItem H (deleteE (stdHashing H) t k).1,
           { db := applyPersists st.db (deleteE (stdHashing H) t k).2, evs := st.evs ++ (deleteE (stdHashing H) t k).2 }) :=
  rawDelete_refines H hlen t hc k st hst fuel hf

theorem keccak_is_std : keccakHashing = stdHashing keccak := keccakHashing_eq

end PyTrie.Props.Raw

/-! ## Binary trie -/
namespace PyTrie.Props.Raw
open PyTrie PyTrie.Bin PyTrie.BinRaw

/-- the raw-level `BinaryTrie._set` (over node hashes and the database; store, delete and delete_subtrie
    modes) returns the hash of the tree-level result and saves exactly the nodes `bsetS` lists, in order;
    it raises `NodeOverrideError` exactly when the tree-level function does -/
theorem bin_set_refines (H : Bytes → Bytes) (hlen : ∀ b, (H b).length = 32) (t : BNode) (hc : BCanon t) (k : Bits) (v : Bytes)
    (sub : Bool) (st : BinRaw.St) (hst : AllStored H st.db t) (hnc : NoCollisionOp H t (bsetS t k v sub).2)
    (fuel : Nat) (hf : k.length + 1 < fuel) :
    BinRaw.rawSet H (H []) fuel st (hashNode H t) k v sub =
      match (bsetS t k v sub).1 with
      | .ok t' => .ok (rootOf H t', { db := applySaves H st.db (bsetS t k v sub).2 })
      | .error _ => .error .override :=
  BinRaw.rawSet_refines H hlen t hc k v sub st hst hnc fuel hf

theorem bin_set_blank (H : Bytes → Bytes) (hlen : ∀ b, (H b).length = 32) (k : Bits) (hk : k ≠ []) (v : Bytes) (sub : Bool)
    (st : BinRaw.St) (fuel : Nat) (hf : 0 < fuel) :
    BinRaw.rawSet H (H []) fuel st (H []) k v sub =
      .ok (rootOf H (match bsetTop none k v sub with | .ok t' => t' | .error _ => none),
           { db := applySaves H st.db (bsetTopS none k v sub).2 }) :=
  BinRaw.rawSet_blank H hlen k hk v sub st fuel hf

end PyTrie.Props.Raw

/-! ## Hexary read path -/
namespace PyTrie.Props.Raw
open PyTrie PyTrie.Hex PyTrie.HexD PyTrie.HexRaw

/-- `annotate_node` over the raw encoding of a node is the tree-level annotation -/
theorem annotate_refines (H : Bytes → Bytes) (hlen : ∀ b, (H b).length = 32) (n : Node) :
    annotateD (toItem H n) = some (Ann.toD H (annotate n)) := annotateD_toItem H hlen n

/-- raw-level `_get_proof` over the database = the tree-level proof, node for node -/
theorem get_proof_refines (H : Bytes → Bytes) (hlen : ∀ b, (H b).length = 32) (t : Node) (hc : Canon t) (db : Db)
    (hst : StoredD H db t) (k : Path) (fuel : Nat) (hf : k.length + 1 < fuel) :
    getProofD H db fuel (toItem H t) k = .ok ((getProof t k).map (toItem H)) := getProofD_refines H hlen t hc db hst k fuel hf

end PyTrie.Props.Raw

/-! ## `NodeIterator` at raw level -/
namespace PyTrie.Props.Raw
open PyTrie PyTrie.Hex PyTrie.HexD PyTrie.HexRaw

/-- raw-level `NodeIterator._get_next_key` (leftmost key under an annotated node, through `traverse_from` over the
    database) = the tree-level `nextKey` -/
theorem next_key_refines (H : Bytes → Bytes) (hlen : ∀ b, (H b).length = 32) (t : Node) (hc : Canon t) (db : Db) (hst : StoredD H db t)
    (tr : Path) (tfuel fuel : Nat) (htf : 64 ≤ tfuel) (hf : YP.height t + 1 ≤ fuel) :
    nextKeyD H db tfuel fuel (Ann.toD H (annotate t)) tr = .ok (nextKey t tr) :=
  nextKeyD_refines H hlen t hc db hst tr tfuel fuel htf hf

/-- raw-level `NodeIterator._get_key_after` = the tree-level `keyAfter` (whose result is proved to be the successor
    key in `C10.next_is_successor`) -/
theorem key_after_refines (H : Bytes → Bytes) (hlen : ∀ b, (H b).length = 32) (t : Node) (hc : Canon t) (db : Db) (hst : StoredD H db t)
    (key tr : Path) (tfuel fuel : Nat) (htf : 64 ≤ tfuel) (hf : 20 * (YP.height t + 1) ≤ fuel) :
    keyAfterD H db tfuel fuel (Ann.toD H (annotate t)) key tr = .ok (keyAfter t key tr) :=
  keyAfterD_refines H hlen t hc db hst key tr tfuel fuel htf hf

end PyTrie.Props.Raw

/-! ## Whole histories at raw level (C01, C02, C04)

`HexRaw.rawOp` is `HexaryTrie.set` / `delete` end to end as the code runs it on a non-pruning trie over a plain dict
(root fetch, raw-level `_set` / `_delete`, root store); `rawRun` threads root hash and database through a history.
`ReachOps … false ops T s` is the world executor's run of `ops` together with the run-level no-collision facts of
every step; the two side conditions are physical (the hash of `rlp(b"")` is not a key of the final database; no stored
body has 2^64 bytes). -/
namespace PyTrie.Props.Raw
open PyTrie PyTrie.Hex PyTrie.HexD PyTrie.HexW PyTrie.HexRaw
open PyTrie.Props.C01 (Op run spec)

/-- along every such history the raw-level run returns the executor's root hash and a database answering every
    lookup as the executor's does: every world-level theorem is a theorem about the raw-level transcription -/
theorem history_is_world_run (H : Bytes → Bytes) (hlen : ∀ b, (H b).length = 32) (ops : List Op) (T : TrieSt) (s : OpSt)
    (h : ReachOps (stdHashing H) (blankRoot H) false ops T s)
    (hbk : Dict.get? s.store.base (blankRoot H) = none)
    (hsm : ∀ h b, Dict.get? s.store.base h = some b → b.length < 2 ^ 64) :
    ∃ db, rawRun H ops (blankRoot H, []) = .ok (T.root, db) ∧ DbAgrees db s.store.base :=
  rawRun_is_world_run H hlen ops T s h hbk hsm

/-- **the raw-level run computes the Yellow Paper root of the final contents** -/
theorem history_root_is_yellow_paper (H : Bytes → Bytes) (hlen : ∀ b, (H b).length = 32) (ops : List Op) (T : TrieSt) (s : OpSt)
    (h : ReachOps (stdHashing H) (blankRoot H) false ops T s)
    (hbk : Dict.get? s.store.base (blankRoot H) = none)
    (hsm : ∀ h b, Dict.get? s.store.base h = some b → b.length < 2 ^ 64) :
    ∃ db, rawRun H ops (blankRoot H, []) = .ok (YP.ypRoot H (YP.height (run ops)) (itemsOf (run ops)), db) := by
  obtain ⟨db, hr, _⟩ := rawRun_is_world_run H hlen ops T s h hbk hsm
  exact ⟨db, by rw [hr, reachOps_root H ops T s h,
    YP.rootHash_eq_ypRoot H (run ops) (PyTrie.Props.C01.canon_run ops) _ (Nat.le_refl _)]⟩

/-- **C01 end to end at raw level**: run any history through the raw-level `set` / `delete`, then look any key up
    through the database (`getD`: `HexaryTrie.get` over rlp-decoded nodes fetched from that database): the result is
    the last value stored under the key, `b""` if there is none or it was deleted — and no exception -/
theorem history_get (H : Bytes → Bytes) (hlen : ∀ b, (H b).length = 32) (ops : List Op) (T : TrieSt) (s : OpSt)
    (h : ReachOps (stdHashing H) (blankRoot H) false ops T s)
    (hbk : Dict.get? s.store.base (blankRoot H) = none)
    (hsm : ∀ h b, Dict.get? s.store.base h = some b → b.length < 2 ^ 64) (key : Bytes) :
    ∃ db, rawRun H ops (blankRoot H, []) = .ok (rootHash H (run ops), db) ∧
      getD H db (rootHash H (run ops)) (nibs key) = .ok (spec ops key) :=
  rawRun_get H hlen ops T s h hbk hsm key

end PyTrie.Props.Raw

/-! ## Whole histories of the binary trie at raw level (C12)

`BinRaw.rawSet` is `BinaryTrie._set` (with `_set_kv_node`, `_set_branch_node`, `_hash_and_save`) over node hashes and a
database of encoded nodes; `binRawRun` threads root hash and database through a history, as the code does.
`BinReach H ops t`: the tree-level history of accepted calls on non-empty keys, with the run-level no-collision facts of
every step. -/
namespace PyTrie.Props.Raw
open PyTrie PyTrie.Bin PyTrie.BinRaw
open PyTrie.Props.C12 (Op run spec)

/-- the raw-level run returns the root hash of the tree-level history and a database storing that whole tree -/
theorem bin_history (H : Bytes → Bytes) (hlen : ∀ b, (H b).length = 32) (ops : List Op) (t : Option BNode) (h : BinReach H ops t) :
    ∃ st, binRawRun H ops (H [], { db := [] }) = .ok (rootOf H t, st) ∧ (∀ n, t = some n → AllStored H st.db n) :=
  binRawRun_refines H hlen ops t h

theorem bin_history_tree (H : Bytes → Bytes) (ops : List Op) (t : Option BNode) (h : BinReach H ops t) : t = run ops :=
  binReach_run H ops t h

/-- **end to end at raw level**: `BinaryTrie.get` over the database the raw-level run produced returns the map model's value -/
theorem bin_history_get (H : Bytes → Bytes) (hlen : ∀ b, (H b).length = 32) (ops : List Op) (t : Option BNode) (h : BinReach H ops t)
    (k : Bits) :
    ∃ st, binRawRun H ops (H [], { db := [] }) = .ok (rootOf H (run ops), st) ∧
      bgetD (H []) st.db (k.length + 1) (rootOf H (run ops)) k = .ok (spec ops k) :=
  binRawRun_get H hlen ops t h k

end PyTrie.Props.Raw

/-! ## The binary `_set` with the state at the moment an exception leaves it (C12) -/
namespace PyTrie.Props.Raw
open PyTrie PyTrie.Bin

/-- `Model/BinRawT.lean` (state returned in every case) agrees with `Model/BinRaw.lean` on every input -/
theorem binT_agrees (H : Bytes → Bytes) (blank : Hash) (fuel : Nat) (st : BinRaw.St) (h : Hash) (k : Bits) (v : Bytes) (sub : Bool) :
    BinRaw.rawSet H blank fuel st h k v sub = BinRawT.forget (BinRawT.rawSetT H blank fuel st h k v sub) :=
  BinRawT.rawSetT_agrees H blank fuel st h k v sub

/-- **a call refused with `NodeOverrideError` has saved nothing** — every input, every database -/
theorem bin_refused_saves_nothing (H : Bytes → Bytes) (blank : Hash) (fuel : Nat) (st : BinRaw.St) (h : Hash) (k : Bits) (v : Bytes)
    (sub : Bool) (he : (BinRawT.rawSetT H blank fuel st h k v sub).2 = .error .override) :
    (BinRawT.rawSetT H blank fuel st h k v sub).1 = st := BinRawT.rawSetT_override_atomic H blank fuel st h k v sub he

/-- the database is add-only under `_set`: the old write log is a suffix of the new one, whatever happens -/
theorem bin_db_add_only (H : Bytes → Bytes) (blank : Hash) (fuel : Nat) (st : BinRaw.St) (h : Hash) (k : Bits) (v : Bytes) (sub : Bool) :
    ∃ added, (BinRawT.rawSetT H blank fuel st h k v sub).1.db = added ++ st.db :=
  BinRawT.rawSetT_db_suffix H blank fuel st h k v sub

end PyTrie.Props.Raw

/-! ## Pruning tries: what the pruned database holds, read by the raw-level reader (C01, C06)

`ReachOpsNC … prune ops T s`: the executor's run of a history, pruning on or off, with the run-level no-collision facts
of every step (`NoClobber` in both modes). The pruning invariant of C06 says which *keys* remain; here the *bodies*: the
database is complete for the current root, so the raw-level reader answers every key correctly from the pruned database. -/
namespace PyTrie.Props.Raw
open PyTrie PyTrie.Hex PyTrie.HexD PyTrie.HexW PyTrie.HexRaw
open PyTrie.Props.C01 (Op run spec)

/-- after every history, pruning on or off: the root pointer is the hash of the tree, the root node and every hashed node
    below it are stored under their hashes **with their encodings** -/
theorem pruned_db_complete (Hs : Hashing) (blankRootHash : Hash) (prune : Bool) (ops : List Op) (T : TrieSt) (s : OpSt)
    (h : ReachOpsNC Hs blankRootHash prune ops T s) : Complete Hs blankRootHash s.store.base T :=
  reachOpsNC_complete Hs blankRootHash prune ops T s h

/-- one pruning `set` / `delete` keeps the database complete for the new root -/
theorem prune_op_keeps_complete (Hs : Hashing) (blankRootHash : Hash) (T : TrieSt) (hc : Canon T.tree) (key : Bytes)
    (val : Option Bytes) (s : OpSt) (hfa : s.store.failAfter = none) (hinv : PruneInv Hs blankRootHash T s)
    (hcomp : Complete Hs blankRootHash s.store.base T) (hrs : RefSound Hs T.tree (nibs key))
    (hnc : NoClobber s.store.base (opWrites Hs T key val))
    (hblank : isBlank (opTree Hs T key val).1 = false → Hs.hashOf (opTree Hs T key val).1 ≠ blankRootHash)
    (T' : TrieSt) (hok : (opSetDel Hs blankRootHash T key val s).2 = .ok T') :
    Complete Hs blankRootHash (opSetDel Hs blankRootHash T key val s).1.store.base T' :=
  opSetDel_prune_complete Hs blankRootHash T hc key val s hfa hinv hcomp hrs hnc hblank T' hok

/-- **`get` over rlp-decoded nodes fetched from the database as the executor left it — pruned or not — returns the last
    value stored under the key (`b""` if none)**: nothing still needed has been pruned, and what is stored is what is needed -/
theorem pruned_db_get (H : Bytes → Bytes) (hlen : ∀ b, (H b).length = 32) (prune : Bool) (ops : List Op) (T : TrieSt) (s : OpSt)
    (h : ReachOpsNC (stdHashing H) (blankRoot H) prune ops T s)
    (hbk : Dict.get? s.store.base (blankRoot H) = none)
    (hsm : ∀ h b, Dict.get? s.store.base h = some b → b.length < 2 ^ 64) (key : Bytes) :
    getD H s.store.base T.root (nibs key) = .ok (spec ops key) :=
  HexRaw.pruned_db_get H hlen prune ops T s h hbk hsm key

end PyTrie.Props.Raw
