import PyTrie.Props.NonVacuity5
import PyTrie.Props.HistoryFailCommit
/-! # Non-vacuity, part 11: a history with a FAILING COMMIT (C05 "remains fully usable and correct afterwards")

A Boolean checker for `Free.GoodF`, its soundness, and a non-pruning history — a direct write, a block of two writes whose
commit is cut short at its second database write, a direct write, a committed block, a block left by an exception — that
passes it under the toy hash. `Free.history_fail_commit_*` are applied; what they say is cross-checked by evaluation: the
failed commit left one orphan entry in the database, the trie reads exactly the calls that count. -/
namespace PyTrie.Props.NonVacuity11
open PyTrie PyTrie.Hex PyTrie.Hex.Node PyTrie.HexD
open PyTrie.Props.NonVacuity PyTrie.Props.NonVacuity2 PyTrie.Props.NonVacuity4 PyTrie.Props.NonVacuity5
open PyTrie.HexW PyTrie.HexRaw PyTrie.HexFree
open PyTrie.Props.C01 (Op run spec)
open PyTrie.Props.Free (HStepF stepWF stepFF runWF runFF GoodF flattenStepsF)

section Checker
variable (H : Bytes → Bytes)

def failedB : Except Exn Unit → Bool
  | .error .writeFailed => true
  | _ => false

theorem failed_of_B (r : Except Exn Unit) (h : failedB r = true) : r = .error .writeFailed := by
  unfold failedB at h
  split at h
  · rfl
  · cases h

def goodFB : World → List HStepF → Bool
  | _, [] => true
  | w, .step s :: rest => goodB H w [s] && goodFB (stepWF H w (.step s)).2 rest
  | w, .failBlock inner n :: rest =>
    goodInnerB H (w.batchBegin 0) inner &&
    failedB (({ (innerW H (w.batchBegin 0) inner).2 with failAfter := some n } : World).batchEnd false).1 &&
    goodFB (stepWF H w (.failBlock inner n)).2 rest

theorem goodF_of_B (w : World) (steps : List HStepF) (h : goodFB H w steps = true) : GoodF H w steps := by
  induction steps generalizing w with
  | nil => trivial
  | cons s rest ih =>
    cases s with
    | step s =>
      simp only [goodFB, Bool.and_eq_true] at h
      exact ⟨good_of_B H w [s] h.1, ih _ h.2⟩
    | failBlock inner n =>
      simp only [goodFB, Bool.and_eq_true] at h
      exact ⟨goodInner_of_B H _ inner h.1.1, failed_of_B _ h.1.2, ih _ h.2⟩

end Checker

/-- a write; a block `{set k2, set k3}` whose commit fails at its SECOND write (the first one landed); a write of `k2`;
    a committed block overwriting `k1`; a block left by an exception -/
def fsteps : List HStepF :=
  [.step (.op k1 (some longV)),
   .failBlock [(k2, some [5]), (k3, some longV)] 1,
   .step (.op k2 (some longW)),
   .step (.block [(k1, some longW)] false),
   .step (.block [(k3, some [7])] true)]

theorem fsteps_good_B : goodFB toyH (freshW toyH false) fsteps = true := by decide +kernel

theorem fsteps_good : GoodF toyH (freshW toyH false) fsteps := goodF_of_B toyH _ fsteps fsteps_good_B

/-- the calls that count: the block whose commit failed and the aborted block are gone -/
theorem fflat : flattenStepsF fsteps = [.set k1 longV, .set k2 longW, .set k1 longW] := rfl

/-! **`Free.history_fail_commit_world` and `_lockstep` apply** -/

theorem world_witness :
    ((runWF toyH (freshW toyH false) fsteps).2.tries[0]!).tree = run (flattenStepsF fsteps) ∧
    Complete (stdHashing toyH) (blankRoot toyH) (runWF toyH (freshW toyH false) fsteps).2.base
      ((runWF toyH (freshW toyH false) fsteps).2.tries[0]!) :=
  (Free.history_fail_commit_world toyH fsteps fsteps_good).2

theorem lockstep_witness :
    (runFF toyH (FWorld.init toyH false) fsteps).1 = (runWF toyH (freshW toyH false) fsteps).1 ∧
    Sim (runFF toyH (FWorld.init toyH false) fsteps).2 (runWF toyH (freshW toyH false) fsteps).2 :=
  Free.history_fail_commit_lockstep toyH toyH_len fsteps fsteps_good

def fBase : Dict Bytes := (runFF toyH (FWorld.init toyH false) fsteps).2.base

def okB' : Except Exn Unit → Bool
  | .ok _ => true
  | .error _ => false

/-- **the run of the tree-free world, evaluated once** (one kernel evaluation for what this file computes about it) -/
theorem failCommit_eval :
    -- the side conditions of `history_fail_commit_get`
    (Dict.get? fBase (blankRoot toyH) = none ∧ fBase.all (fun e => decide (e.2.length < 100)) = true) ∧
    -- outcomes, database sizes and roots around the failed commit
    ((runFF toyH (FWorld.init toyH false) fsteps).1.map okB' = [true, true, true, false, true, true, true, true, true] ∧
      (runFF toyH (FWorld.init toyH false) (fsteps.take 1)).2.base.length + 1 =
        (runFF toyH (FWorld.init toyH false) (fsteps.take 2)).2.base.length ∧
      (runFF toyH (FWorld.init toyH false) (fsteps.take 1)).2.outer.root =
        (runFF toyH (FWorld.init toyH false) (fsteps.take 2)).2.outer.root) ∧
    -- `fBase` as a projection of the run (for rewriting, as in `NonVacuity4.hist5_eval`)
    fBase = (runFF toyH (FWorld.init toyH false) fsteps).2.base := by
  decide +kernel

theorem fBase_blank : Dict.get? fBase (blankRoot toyH) = none := failCommit_eval.1.1
theorem fBase_short : ∀ h b, Dict.get? fBase h = some b → b.length < 2 ^ 64 := bodies_short64 fBase failCommit_eval.1.2

/-- **`Free.history_fail_commit_get` applies**: `k3` (written only inside the block whose commit failed, and inside the
    aborted block) reads as absent; `k1`, `k2` read the values of the calls that count -/
theorem get_witness :
    (runFF toyH (FWorld.init toyH false) fsteps).2.get toyH false k3 = .ok [] ∧
    (runFF toyH (FWorld.init toyH false) fsteps).2.get toyH false k1 = .ok longW ∧
    (runFF toyH (FWorld.init toyH false) fsteps).2.get toyH false k2 = .ok longW := by
  have h := Free.history_fail_commit_get toyH toyH_len fsteps fsteps_good
  rw [← failCommit_eval.2.2] at h
  replace h := fun key => (h fBase_blank fBase_short key).1
  have hs : spec (flattenStepsF fsteps) k3 = [] ∧ spec (flattenStepsF fsteps) k1 = longW ∧
      spec (flattenStepsF fsteps) k2 = longW := by rw [fflat]; decide +kernel
  exact ⟨by rw [h k3, hs.1], by rw [h k1, hs.2.1], by rw [h k2, hs.2.2]⟩

/-- by evaluation: the outcomes call by call — the fourth entry, the failed commit, is not ok (that it is `WriteFailed`
    is part of `fsteps_good`, through `failedB`), every other call returned normally —, and the failed commit really left
    something behind: right after it the database holds one entry more than before the block (the first write of the
    commit), yet the root did not move -/
theorem evaluated :
    (runFF toyH (FWorld.init toyH false) fsteps).1.map okB' = [true, true, true, false, true, true, true, true, true] ∧
    (runFF toyH (FWorld.init toyH false) (fsteps.take 1)).2.base.length + 1 =
      (runFF toyH (FWorld.init toyH false) (fsteps.take 2)).2.base.length ∧
    (runFF toyH (FWorld.init toyH false) (fsteps.take 1)).2.outer.root =
      (runFF toyH (FWorld.init toyH false) (fsteps.take 2)).2.outer.root :=
  failCommit_eval.2.1

end PyTrie.Props.NonVacuity11
