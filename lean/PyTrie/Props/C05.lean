import PyTrie.Lemmas.WorldMono
/-! # C05 — squash_changes is all-or-nothing (world level)

Statements about the world executor of `Model/HexWorld.lean` (`batchBegin`, operations on the
batch trie, `batchEnd`), for every hashing and every world. -/
namespace PyTrie.Props.C05
open PyTrie PyTrie.Hex PyTrie.HexW

variable (Hs : Hashing) (blankRootHash : Hash)

/-- invariant of everything that runs against a ScratchDB: the wrapped database is untouched -/
def SameBase (s s' : OpSt) : Prop :=
  s'.store.base = s.store.base ∧ s'.store.failAfter = s.store.failAfter ∧ s'.store.cache.isSome

/-- `SameBase s` as a predicate on the store reached: a write or delete through the ScratchDB only changes the cache -/
theorem sameBase_write {s0 st st' : Store} {h : Hash} {b : Bytes}
    (hp : st.base = s0.base ∧ st.failAfter = s0.failAfter ∧ st.cache.isSome) (hw : st.write h b = some st') :
    st'.base = s0.base ∧ st'.failAfter = s0.failAfter ∧ st'.cache.isSome := by
  obtain ⟨c, hc⟩ := Option.isSome_iff_exists.1 hp.2.2
  simp only [Store.write, hc, Option.some.injEq] at hw
  subst hw
  exact ⟨hp.1, hp.2.1, rfl⟩

theorem sameBase_del {s0 st st' : Store} {h : Hash}
    (hp : st.base = s0.base ∧ st.failAfter = s0.failAfter ∧ st.cache.isSome) (hw : st.del h = some st') :
    st'.base = s0.base ∧ st'.failAfter = s0.failAfter ∧ st'.cache.isSome := by
  obtain ⟨c, hc⟩ := Option.isSome_iff_exists.1 hp.2.2
  simp only [Store.del, hc, Option.some.injEq] at hw
  subst hw
  exact ⟨hp.1, hp.2.1, rfl⟩

/-- **While the block is open the underlying database is never written**: whatever a `set` or
    `delete` on the batch trie does (succeed, raise MissingTrieNode, …), the wrapped database and
    the fault counter are as before. -/
theorem opSetDel_base (T : TrieSt) (key : Bytes) (val : Option Bytes) (s : OpSt) (hs : s.store.cache.isSome) :
    SameBase s (opSetDel Hs blankRootHash T key val s).1 :=
  opSetDel_store_inv Hs blankRootHash T key val (fun _ _ _ _ _ hp => sameBase_write hp)
    (fun _ _ _ _ hp => sameBase_del hp) s ⟨rfl, rfl, hs⟩

/-- operations on the batch trie leave the world's database, fault counter and all tries alone -/
theorem batch_ops_leave_base (w : World) (b : Batch) (hb : w.batch = some b) (key : Bytes) (val : Option Bytes) :
    let w' := (w.setDel Hs blankRootHash .batch key val).2
    w'.base = w.base ∧ w'.failAfter = w.failAfter ∧ w'.tries = w.tries ∧ w'.counts = w.counts := by
  obtain ⟨h1, h2, _⟩ := opSetDel_base Hs blankRootHash b.trie key val (w.batchOpSt b) rfl
  simp only [World.setDel, hb]
  split
  · simp only [World.noteRoot]; split <;> exact ⟨h1, h2, rfl, rfl⟩
  · exact ⟨h1, h2, rfl, rfl⟩

/-- **Leaving the block by an exception**: the block is simply dropped — database, fault counter,
    every trie's root and tree and every reference count are what they were (the batch worked on
    its own cache and on its own copy of the counts). -/
theorem abort_restores_world (w : World) (b : Batch) (hb : w.batch = some b) :
    (w.batchEnd true).2 = { w with batch := none } := by
  simp [World.batchEnd, hb]

/-- the commit loop either applies everything, or stops at a failing write having applied a
    prefix of the cache (`applied ++ rest = cache`, nothing of `rest` touched the database) -/
theorem commitLoop_fail_prefix (dd : Bool) (cache : List (Hash × Option Bytes)) (base : Dict Bytes) (fa : Option Nat) :
    ∃ applied rest, applied ++ rest = cache ∧
      ((commitLoop dd cache base fa).1 = true → rest = []) ∧
      (commitLoop dd cache base fa).2.1 = (commitLoop dd applied base fa).2.1 ∧
      (commitLoop dd applied base fa).1 = true := by
  fun_induction commitLoop dd cache base fa with
  | case1 => exact ⟨[], [], rfl, fun _ => rfl, rfl, rfl⟩
  | case2 k v rest base => exact ⟨[], _, rfl, fun h => Bool.noConfusion h, rfl, rfl⟩  -- the write fails: nothing applied
  | case3 k v rest base n ih =>
    obtain ⟨a, r, h1, h⟩ := ih
    exact ⟨(k, some v) :: a, r, congrArg _ h1, h⟩
  | case4 k v rest base ih =>
    obtain ⟨a, r, h1, h⟩ := ih
    exact ⟨(k, some v) :: a, r, congrArg _ h1, h⟩
  | case5 k rest base fa ih =>
    obtain ⟨a, r, h1, h⟩ := ih
    exact ⟨(k, none) :: a, r, congrArg _ h1, h⟩

/-- **The underlying database fails during the commit**: the outer tries (roots, trees) and all
    reference counts are exactly as before the block; only the database received a prefix of the
    buffered writes. -/
theorem commit_failure_keeps_outer (w : World) (b : Batch) (hb : w.batch = some b) (e : Exn)
    (h : (w.batchEnd false).1 = .error e) :
    (w.batchEnd false).2.tries = w.tries ∧ (w.batchEnd false).2.counts = w.counts ∧
    (w.batchEnd false).2.batch = none := by
  simp only [World.batchEnd, hb, Bool.false_eq_true, ↓reduceIte] at h ⊢
  split at h
  · cases h
  · next hok => rw [if_neg hok]; exact ⟨rfl, rfl, rfl⟩

/-- **Normal exit**: the outer trie takes over the batch trie's tree and root, keeps its own
    pruning flag, and (if pruning) adopts the batch's reference counts. -/
theorem commit_adopts_root (w : World) (b : Batch) (hb : w.batch = some b) (hi : b.outer < w.tries.size)
    (h : (w.batchEnd false).1 = .ok ()) :
    let w' := (w.batchEnd false).2
    w'.tries[b.outer]!.root = b.trie.root ∧ w'.tries[b.outer]!.tree = b.trie.tree ∧
    w'.tries[b.outer]!.prune = w.tries[b.outer]!.prune ∧ w'.batch = none := by
  simp only [World.batchEnd, hb, Bool.false_eq_true, ↓reduceIte] at h ⊢
  split at h
  · next hok => rw [if_pos hok]; simp [hi]
  · cases h

end PyTrie.Props.C05
