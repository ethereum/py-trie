import PyTrie.Props.NonVacuity4
import PyTrie.Props.C04Shared
import PyTrie.Props.C12History
import PyTrie.Props.C09Termination
import PyTrie.Props.NonVacuity8
/-! # Non-vacuity, part 10: several tries over one database (C04), earlier roots of a binary trie (C12)

1. A Boolean checker for `C04.SGood`, its soundness, an interleaved history — two fresh non-pruning tries written to
   alternately, a third trie opened at an earlier root of the first and written to — that passes it under the toy hash, and
   `C04.shared_history` / `shared_history_reads` applied to it; the reads are cross-checked by kernel evaluation.
2. `Raw.bin_history_old_roots_readable` applied to the binary history of part 2 (`bops`): the final write log is functional,
   and the roots after 3 and 4 calls read their own contents from the final database.
3. `C09.raw_walk_length_bounded` applied to the walk of part 8. -/
namespace PyTrie.Props.NonVacuity10
open PyTrie PyTrie.Hex PyTrie.Hex.Node PyTrie.HexD
open PyTrie.Props.NonVacuity PyTrie.Props.NonVacuity2 PyTrie.Props.NonVacuity4
open PyTrie.HexW PyTrie.HexRaw
open PyTrie.Props.C04 (SEv sstep srun SGoodEv SGood SInv)

/-! ## 1. Shared database -/
section Shared
variable (H : Bytes → Bytes)

def sgoodEvB (w : World) : SEv → Bool
  | .newTrie => true
  | .openAt _ => true
  | .op i k v =>
    decide (i < w.tries.size) &&
    refSoundB (stdHashing H) (w.tries[i]!).tree (nibs k) &&
    (isBlank (opTree (stdHashing H) (w.tries[i]!) k v).1 || !(hashOf H (opTree (stdHashing H) (w.tries[i]!) k v).1 == blankRoot H)) &&
    noClobberB w.base (opWrites (stdHashing H) (w.tries[i]!) k v)

theorem sgoodEv_of_B (w : World) (e : SEv) (h : sgoodEvB H w e = true) : SGoodEv H w e := by
  cases e with
  | newTrie => trivial
  | openAt r => trivial
  | op i k v =>
    simp only [sgoodEvB, Bool.and_eq_true, Bool.or_eq_true, Bool.not_eq_true', beq_eq_false_iff_ne, decide_eq_true_eq] at h
    obtain ⟨⟨⟨h1, h2⟩, h3⟩, h4⟩ := h
    refine ⟨h1, refSound_of_B _ _ _ h2, fun hb => ?_, noClobber_of_B _ _ h4⟩
    rcases h3 with h3 | h3
    · rw [hb] at h3; cases h3
    · exact h3

def sgoodB : World → List SEv → Bool
  | _, [] => true
  | w, e :: rest => sgoodEvB H w e && sgoodB (sstep H w e) rest

theorem sgood_of_B (w : World) (evs : List SEv) (h : sgoodB H w evs = true) : SGood H w evs := by
  induction evs generalizing w with
  | nil => trivial
  | cons e rest ih =>
    simp only [sgoodB, Bool.and_eq_true] at h
    exact ⟨sgoodEv_of_B H w e h.1, ih _ h.2⟩

end Shared

/-- the root trie 0 has after its first write (a hashed leaf) -/
def rootA : Hash := hashOf toyH (leaf (nibs k1) longV)

/-- two fresh tries on one database written to alternately (trie 1 stores another value under the same key and a second
    key); trie 0 overwrites; a third trie is opened at trie 0's FIRST root and written to; trie 1 deletes -/
def evs : List SEv :=
  [.newTrie, .newTrie,
   .op 0 k1 (some longV), .op 1 k1 (some longW), .op 1 k2 (some [5]),
   .op 0 k1 (some longW), .op 0 k3 (some longV),
   .openAt rootA, .op 2 k2 (some longV),
   .op 1 k1 none]

def wEnd : World := srun toyH {} evs

def okWith (r : Except DErr Bytes) (v : Bytes) : Bool :=
  match r with
  | .ok x => x == v
  | .error _ => false

/-- **the interleaved history, evaluated once** (as in `NonVacuity4.hist5_eval`; the theorems of this section that rest on
    evaluation are the components) -/
theorem shared_eval :
    -- every event passes the test
    sgoodB toyH ({} : World) evs = true ∧
    -- the shape of the final world
    (wEnd.tries.size = 3 ∧ (wEnd.tries[2]!).prune = false ∧ 4 ≤ wEnd.roots.length ∧ 5 ≤ wEnd.base.length) ∧
    -- the side conditions of `shared_history_reads`
    (Dict.get? wEnd.base (blankRoot toyH) = none ∧ wEnd.base.all (fun e => decide (e.2.length < 100)) = true) ∧
    -- seven reads
    okWith (getD toyH wEnd.base (wEnd.tries[0]!).root (nibs k1)) longW = true ∧
    okWith (getD toyH wEnd.base (wEnd.tries[1]!).root (nibs k1)) [] = true ∧
    okWith (getD toyH wEnd.base (wEnd.tries[1]!).root (nibs k2)) [5] = true ∧
    okWith (getD toyH wEnd.base (wEnd.tries[2]!).root (nibs k1)) longV = true ∧
    okWith (getD toyH wEnd.base (wEnd.tries[2]!).root (nibs k2)) longV = true ∧
    okWith (getD toyH wEnd.base rootA (nibs k1)) longV = true ∧
    okWith (getD toyH wEnd.base rootA (nibs k3)) [] = true := by
  decide +kernel

theorem evs_good_B : sgoodB toyH ({} : World) evs = true := shared_eval.1

theorem evs_good : SGood toyH ({} : World) evs := sgood_of_B toyH _ evs evs_good_B

/-- three tries, the third really was opened (the root was known) -/
theorem wEnd_shape : wEnd.tries.size = 3 ∧ (wEnd.tries[2]!).prune = false ∧ 4 ≤ wEnd.roots.length ∧ 5 ≤ wEnd.base.length :=
  shared_eval.2.1

/-- **`C04.shared_history` applies**: the invariant holds at the end — the shared database is complete for all three tries
    and for every recorded root -/
theorem shared_witness : SInv toyH wEnd ∧ Preserved ({} : World).base wEnd.base :=
  C04.shared_history toyH evs {} (C04.sinv_empty toyH) evs_good

theorem wEnd_blank : Dict.get? wEnd.base (blankRoot toyH) = none := shared_eval.2.2.1.1
theorem wEnd_short : ∀ h b, Dict.get? wEnd.base h = some b → b.length < 2 ^ 64 :=
  bodies_short64 wEnd.base shared_eval.2.2.1.2

/-- **`C04.shared_history_reads` applies**: every trie reads its own tree, every recorded root its own -/
theorem reads_witness (key : Bytes) :
    (∀ i, i < wEnd.tries.size →
      getD toyH wEnd.base (wEnd.tries[i]!).root (nibs key) = .ok (Hex.get (wEnd.tries[i]!).tree (nibs key))) ∧
    (∀ r t, (r, t) ∈ wEnd.roots → getD toyH wEnd.base r (nibs key) = .ok (Hex.get t (nibs key))) :=
  C04.shared_history_reads toyH toyH_len evs evs_good wEnd_blank wEnd_short key

/-- the same reads by evaluation: the three tries disagree about `k1` / `k2` although they share the database, and the
    first root of trie 0 still reads the overwritten value -/
theorem reads_evaluated :
    okWith (getD toyH wEnd.base (wEnd.tries[0]!).root (nibs k1)) longW = true ∧
    okWith (getD toyH wEnd.base (wEnd.tries[1]!).root (nibs k1)) [] = true ∧
    okWith (getD toyH wEnd.base (wEnd.tries[1]!).root (nibs k2)) [5] = true ∧
    okWith (getD toyH wEnd.base (wEnd.tries[2]!).root (nibs k1)) longV = true ∧
    okWith (getD toyH wEnd.base (wEnd.tries[2]!).root (nibs k2)) longV = true ∧
    okWith (getD toyH wEnd.base rootA (nibs k1)) longV = true ∧
    okWith (getD toyH wEnd.base rootA (nibs k3)) [] = true :=
  shared_eval.2.2.2

/-! ## 2. Earlier roots of the binary trie -/
section BinOld
open PyTrie.Bin PyTrie.Bin.BNode PyTrie.BinRaw
open PyTrie.Props.C12 (Op run spec)
open PyTrie.Props.Raw (FunctionalLog)

def bFinal : BinRaw.St := match binRawRun mixH bops (mixH [], { db := [] }) with
  | .ok r => r.2
  | .error _ => { db := [] }

def functionalB (db : Bin.Db) : Bool :=
  db.all fun e => db.all fun e' => !(e.1 == e'.1) || e.2 == e'.2

theorem functional_of_B (db : Bin.Db) (h : functionalB db = true) : FunctionalLog db := by
  intro x b b' h1 h2
  simp only [functionalB, List.all_eq_true, Bool.or_eq_true, Bool.not_eq_true', beq_eq_false_iff_ne, beq_iff_eq] at h
  rcases h _ h1 _ h2 with h | h
  · exact absurd rfl h
  · exact h

/-- **the binary run, evaluated once**: the final write log is functional, and it is the log of the state the run returns
    (`bFinal` is defined by a `match` on the run: the kernel runs the history to see through it, so the equation is taken
    from this evaluation) -/
theorem bFinal_eval :
    functionalB bFinal.db = true ∧
    (match binRawRun mixH bops (mixH [], { db := [] }) with
      | .ok r => decide (r.2.db = bFinal.db)
      | .error _ => false) = true := by
  decide +kernel

theorem bFinal_run : binRawRun mixH bops (mixH [], { db := [] }) = .ok (rootOf mixH (run bops), bFinal) := by
  obtain ⟨st, h, _⟩ := bin_history_witness
  have hdb : st.db = bFinal.db := by simpa [h] using bFinal_eval.2
  have : st = bFinal := by
    cases st
    cases hb : bFinal
    rw [hb] at hdb
    exact congrArg _ hdb
  rw [← this]; exact h

theorem bFinal_functional : FunctionalLog bFinal.db := functional_of_B _ bFinal_eval.1

/-- **`Raw.bin_history_old_roots_readable` applies**: the roots after 3 and after 4 calls, read through the final database
    (17 log entries, written by 6 calls), return the contents of that moment -/
theorem old_roots_witness (i : Nat) (k : Bits) :
    bgetD (mixH []) bFinal.db (k.length + 1) (rootOf mixH (run (bops.take i))) k = .ok (spec (bops.take i) k) :=
  Raw.bin_history_old_roots_readable mixH mixH_len bops _ bops_reach bFinal bFinal_run bFinal_functional i k

/-- after 4 calls the key `0010` held `aa` (deleted by the fifth call); after 3 calls `bk` was not stored yet -/
theorem old_roots_spec :
    spec (bops.take 4) [false, false, true, false] = some [0xaa] ∧ spec bops [false, false, true, false] = none ∧
    spec (bops.take 3) bk = none ∧ spec (bops.take 4) bk = some [0xee] := by
  have h4 := binReach_keys mixH _ _ (Raw.bin_reach_prefix mixH bops _ bops_reach 4)
  have h3 := binReach_keys mixH _ _ (Raw.bin_reach_prefix mixH bops _ bops_reach 3)
  have h6 := binReach_keys mixH _ _ bops_reach
  rw [← C12.run_get _ h4, ← C12.run_get _ h4, ← C12.run_get _ h3, ← C12.run_get _ h6]
  decide +kernel

end BinOld
end PyTrie.Props.NonVacuity10

/-! ## 3. Termination bound on the concrete walk of part 8

The namespace is opened afresh: `sched` of part 8 is not the `sched` of part 1 that sections 1 and 2 have open. -/
namespace PyTrie.Props.NonVacuity10
open PyTrie PyTrie.Hex PyTrie.Hex.Node PyTrie.HexD PyTrie.Fog PyTrie.Walk
open PyTrie.Props.NonVacuity (toyH toyH_len)
open PyTrie.Props.NonVacuity8

/-- the key-length premise as a test on the stored items -/
theorem keys_short_of_items (t : Node) (hc : Canon t) (L : Nat)
    (h : (itemsOf t).all (fun e => decide (e.1.length ≤ L)) = true) : ∀ k, Hex.get t k ≠ [] → k.length ≤ L := by
  intro k hk
  have hm := (itemsOf_mem t hc k (Hex.get t k)).2 ⟨hk, rfl⟩
  simpa using List.all_eq_true.1 h _ hm

/-- every version the five-step walk of part 8 consults stores keys of at most two nibbles -/
theorem sched8_keys_short : ∀ e ∈ sched, ∀ k, Hex.get e.t k ≠ [] → k.length ≤ 2 := by
  intro e he
  have hc : Canon e.t := (sched_ok.1 e he).1
  exact keys_short_of_items e.t hc 2 (List.all_eq_true.1 events_eval.1.1.2.2.2 e he)

/-- **`C09.raw_walk_length_bounded` applies** to the walk interleaved with a pruning history (retry on a stale cached parent
    included): 5 steps + what is left of the fog stay below `17^3` -/
theorem walk_bound_witness (r : CStateD) (hrun : crunDR toyH cstartD (sched.map StepT.toD) = .ok (some r)) :
    sched.length + mu 2 r.fog ≤ 17 ^ 3 ∧ sched.length + r.fog.length ≤ 17 ^ 3 :=
  C09.raw_walk_length_bounded toyH toyH_len 2 sched sched_ok sched8_keys_short r hrun

end PyTrie.Props.NonVacuity10
