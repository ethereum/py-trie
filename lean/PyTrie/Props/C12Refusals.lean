import PyTrie.Props.C12History
/-! # C12 — whole histories INCLUDING refused calls, at raw level

`Raw.bin_history*` speak about histories in which every call is accepted. C12 also says: "any call that raises leaves the
root and contents unchanged" and "get/exists match a map model in which storing … is refused". Here the raw-level run goes on
after a refusal, as a caller's program does: `binRawRunAll` executes every call with the state-returning transcription
(`BinRawT.rawSetT`); a refused call keeps the root hash the caller holds. `BinReachAll` is the tree-level history with both
kinds of steps (and the run-level no-collision fact of each call). Theorem: the raw-level run reports exactly the tree-level
refusals, ends at the root of the tree-level history (`C12.run`, which skips refused calls), with that whole tree stored, and
`BinaryTrie.get` over its database returns the map model with the prefix rule. -/
namespace PyTrie.Props.Raw
open PyTrie PyTrie.Bin PyTrie.BinRaw
open PyTrie.Props.C12 (Op run spec apply)

section
variable (H : Bytes → Bytes)

/-- the history as the caller experiences it: `true` = the call returned, `false` = it raised (the caller's root hash stays) -/
def binRawRunAll : List Op → Hash × St → List Bool × (Hash × St)
  | [], s => ([], s)
  | o :: rest, (root, st) =>
    match BinRawT.rawSetT H (H []) (o.key.length + 3) st root o.key (opVal o) (opSub o) with
    | (st', .ok root') => let r := binRawRunAll rest (root', st'); (true :: r.1, r.2)
    | (st', .error _) => let r := binRawRunAll rest (root, st'); (false :: r.1, r.2)

/-- which calls the tree-level history accepts -/
def acceptedFrom : Option BNode → List Op → List Bool
  | _, [] => []
  | t, o :: rest =>
    match apply t o with
    | .ok t' => true :: acceptedFrom t' rest
    | .error _ => false :: acceptedFrom t rest

/-- tree-level histories with accepted and refused calls on non-empty keys, with the run-level no-collision fact of each call -/
inductive BinReachAll : List Op → Option BNode → Prop where
  | init : BinReachAll [] none
  | ok (ops : List Op) (t : Option BNode) (o : Op) (t' : Option BNode) :
      BinReachAll ops t → o.key ≠ [] → apply t o = .ok t' → NoCollTop H t o → BinReachAll (ops ++ [o]) t'
  | refused (ops : List Op) (t : Option BNode) (o : Op) (e : Bin.Err) :
      BinReachAll ops t → o.key ≠ [] → apply t o = .error e → NoCollTop H t o → BinReachAll (ops ++ [o]) t

/-- the tree reached is `C12.run` of the whole list (refused calls are no-ops there) -/
theorem binReachAll_run (ops : List Op) (t : Option BNode) (h : BinReachAll H ops t) : t = run ops := by
  induction h with
  | init => rfl
  | ok ops t o t' _ _ hap _ ih | refused ops t o e _ _ hap _ ih =>
    rw [run_snoc, ← ih]
    simp only [Props.C12.step, hap]

private theorem binReachAll_keys (ops : List Op) (t : Option BNode) (h : BinReachAll H ops t) :
    Props.C12.KeysNonEmpty ops := by
  induction h with
  | init => nofun
  | ok ops t o t' _ hk _ _ ih | refused ops t o e _ hk _ _ ih =>
    intro x hx
    rcases List.mem_append.1 hx with hx | hx
    · exact ih x hx
    · exact List.mem_singleton.1 hx ▸ hk

private theorem binReachAll_canon (ops : List Op) (t : Option BNode) (h : BinReachAll H ops t) : BCanonTop t := by
  rw [binReachAll_run H ops t h]
  exact Props.C12.canon_run ops (binReachAll_keys H ops t h)

private theorem binRawRunAll_append (a b : List Op) (s : Hash × St) :
    binRawRunAll H (a ++ b) s =
      ((binRawRunAll H a s).1 ++ (binRawRunAll H b (binRawRunAll H a s).2).1,
        (binRawRunAll H b (binRawRunAll H a s).2).2) := by
  induction a generalizing s with
  | nil => rfl
  | cons x rest ih =>
    simp only [List.cons_append, binRawRunAll]
    split <;> simp only [ih, List.cons_append]

private theorem acceptedFrom_append (t : Option BNode) (a b : List Op) :
    acceptedFrom t (a ++ b) = acceptedFrom t a ++ acceptedFrom (a.foldl Props.C12.step t) b := by
  induction a generalizing t with
  | nil => rfl
  | cons x rest ih =>
    simp only [List.cons_append, acceptedFrom, List.foldl_cons, Props.C12.step]
    cases apply t x <;> simp only [ih, List.cons_append]

private theorem rawStepT_ok (hlen : ∀ b, (H b).length = 32) (t : Option BNode) (hc : BCanonTop t) (o : Op) (hk : o.key ≠ [])
    (t' : Option BNode) (hap : apply t o = .ok t') (hnc : NoCollTop H t o)
    (st : St) (hst : ∀ n, t = some n → AllStored H st.db n) :
    ∃ st', BinRawT.rawSetT H (H []) (o.key.length + 3) st (rootOf H t) o.key (opVal o) (opSub o) = (st', .ok (rootOf H t')) ∧
      (∀ n, t' = some n → AllStored H st'.db n) := by
  obtain ⟨st', hset, hst'⟩ := rawStep H hlen t hc o hk t' hap hnc st hst
  exact ⟨st', BinRawT.forget_eq_ok ((binT_agrees ..).symm.trans hset), hst'⟩

private theorem rawStepT_refused (hlen : ∀ b, (H b).length = 32) (t : Option BNode) (hc : BCanonTop t) (o : Op)
    (e : Bin.Err) (hap : apply t o = .error e) (hnc : NoCollTop H t o)
    (st : St) (hst : ∀ n, t = some n → AllStored H st.db n) :
    BinRawT.rawSetT H (H []) (o.key.length + 3) st (rootOf H t) o.key (opVal o) (opSub o) = (st, .error .override) := by
  rw [apply_eq] at hap
  cases t with
  | none =>
    simp only [bsetTop] at hap
    split at hap <;> cases hap
  | some n =>
    have hset := bin_set_refines H hlen n hc o.key (opVal o) (opSub o) st (hst n rfl) hnc (o.key.length + 3) (by omega)
    rw [bsetS_fst, show bset n _ _ _ = _ from hap, binT_agrees] at hset
    have h2 := BinRawT.forget_eq_error hset
    exact Prod.ext (bin_refused_saves_nothing H _ _ _ _ _ _ _ h2) h2

private theorem binRawRunAll_refines (hlen : ∀ b, (H b).length = 32) (ops : List Op) (t : Option BNode)
    (h : BinReachAll H ops t) :
    ∃ st, binRawRunAll H ops (H [], { db := [] }) = (acceptedFrom none ops, (rootOf H t, st)) ∧
      (∀ n, t = some n → AllStored H st.db n) := by
  induction h with
  | init => exact ⟨{ db := [] }, rfl, nofun⟩
  | ok ops t o t' hr hk hap hnc ih =>
    obtain ⟨st, hrun, hst⟩ := ih
    obtain ⟨st', hset, hst'⟩ := rawStepT_ok H hlen t (binReachAll_canon H ops t hr) o hk t' hap hnc st hst
    refine ⟨st', ?_, hst'⟩
    rw [binRawRunAll_append, hrun, acceptedFrom_append,
      show ops.foldl Props.C12.step none = t from (binReachAll_run H ops t hr).symm]
    simp only [binRawRunAll, hset, acceptedFrom, hap]
  | refused ops t o e hr hk hap hnc ih =>
    obtain ⟨st, hrun, hst⟩ := ih
    have hset := rawStepT_refused H hlen t (binReachAll_canon H ops t hr) o e hap hnc st hst
    refine ⟨st, ?_, hst⟩
    rw [binRawRunAll_append, hrun, acceptedFrom_append,
      show ops.foldl Props.C12.step none = t from (binReachAll_run H ops t hr).symm]
    simp only [binRawRunAll, hset, acceptedFrom, hap]

/-- **the raw-level run with refusals**: same refusals as the tree level, root of the tree-level history, whole tree stored -/
theorem bin_history_with_refusals (hlen : ∀ b, (H b).length = 32) (ops : List Op) (t : Option BNode)
    (h : BinReachAll H ops t) :
    ∃ st, binRawRunAll H ops (H [], { db := [] }) = (acceptedFrom none ops, (rootOf H (run ops), st)) ∧
      (∀ n, run ops = some n → AllStored H st.db n) := by
  rw [← binReachAll_run H ops t h]
  exact binRawRunAll_refines H hlen ops t h

/-- **`get` over the database such a run leaves = the map model with the prefix rule** -/
theorem bin_history_with_refusals_get (hlen : ∀ b, (H b).length = 32) (ops : List Op) (t : Option BNode)
    (h : BinReachAll H ops t) (k : Bits) :
    ∃ st, (binRawRunAll H ops (H [], { db := [] })).2 = (rootOf H (run ops), st) ∧
      bgetD (H []) st.db (k.length + 1) (rootOf H (run ops)) k = .ok (spec ops k) := by
  obtain ⟨st, hrun, hst⟩ := binRawRunAll_refines H hlen ops t h
  cases binReachAll_run H ops t h
  exact ⟨st, by rw [hrun], Props.C12.run_get ops (binReachAll_keys H ops _ h) k ▸
    bgetD_allStored H hlen _ (binReachAll_canon H ops _ h) st.db hst k⟩

end
end PyTrie.Props.Raw
