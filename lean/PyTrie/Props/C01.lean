import PyTrie.Lemmas.HexTrav
/-! # C01 — HexaryTrie behaves as a byte-string map under every history

The theorems are about the tree-level functions `set`/`delete` (transcribed from
`_set*`/`_delete*`/`_normalize_branch_node`) and the code-shaped lookup `getT`
(`_traverse_from` + `_get`); `run` folds an arbitrary history over the empty trie.
Batches: a committed `squash_changes` block contributes its operations, an aborted one
contributes nothing (`flatten`); that the world-level executor behaves so is C05. -/
namespace PyTrie.Props.C01
open PyTrie PyTrie.Hex

/-- one call of a history; `set k []` routes to delete, as `HexaryTrie.set` does -/
inductive Op where
  | set (k v : Bytes)
  | delete (k : Bytes)

def applyOp (t : Node) : Op → Node
  | .set k v => if v = [] then Hex.delete t (nibs k) else Hex.set t (nibs k) v
  | .delete k => Hex.delete t (nibs k)

/-- the trie after a history that started from the empty database -/
def run (ops : List Op) : Node := ops.foldl applyOp .blank

def specStep (m : Bytes → Bytes) : Op → Bytes → Bytes
  | .set k v => fun k' => if k' = k then v else m k'
  | .delete k => fun k' => if k' = k then [] else m k'

/-- the map model: last value written per key, `[]` for everything else -/
def spec (ops : List Op) : Bytes → Bytes := ops.foldl specStep (fun _ => [])

/-- history items including squash_changes blocks -/
inductive HOp where
  | op (o : Op)
  | batch (committed : Bool) (ops : List Op)

def flatten : List HOp → List Op
  | [] => []
  | .op o :: r => o :: flatten r
  | .batch true ops :: r => ops ++ flatten r
  | .batch false _ :: r => flatten r

theorem get_set (t : Node) (k : Path) (v : Bytes) (k' : Path) :
    get (Hex.set t k v) k' = if k' = k then v else get t k' := Hex.get_set t k v k'

theorem get_delete (t : Node) (k k' : Path) :
    get (Hex.delete t k) k' = if k' = k then [] else get t k' := Hex.get_delete t k k'

theorem getT_eq_get (t : Node) (hc : Canon t) (k : Path) : getT t k = .ok (get t k) :=
  Hex.getT_eq_get t hc k

/-- distinct byte strings have distinct nibble paths (`bytes_to_nibbles` is injective) -/
theorem nibs_injective : ∀ (a b : Bytes), nibs a = nibs b → a = b
  | [], [], _ => rfl
  | [], _ :: _, h => by simp [nibs] at h
  | _ :: _, [], h => by simp [nibs] at h
  | x :: xs, y :: ys, h => by
    simp only [nibs, List.cons.injEq] at h
    obtain ⟨h1, h2, h3⟩ := h
    have e1 := congrArg Fin.val h1
    have e2 := congrArg Fin.val h2
    rw [nib_hi_val, nib_hi_val] at e1
    rw [nib_lo_val, nib_lo_val] at e2
    rw [UInt8.toNat_inj.1 (by omega : x.toNat = y.toNat), nibs_injective xs ys h3]

theorem canon_applyOp (t : Node) (o : Op) (hc : Canon t) : Canon (applyOp t o) := by
  cases o with
  | set k v =>
    simp only [applyOp]
    split
    · exact canon_delete _ _ hc
    · next hv => exact canon_set _ _ _ hv hc
  | delete k => exact canon_delete _ _ hc

theorem canon_foldl (ops : List Op) (t : Node) (hc : Canon t) : Canon (ops.foldl applyOp t) := by
  induction ops generalizing t with
  | nil => exact hc
  | cons o os ih => exact ih _ (canon_applyOp t o hc)

theorem canon_run (ops : List Op) : Canon (run ops) := canon_foldl ops .blank trivial

theorem get_applyOp (t : Node) (o : Op) (m : Bytes → Bytes) (h : ∀ k, get t (nibs k) = m k) :
    ∀ k, get (applyOp t o) (nibs k) = specStep m o k := by
  have inj (k' k : Bytes) : nibs k' = nibs k ↔ k' = k := ⟨nibs_injective _ _, congrArg nibs⟩
  intro k'
  cases o with
  | set k v =>
    simp only [applyOp, specStep]
    split
    · simp [Hex.get_delete, *]
    · simp [Hex.get_set, inj, h]
  | delete k => simp [applyOp, specStep, Hex.get_delete, inj, h]

theorem get_foldl (ops : List Op) (t : Node) (m : Bytes → Bytes) (h : ∀ k, get t (nibs k) = m k) :
    ∀ k, get (ops.foldl applyOp t) (nibs k) = ops.foldl specStep m k := by
  induction ops generalizing t m with
  | nil => exact h
  | cons o os ih => exact ih _ _ (get_applyOp t o m h)

/-- after any history the contents are exactly the map model, for every byte-string key -/
theorem run_get (ops : List Op) (k : Bytes) : get (run ops) (nibs k) = spec ops k :=
  get_foldl ops .blank (fun _ => []) (fun k => by simp [Hex.get]) k

/-- the lookup the code performs (`_traverse_from` then `_get`) returns the map model's answer and
    never raises, for every history and every lookup key: stored, absent, the empty key, proper
    prefixes of stored keys, extensions, mid-path divergences — there is no case distinction. -/
theorem run_getT_never_raises (ops : List Op) (k : Bytes) :
    getT (run ops) (nibs k) = .ok (spec ops k) := by
  rw [Hex.getT_eq_get _ (canon_run ops), run_get]

/-- batched histories: committed blocks count, aborted blocks do not -/
theorem run_flatten_getT (h : List HOp) (k : Bytes) :
    getT (run (flatten h)) (nibs k) = .ok (spec (flatten h) k) := run_getT_never_raises _ k

/-! ## Defect D1, as a machine-checked fact about the pinned `_get`
Two keys sharing five nibbles, lookup of a key that ends inside the extension. -/
def d1Trie : Node := Hex.set (Hex.set .blank [1,2,3,4,5,6] [97]) [1,2,3,4,5,7] [98]

def isExtErr : Except GetErr Bytes → Bool
  | .error .extensionWithRemainingKey => true
  | _ => false

theorem d1_pinned_raises : isExtErr (getPinned d1Trie [1,2]) = true := by decide
example : (match getT d1Trie [1,2] with | .ok v => v == [] | .error _ => false) = true := by decide

/-! non-vacuity: a concrete history with a prefix key, an overwrite and a delete -/
example : spec [.set [0x12,0x34] [1], .set [0x12] [2], .set [0x12,0x34] [3], .delete [0x12]] [0x12,0x34] = [3] := by
  decide

end PyTrie.Props.C01
