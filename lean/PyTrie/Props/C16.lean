import PyTrie.Lemmas.EncProofs
import PyTrie.Lemmas.HexDbProofs
/-! # C16 — path and node encodings are exact bijections matching their specifications

All statements are for every input, no length bound. `Nibbles.*` transcribes `trie/utils/nibbles.py`
over arbitrary ints with its validation, `Bin.*` transcribes `trie/utils/binaries.py` and the
binary-node half of `trie/utils/nodes.py`; `HPyp` is the Yellow Paper's HP function written out. -/
namespace PyTrie.Props.C16
open PyTrie PyTrie.Nibbles PyTrie.Bin PyTrie.EncSpec

theorem terminator_flag (x : List Nat) (hx : Valid x) (t : Bool) :
    removeTerminator (withTerm x t) = x ∧ isTerminated (withTerm x t) = t := by
  cases t
  · exact ⟨removeTerminator_valid x hx, isTerminated_valid x hx⟩
  · exact ⟨removeTerminator_concat x, isTerminated_concat x⟩

/-- `encode_nibbles` is the Yellow Paper's HP -/
theorem hp_is_yellow_paper (x : List Nat) (hx : Valid x) (t : Bool) :
    encodeNibbles (withTerm x t) = .ok (HPyp x t) := by
  obtain ⟨h1, h2⟩ := terminator_flag x hx t
  have : encodeNibbles (withTerm x t) = nibblesToBytes (hpNibs x t) := by
    unfold encodeNibbles hpNibs
    simp only [h1, h2]
    split <;> rfl
  rw [this, nibblesToBytes_ok _ (hpNibs_valid x hx t) (hpNibs_even x t), pack_eq_ypPairs, HPyp_eq]

/-- … and the tree model's `hp` (used for every stored node) is the same function -/
theorem tree_hp_is_yellow_paper (p : Hex.Path) (t : Bool) : Hex.hp p t = HPyp (p.map (·.val)) t := by
  rw [HPyp_eq, ← packNibs_eq_ypPairs]
  rfl

/-- `decode_nibbles` inverts it: the sequence and the terminator flag come back -/
theorem hp_decodes_back (x : List Nat) (hx : Valid x) (t : Bool) :
    decodeNibbles (HPyp x t) = .ok (withTerm x t) := by
  unfold decodeNibbles
  rw [HPyp_eq, b2n_ypPairs _ (hpNibs_valid x hx t) (hpNibs_even x t)]
  unfold hpNibs withTerm
  by_cases ho : x.length % 2 = 1 <;> cases t <;> simp [ho, addTerminator_valid x hx]

theorem nibbles_of_bytes_valid (b : Bytes) : Valid (bytesToNibbles b) ∧ (bytesToNibbles b).length = 2 * b.length := by
  induction b with
  | nil => exact ⟨by intro n hn; simp [bytesToNibbles] at hn, rfl⟩
  | cons a r ih =>
    refine ⟨?_, by simp [bytesToNibbles, ih.2]; omega⟩
    have := a.toNat_lt
    exact valid_cons (by omega) (valid_cons (by omega) ih.1)

theorem bytes_nibbles_bytes (b : Bytes) : nibblesToBytes (bytesToNibbles b) = .ok b := by
  have := nibbles_of_bytes_valid b
  rw [nibblesToBytes_ok _ this.1 (by omega), pack_b2n]

/-- nibbles → bytes → nibbles, for even-length in-range sequences; anything else is refused -/
theorem nibbles_bytes_nibbles (ns : List Nat) (hv : Valid ns) (he : ns.length % 2 = 0) :
    ∃ b, nibblesToBytes ns = .ok b ∧ bytesToNibbles b = ns :=
  ⟨pack ns, nibblesToBytes_ok ns hv he, by rw [pack_eq_ypPairs, b2n_ypPairs ns hv he]⟩

theorem bad_nibbles_refused (ns : List Nat) (h : ¬ Valid ns ∨ ns.length % 2 = 1) :
    nibblesToBytes ns = .error .invalidNibbles := by
  unfold nibblesToBytes
  split
  · rfl
  · rename_i hany
    rcases h with h | h
    · exfalso; apply h
      intro n hn
      simp only [List.any_eq_true, not_exists, not_and] at hany
      have := hany n hn
      simpa using this
    · simp [h]

theorem bytes_bits_bytes (b : Bytes) : ofBits (toBits b) = b := EncBits.ofBits_toBits b

theorem bits_bytes_bits (bits : Bits) (h : bits.length % 8 = 0) : toBits (ofBits bits) = bits :=
  EncBits.toBits_ofBits bits h

/-- key-path packing round-trips every bit string (the empty one included) -/
theorem keypath_roundtrip (p : Bits) : decodeKeypath (encodeKeypath p) = .ok p := EncBits.decodeKeypath_encodeKeypath p

/-- binary node encodings parse back to their parts -/
theorem kv_node_roundtrip (p : Bits) (hp : p ≠ []) (c : Bytes) (hc : c.length = 32) :
    ∃ b, encodeKv p c = .ok b ∧ parseNode b = .ok (.kv p c) := parseNode_encodeKv p hp c hc

theorem branch_node_roundtrip (l r : Bytes) (hl : l.length = 32) (hr : r.length = 32) :
    ∃ b, encodeBranch l r = .ok b ∧ parseNode b = .ok (.branch l r) := parseNode_encodeBranch l r hl hr

theorem leaf_node_roundtrip (v : Bytes) (hv : v ≠ []) :
    ∃ b, encodeLeaf v = .ok b ∧ parseNode b = .ok (.leaf v) := by
  refine ⟨2 :: v, by simp [encodeLeaf, hv], ?_⟩
  rw [EncBits.parseNode_two, if_neg hv]

/-- malformed binary nodes are rejected with `InvalidNode`: empty, unknown type byte, impossible length -/
theorem malformed_nodes_rejected (n : Bytes)
    (h : n = [] ∨ (∃ t r, n = t :: r ∧ t ≠ 0 ∧ t ≠ 1 ∧ t ≠ 2) ∨
         (∃ r, n = 1 :: r ∧ n.length ≠ 65) ∨ (∃ r, n = 0 :: r ∧ n.length ≤ 33) ∨ n = [2]) :
    parseNode n = .error .invalidNode := by
  rcases h with rfl | ⟨t, r, rfl, h0, h1, h2⟩ | ⟨r, rfl, h⟩ | ⟨r, rfl, h⟩ | rfl
  · rw [parseNode]
  · exact EncBits.parseNode_other t r h0 h1 h2
  · rw [EncBits.parseNode_one, if_pos h]
  · exact EncBits.parseNode_zero_short r h
  · rw [EncBits.parseNode_two, if_pos rfl]

/-- the encoders refuse empty key paths / values and child hashes that are not 32 bytes long -/
theorem encoders_validate (p : Bits) (c l r v : Bytes) :
    ((p = [] ∨ c.length ≠ 32) → encodeKv p c = .error .validation) ∧
    ((l.length ≠ 32 ∨ r.length ≠ 32) → encodeBranch l r = .error .validation) ∧
    (v = [] → encodeLeaf v = .error .validation) := by
  refine ⟨?_, ?_, ?_⟩
  · intro h
    unfold encodeKv
    by_cases hp : p = []
    · rw [if_pos hp]
    · rw [if_neg hp, if_pos (h.resolve_left hp)]
  · intro h; unfold encodeBranch; rw [if_pos h]
  · intro h; unfold encodeLeaf; rw [if_pos h]

/-- a hexary node read back from the database classifies as it was written and yields its key path -/
theorem hexary_leaf_classifies (H : Bytes → Bytes) (p : Hex.Path) (v : Bytes) :
    HexD.classify (Hex.toItem H (.leaf p v)) = .leaf p (.str v) := HexD.classify_leaf H p v

theorem hexary_ext_classifies (H : Bytes → Bytes) (p : Hex.Path) (c : Hex.Node) :
    HexD.classify (Hex.toItem H (.ext p c)) = .ext p (Hex.refOf H c) := HexD.classify_ext H p c

theorem hexary_path_decodes (p : Hex.Path) (t : Bool) : HexD.hpDecode (Hex.hp p t) = some (p, t) := HexD.hpDecode_hp p t

end PyTrie.Props.C16
