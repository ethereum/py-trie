import PyTrie.Lemmas.HistoryBlocksAux
import PyTrie.Props.FreeExec
import PyTrie.Props.C02
/-! # Whole histories with `squash_changes` blocks: contents, root, reads and pruning (C01, C02, C05, C06)

`Free.history_lockstep` says the tree-free world (what is run against the code) and the tree-carrying world agree along
every history with blocks. The theorems here say WHAT both compute: after any history of direct `set` / `delete` calls and
`squash_changes` blocks — each left normally (committed) or by an exception (aborted) — on a trie that started on an empty
database, pruning on or off,

* the trie is the tree-level run of the *flattened* history: committed blocks contribute their calls, aborted blocks
  contribute nothing (`history_blocks_world`);
* the database is complete for it and, when pruning, holds exactly the live nodes with true reference counts;
* `get` of the tree-free world returns the map model's value of the flattened history (`history_blocks_get`);
* its root hash is the Yellow Paper root of those contents (`history_blocks_root`).

`Good` is the run-level premise of `history_lockstep` (no hash collision among the data a call touches, the physical side
conditions, the call returns normally). -/
namespace PyTrie.Props.Free
open PyTrie PyTrie.Hex PyTrie.HexD PyTrie.HexW PyTrie.HexRaw PyTrie.HexFree
open PyTrie.Props.C01 (Op run spec)

/-- a call as the map model sees it (`set k b""` is a delete there too, as in `HexaryTrie.set`) -/
def toOp : Bytes × Option Bytes → Op
  | (k, some v) => .set k v
  | (k, none) => .delete k

/-- the calls that count: direct calls and the calls of committed blocks, in order; aborted blocks contribute nothing -/
def flattenSteps : List HStep → List Op
  | [] => []
  | .op k v :: r => toOp (k, v) :: flattenSteps r
  | .block inner false :: r => inner.map toOp ++ flattenSteps r
  | .block _ true :: r => flattenSteps r

theorem applyOp_toOp (t : Node) (kv : Bytes × Option Bytes) : C01.applyOp t (toOp kv) = opNode t kv := by
  obtain ⟨k, v⟩ := kv
  cases v <;> rfl

theorem foldl_inner (inner : List (Bytes × Option Bytes)) (t : Node) :
    inner.foldl opNode t = (inner.map toOp).foldl C01.applyOp t := by
  induction inner generalizing t with
  | nil => rfl
  | cons kv rest ih =>
    simp only [List.foldl_cons, List.map_cons]
    rw [applyOp_toOp, ih]

theorem foldl_steps (steps : List HStep) (t : Node) :
    steps.foldl stepNode t = (flattenSteps steps).foldl C01.applyOp t := by
  induction steps generalizing t with
  | nil => rfl
  | cons s rest ih =>
    cases s with
    | op k v =>
      simp only [List.foldl_cons, flattenSteps, stepNode]
      rw [applyOp_toOp, ih]
    | block inner raised =>
      cases raised with
      | false =>
        simp only [List.foldl_cons, flattenSteps, stepNode, List.foldl_append]
        rw [ih, foldl_inner]
      | true =>
        simp only [List.foldl_cons, flattenSteps, stepNode]
        rw [ih]

section
variable (H : Bytes → Bytes) (hlen : ∀ b, (H b).length = 32) {prune : Bool} {ops : List Op}
  {rW : List (Except Exn Unit) × World} {rF : FWorld → List (Except Exn Unit) × FWorld}
  (h : Tracks H prune (freshW H prune) (fun t => ops.foldl C01.applyOp t) rW rF)
include hlen h

/-- after a run from the fresh world that acts as the calls `ops`, the root pointer of the tree-free world is the root
    hash of the tree of `ops` -/
theorem tracks_root : (rF (FWorld.init H prune)).2.outer.root = rootHash H (run ops) :=
  (sim_root H prune _ _ (h.sim hlen _ (sim_fresh H prune)).2 h.inv).trans (congrArg (rootHash H) h.tree)

/-- … and its `get` returns the map model's value of `ops`, and never raises -/
theorem tracks_get (hbk : Dict.get? (rF (FWorld.init H prune)).2.base (blankRoot H) = none)
    (hsm : ∀ h b, Dict.get? (rF (FWorld.init H prune)).2.base h = some b → b.length < 2 ^ 64) (key : Bytes) :
    (rF (FWorld.init H prune)).2.get H false key = .ok (spec ops key) := by
  rw [sim_get H hlen prune _ _ (h.sim hlen _ (sim_fresh H prune)).2 h.inv hbk hsm key, ← C01.run_get]
  exact congrArg (fun t => Except.ok (Hex.get t (nibs key))) h.tree

end

theorem blocks_tracks (H : Bytes → Bytes) (prune : Bool) (steps : List HStep)
    (hgood : Good H (freshW H prune) steps) :
    Tracks H prune (freshW H prune) (fun t => (flattenSteps steps).foldl C01.applyOp t)
      (runW H (freshW H prune) steps) (fun fw => runF H fw steps) :=
  (runW_tracks H prune steps _ (winv_fresh H prune) hgood).congr (foldl_steps steps)

/-- **after any history with blocks the tree-carrying world holds the tree of the flattened history, a database complete
    for it, and — when pruning — exactly the live nodes with their true reference counts** -/
theorem history_blocks_world (H : Bytes → Bytes) (hlen : ∀ b, (H b).length = 32) (prune : Bool) (steps : List HStep)
    (hgood : Good H (freshW H prune) steps) :
    (runW H (freshW H prune) steps).2.batch = none ∧
    (runW H (freshW H prune) steps).2.tries.size = 1 ∧
    ((runW H (freshW H prune) steps).2.tries[0]!).tree = run (flattenSteps steps) ∧
    ((runW H (freshW H prune) steps).2.tries[0]!).prune = prune ∧
    Complete (stdHashing H) (blankRoot H) (runW H (freshW H prune) steps).2.base ((runW H (freshW H prune) steps).2.tries[0]!) ∧
    (prune = true →
      (∀ x, ((runW H (freshW H prune) steps).2.counts[0]!).val x = occRoot (stdHashing H) (run (flattenSteps steps)) x) ∧
      (∀ x, Dict.contains (runW H (freshW H prune) steps).2.base x = true ↔
              0 < occRoot (stdHashing H) (run (flattenSteps steps)) x)) := by
  have h := blocks_tracks H prune steps hgood
  have htree : ((runW H (freshW H prune) steps).2.tries[0]!).tree = run (flattenSteps steps) := h.tree
  have _ := hlen
  refine ⟨h.inv.nb, h.inv.tsz, htree, h.inv.pr, h.inv.comp, fun hp => ?_⟩
  rw [← htree]
  exact ⟨(h.inv.pinv hp).counts, (h.inv.pinv hp).keys⟩

/-- **the root hash of the tree-free world after any history with blocks is the root of the flattened history's tree**
    (hence, by `C02.root_is_yellow_paper_trie`, the Yellow Paper root of the contents; hence independent of how the calls
    were grouped into blocks, of aborted blocks, and of pruning) -/
theorem history_blocks_root (H : Bytes → Bytes) (hlen : ∀ b, (H b).length = 32) (prune : Bool) (steps : List HStep)
    (hgood : Good H (freshW H prune) steps) :
    (runF H (FWorld.init H prune) steps).2.outer.root = rootHash H (run (flattenSteps steps)) ∧
    (runF H (FWorld.init H prune) steps).2.outer.root =
      PyTrie.YP.ypRoot H (PyTrie.YP.height (run (flattenSteps steps))) (itemsOf (run (flattenSteps steps))) := by
  have hr := tracks_root H hlen (blocks_tracks H prune steps hgood)
  exact ⟨hr, hr.trans (C02.root_is_yellow_paper_trie H (flattenSteps steps))⟩

/-- **C01 over histories with blocks, for the tree-free world**: `get` (the raw-level reader over its database) returns
    the last value stored under the key by a direct call or a committed block, `b""` otherwise, and never raises -/
theorem history_blocks_get (H : Bytes → Bytes) (hlen : ∀ b, (H b).length = 32) (prune : Bool) (steps : List HStep)
    (hgood : Good H (freshW H prune) steps)
    (hbk : Dict.get? (runF H (FWorld.init H prune) steps).2.base (blankRoot H) = none)
    (hsm : ∀ h b, Dict.get? (runF H (FWorld.init H prune) steps).2.base h = some b → b.length < 2 ^ 64) (key : Bytes) :
    (runF H (FWorld.init H prune) steps).2.get H false key = .ok (spec (flattenSteps steps) key) :=
  tracks_get H hlen (blocks_tracks H prune steps hgood) hbk hsm key

/-- **C06 over histories with blocks, for the tree-free world**: reference counts are the true reference counts and the
    database holds exactly the live nodes -/
theorem history_blocks_pruning_exact (H : Bytes → Bytes) (hlen : ∀ b, (H b).length = 32) (steps : List HStep)
    (hgood : Good H (freshW H true) steps) :
    (∀ x, (runF H (FWorld.init H true) steps).2.counts.val x = occRoot (stdHashing H) (run (flattenSteps steps)) x) ∧
    (∀ x, Dict.contains (runF H (FWorld.init H true) steps).2.base x = true ↔
            0 < occRoot (stdHashing H) (run (flattenSteps steps)) x) := by
  obtain ⟨hbase, _, _, _, _, hcnt, _⟩ := (lockstep_history H hlen true steps hgood).2
  have h := (history_blocks_world H hlen true steps hgood).2.2.2.2.2 rfl
  rw [hbase, hcnt]
  exact h

/-- **grouping into blocks does not matter, aborted blocks do not matter, pruning does not matter**: two histories whose
    flattened call lists yield the same contents end at the same root hash -/
theorem history_blocks_root_depends_only_on_contents (H : Bytes → Bytes) (hlen : ∀ b, (H b).length = 32) (p₁ p₂ : Bool)
    (s₁ s₂ : List HStep) (h₁ : Good H (freshW H p₁) s₁) (h₂ : Good H (freshW H p₂) s₂)
    (heq : ∀ k, spec (flattenSteps s₁) k = spec (flattenSteps s₂) k) :
    (runF H (FWorld.init H p₁) s₁).2.outer.root = (runF H (FWorld.init H p₂) s₂).2.outer.root := by
  rw [(history_blocks_root H hlen p₁ s₁ h₁).1, (history_blocks_root H hlen p₂ s₂ h₂).1]
  exact C02.root_depends_only_on_contents H _ _ heq

end PyTrie.Props.Free
