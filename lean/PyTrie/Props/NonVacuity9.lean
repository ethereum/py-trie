import PyTrie.Props.NonVacuity5
import PyTrie.Props.HistoryBlocks
/-! # Non-vacuity, part 9: the whole-history-with-blocks theorems on the concrete history of part 5

`NonVacuity5.steps` = two direct writes, a committed block (overwrite + delete + write), an aborted block, a direct delete;
`Good` holds of it under the toy hash in both modes (`good_p`, `good_np`). Here `Free.history_blocks_*` are applied to it and
their conclusions cross-checked against direct kernel evaluation. -/
namespace PyTrie.Props.NonVacuity9
open PyTrie PyTrie.Hex PyTrie.Hex.Node PyTrie.HexD
open PyTrie.Props.NonVacuity PyTrie.Props.NonVacuity2 PyTrie.Props.NonVacuity4 PyTrie.Props.NonVacuity5
open PyTrie.HexW PyTrie.HexRaw PyTrie.HexFree
open PyTrie.Props.C01 (Op run spec)
open PyTrie.Props.Free (flattenSteps toOp)

/-- the flattened history: the aborted block `set k2 [9]` is gone, the committed block's three calls are in place -/
theorem flat_eq :
    flattenSteps steps =
      [.set k1 longV, .set k2 [5], .set k1 longW, .delete k2, .set k3 longV, .delete k1] := rfl

/-- the map model of the flattened history: only `k3` holds a value -/
theorem flat_spec : spec (flattenSteps steps) k3 = longV ∧ spec (flattenSteps steps) k1 = [] ∧
    spec (flattenSteps steps) k2 = [] := by
  rw [flat_eq]; decide +kernel

/-- `history_blocks_world` applies (pruning on): the tree is the tree of the flattened history, the database is complete,
    counts and keys are exact -/
theorem world_witness_p :
    ((HexFree.runW toyH (freshW toyH true) steps).2.tries[0]!).tree = run (flattenSteps steps) ∧
    Complete (stdHashing toyH) (blankRoot toyH) (HexFree.runW toyH (freshW toyH true) steps).2.base
      ((HexFree.runW toyH (freshW toyH true) steps).2.tries[0]!) ∧
    (∀ x, ((HexFree.runW toyH (freshW toyH true) steps).2.counts[0]!).val x =
        occRoot (stdHashing toyH) (run (flattenSteps steps)) x) :=
  have h := Free.history_blocks_world toyH toyH_len true steps good_p
  ⟨h.2.2.1, h.2.2.2.2.1, (h.2.2.2.2.2 rfl).1⟩

/-- … and pruning off -/
theorem world_witness_np :
    ((HexFree.runW toyH (freshW toyH false) steps).2.tries[0]!).tree = run (flattenSteps steps) ∧
    Complete (stdHashing toyH) (blankRoot toyH) (HexFree.runW toyH (freshW toyH false) steps).2.base
      ((HexFree.runW toyH (freshW toyH false) steps).2.tries[0]!) :=
  have h := Free.history_blocks_world toyH toyH_len false steps good_np
  ⟨h.2.2.1, h.2.2.2.2.1⟩

/-- the tree it speaks about is the one-leaf tree of part 5 (cross-check by evaluation) -/
theorem flat_tree : sameB (run (flattenSteps steps)) tFinal = true := by
  rw [flat_eq]; decide +kernel

/-- `history_blocks_root` applies in both modes; the two roots coincide, and both are the hash of the one-leaf tree -/
theorem root_witness :
    (runF toyH (FWorld.init toyH true) steps).2.outer.root = (runF toyH (FWorld.init toyH false) steps).2.outer.root ∧
    (runF toyH (FWorld.init toyH true) steps).2.outer.root = rootHash toyH (run (flattenSteps steps)) :=
  ⟨Free.history_blocks_root_depends_only_on_contents toyH toyH_len true false steps steps good_p good_np (fun _ => rfl),
   (Free.history_blocks_root toyH toyH_len true steps good_p).1⟩

def finalBaseP : Dict Bytes := (runF toyH (FWorld.init toyH true) steps).2.base
def finalBaseNP : Dict Bytes := (runF toyH (FWorld.init toyH false) steps).2.base

def isOkWith (r : Except Exn Bytes) (v : Bytes) : Bool :=
  match r with
  | .ok x => x == v
  | .error _ => false

/-- **the two final states of the tree-free world, evaluated once** -/
theorem final_eval :
    -- the side conditions of `history_blocks_get` on either database
    (Dict.get? finalBaseP (blankRoot toyH) = none ∧ finalBaseP.all (fun e => decide (e.2.length < 100)) = true) ∧
    (Dict.get? finalBaseNP (blankRoot toyH) = none ∧ finalBaseNP.all (fun e => decide (e.2.length < 100)) = true) ∧
    -- three reads
    (isOkWith ((runF toyH (FWorld.init toyH true) steps).2.get toyH false k3) longV = true ∧
      isOkWith ((runF toyH (FWorld.init toyH false) steps).2.get toyH false k3) longV = true ∧
      isOkWith ((runF toyH (FWorld.init toyH true) steps).2.get toyH false k2) [] = true) ∧
    -- the two databases as projections of the runs (for rewriting, as in `NonVacuity4.hist5_eval`)
    finalBaseP = (runF toyH (FWorld.init toyH true) steps).2.base ∧
    finalBaseNP = (runF toyH (FWorld.init toyH false) steps).2.base := by
  decide +kernel

theorem finalBaseP_blank : Dict.get? finalBaseP (blankRoot toyH) = none := final_eval.1.1
theorem finalBaseNP_blank : Dict.get? finalBaseNP (blankRoot toyH) = none := final_eval.2.1.1
theorem finalBaseP_short : ∀ h b, Dict.get? finalBaseP h = some b → b.length < 2 ^ 64 :=
  bodies_short64 finalBaseP final_eval.1.2
theorem finalBaseNP_short : ∀ h b, Dict.get? finalBaseNP h = some b → b.length < 2 ^ 64 :=
  bodies_short64 finalBaseNP final_eval.2.1.2

/-- `history_blocks_get` applies: the tree-free world reads `k3 ↦ longV` and nothing under `k1`, `k2` (written in the
    aborted block / deleted in the committed one), pruning on … -/
theorem get_witness_p :
    (runF toyH (FWorld.init toyH true) steps).2.get toyH false k3 = .ok longV ∧
    (runF toyH (FWorld.init toyH true) steps).2.get toyH false k2 = .ok [] ∧
    (runF toyH (FWorld.init toyH true) steps).2.get toyH false k1 = .ok [] := by
  have h := Free.history_blocks_get toyH toyH_len true steps good_p
  rw [← final_eval.2.2.2.1] at h
  replace h := h finalBaseP_blank finalBaseP_short
  exact ⟨by rw [h k3, flat_spec.1], by rw [h k2, flat_spec.2.2], by rw [h k1, flat_spec.2.1]⟩

/-- … and off -/
theorem get_witness_np :
    (runF toyH (FWorld.init toyH false) steps).2.get toyH false k3 = .ok longV ∧
    (runF toyH (FWorld.init toyH false) steps).2.get toyH false k2 = .ok [] := by
  have h := Free.history_blocks_get toyH toyH_len false steps good_np
  rw [← final_eval.2.2.2.2] at h
  replace h := h finalBaseNP_blank finalBaseNP_short
  exact ⟨by rw [h k3, flat_spec.1], by rw [h k2, flat_spec.2.2]⟩

/-- the same reads by direct evaluation of the tree-free world (independent of the theorem) -/
theorem get_evaluated :
    isOkWith ((runF toyH (FWorld.init toyH true) steps).2.get toyH false k3) longV = true ∧
    isOkWith ((runF toyH (FWorld.init toyH false) steps).2.get toyH false k3) longV = true ∧
    isOkWith ((runF toyH (FWorld.init toyH true) steps).2.get toyH false k2) [] = true :=
  final_eval.2.2.1

/-- `history_blocks_pruning_exact` applies: counts and database keys of the pruning run are the true ones -/
theorem pruning_witness :
    (∀ x, (runF toyH (FWorld.init toyH true) steps).2.counts.val x = occRoot (stdHashing toyH) (run (flattenSteps steps)) x) ∧
    (∀ x, Dict.contains (runF toyH (FWorld.init toyH true) steps).2.base x = true ↔
            0 < occRoot (stdHashing toyH) (run (flattenSteps steps)) x) :=
  Free.history_blocks_pruning_exact toyH toyH_len steps good_p

end PyTrie.Props.NonVacuity9
