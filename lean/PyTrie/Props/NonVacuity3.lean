import PyTrie.Props.NonVacuity2
import PyTrie.Props.C07
/-! # Non-vacuity, part 3: partial databases and atomic failure

Concrete witnesses for the raw-level C07 theorems (`raw_set_partial`, `raw_delete_partial`, `raw_traverse_partial`,
`raw_get_partial`, the `…_missing_on_path` and `raw_failed_…` theorems) and for `Raw.bin_refused_saves_nothing`.
The damaged databases are `rawDb` (the database of `t1`) with the body of one hashed node of `t1` removed. -/
namespace PyTrie.Props.NonVacuity3
open PyTrie PyTrie.Hex PyTrie.Hex.Node PyTrie.HexD PyTrie.HexRaw
open PyTrie.Props.NonVacuity PyTrie.Props.NonVacuity2

/-! ## 0. Damaged databases -/

/-- the database without the entries stored under `x` -/
def remove (db : Db) (x : Hash) : Db := db.filter fun e => !(e.1 == x)

theorem lookup_remove (db : Db) (x h : Hash) : lookup (remove db x) h = if h = x then none else lookup db h := by
  unfold lookup remove
  rw [List.find?_filter]
  split
  · next e => rw [List.find?_eq_none.2 (by simp [e])]; rfl
  · next ne =>
    congr 2
    funext a
    by_cases ha : a.1 = h
    · simp [ha, ne]
    · simp [ha]

theorem lookup_remove_self (db : Db) (x : Hash) : lookup (remove db x) x = none := by
  rw [lookup_remove]; simp

theorem lookup_remove_sub (db : Db) (x h : Hash) (b : Bytes) (hl : lookup (remove db x) h = some b) :
    lookup db h = some b := by
  rw [lookup_remove] at hl
  split at hl
  · cases hl
  · exact hl

/-- **a database that holds only (some of) the bodies of a stored tree is `PartialD` for it** -/
theorem partialD_of_storedD (H : Bytes → Bytes) (db db' : Db)
    (hsub : ∀ h b, lookup db' h = some b → lookup db h = some b) (t : Node) (hs : StoredD H db t) :
    PartialD H db' t := by
  have hc : ∀ c : Node, (isHashed H c = true → hashOf H c ≠ blankRoot H ∧ lookup db (hashOf H c) = some (enc H c) ∧
      rlpDecode (enc H c) = some (toItem H c)) → PartialC H db' c := by
    intro c h hh
    obtain ⟨h1, h2, h3⟩ := h hh
    exact ⟨h1, fun b hb => (Option.some.inj (h2.symm.trans (hsub _ _ hb))).symm, h3⟩
  induction t with
  | blank => trivial
  | leaf p v => trivial
  | ext p c ih => exact ⟨hc c hs.1, ih hs.2⟩
  | branch ch v ih => exact fun i => ⟨hc (ch i) (hs i).1, ih i (hs i).2⟩

theorem partialD_remove (H : Bytes → Bytes) (db : Db) (x : Hash) (t : Node) (hs : StoredD H db t) :
    PartialD H (remove db x) t :=
  partialD_of_storedD H db _ (lookup_remove_sub db x) t hs

/-- the hashes of the three hashed nodes of `t1`: the leaf holding `longV`, the branch, the root extension -/
def hLeaf : Hash := hashOf toyH (leaf [] longV)
def hBr : Hash := hashOf toyH t1br
def hRoot : Hash := hashOf toyH t1

/-- `rawDb` without the hashed leaf / without the hashed branch / without the root -/
def dbA : Db := remove rawDb hLeaf
def dbB : Db := remove rawDb hBr
def dbC : Db := remove rawDb hRoot

/- The elaborator may not run the executor to see what `rawDb` holds (it would, to compare `{ db := dbA, .. }.db`
   with `dbA`); all that is computed here is computed by the kernel, in the lemmas `…_eval`, each of which evaluates
   the calls of one section together so that the encodings and hashes of the nodes of `t1` are computed once. -/
attribute [local irreducible] rawDb

theorem t1_partialA : PartialD toyH dbA t1 := partialD_remove toyH rawDb hLeaf t1 t1_storedD
theorem t1_partialB : PartialD toyH dbB t1 := partialD_remove toyH rawDb hBr t1 t1_storedD
theorem t1_partialC : PartialD toyH dbC t1 := partialD_remove toyH rawDb hRoot t1 t1_storedD

/-- the damage is real: three of the four bodies are left, the removed ones are absent, the others still there -/
theorem db_eval :
    (rawDb.length = 4 ∧ dbA.length = 3 ∧ dbB.length = 3 ∧ dbC.length = 3) ∧
    (lookup dbA hLeaf = none ∧ lookup dbA hBr = some (enc toyH t1br) ∧ lookup dbA hRoot = some (enc toyH t1)) ∧
    (lookup dbB hBr = none ∧ lookup dbB hLeaf = some (enc toyH (leaf [] longV)) ∧
      lookup dbB hRoot = some (enc toyH t1)) := by
  decide +kernel

example : rawDb.length = 4 ∧ dbA.length = 3 ∧ dbB.length = 3 ∧ dbC.length = 3 := db_eval.1

theorem dbA_lookups : lookup dbA hLeaf = none ∧ lookup dbA hBr = some (enc toyH t1br) ∧ lookup dbA hRoot = some (enc toyH t1) :=
  db_eval.2.1

theorem dbB_lookups : lookup dbB hBr = none ∧ lookup dbB hLeaf = some (enc toyH (leaf [] longV)) ∧
    lookup dbB hRoot = some (enc toyH t1) :=
  db_eval.2.2

/-- reading off the hash of a `missing` report (the error types have no decidable equality) -/
def missOf {α : Type} : Except HexRaw.Err α → Option Hash
  | .error (.missing h) => some h
  | _ => none

theorem eq_of_missOf {α : Type} (r : Except HexRaw.Err α) (h : Hash) (hm : missOf r = some h) : r = .error (.missing h) := by
  unfold missOf at hm
  split at hm
  · injection hm with hm; rw [hm]
  · cases hm

/-! ## 1. `_set` on a damaged database -/
section SetPartial

/-- the fetches of a call, in order -/
def readsOf (es : List Ev) : List Hash := es.filterMap fun e => match e with | .read h => some h | _ => none

/-- the `_set` calls of this section against `dbA` and `dbB` -/
theorem set_eval :
    (firstMissing dbA (setE (stdHashing toyH) t1 (nibs k1) [9]).2 = some hLeaf ∧
      readsOf (setE (stdHashing toyH) t1 (nibs k1) [9]).2 = [hBr, hLeaf]) ∧
    (firstMissing dbA (setE (stdHashing toyH) t1 (nibs k2) [7]).2 = none ∧
      readsOf (setE (stdHashing toyH) t1 (nibs k2) [7]).2 = [hBr] ∧
      sameB (setE (stdHashing toyH) t1 (nibs k2) [7]).1 t2 = true) ∧
    firstMissing dbB (setE (stdHashing toyH) t1 (nibs k1) [9]).2 = some hBr ∧
    firstMissing dbB (setE (stdHashing toyH) t1 (nibs [0x24]) [9]).2 = none := by
  decide +kernel

/-- the first fetch of `set(k1, [9])` that `dbA` cannot answer is the hashed leaf (the branch above it is found) -/
theorem setA_firstMissing : firstMissing dbA (setE (stdHashing toyH) t1 (nibs k1) [9]).2 = some hLeaf :=
  set_eval.1.1

/-- the fetches of that call: the branch, then the leaf -/
example : (setE (stdHashing toyH) t1 (nibs k1) [9]).2.filterMap (fun e => match e with | .read h => some h | _ => none)
    = [hBr, hLeaf] := set_eval.1.2

/-- **`raw_set_partial` applies and says the call stops at the removed leaf** -/
theorem set_partial_fails (evs : List Ev) :
    rawSet toyH 10 { db := dbA, evs := evs } (toItem toyH t1) (nibs k1) [9] = .error (.missing hLeaf) := by
  rw [C07.raw_set_partial toyH toyH_len t1 t1_canon (nibs k1) [9] { db := dbA, evs := evs } t1_partialA 10 (by decide)]
  simp only [setA_firstMissing]

/-- **`raw_set_missing_on_path` applies**: the reported hash is absent and lies on the key's path -/
theorem set_missing_on_path :
    lookup dbA hLeaf = none ∧ HexW.OnPath (stdHashing toyH) t1 (nibs k1) hLeaf :=
  C07.raw_set_missing_on_path toyH toyH_len t1 t1_canon (nibs k1) [9] { db := dbA, evs := [] } t1_partialA 10 (by decide)
    hLeaf (set_partial_fails [])

/-- another key (`k2`, the embedded leaf next to the removed one) does not need the removed node … -/
theorem setA_other_firstMissing : firstMissing dbA (setE (stdHashing toyH) t1 (nibs k2) [7]).2 = none :=
  set_eval.2.1.1

/-- … and the call returns what it returns on the complete database (one fetch, of the branch) -/
theorem set_partial_ok (evs : List Ev) :
    rawSet toyH 10 { db := dbA, evs := evs } (toItem toyH t1) (nibs k2) [7] =
      .ok (toItem toyH (setE (stdHashing toyH) t1 (nibs k2) [7]).1,
        { db := applyPersists dbA (setE (stdHashing toyH) t1 (nibs k2) [7]).2,
          evs := evs ++ (setE (stdHashing toyH) t1 (nibs k2) [7]).2 }) := by
  rw [C07.raw_set_partial toyH toyH_len t1 t1_canon (nibs k2) [7] { db := dbA, evs := evs } t1_partialA 10 (by decide)]
  simp only [setA_other_firstMissing]

example : (setE (stdHashing toyH) t1 (nibs k2) [7]).2.filterMap (fun e => match e with | .read h => some h | _ => none)
    = [hBr] ∧ (setE (stdHashing toyH) t1 (nibs k2) [7]).1 = t2 :=
  ⟨set_eval.2.1.2.1, sameB_eq _ _ set_eval.2.1.2.2⟩

/-- with the branch removed instead, the same `set(k1, …)` stops one node earlier … -/
theorem setB_firstMissing : firstMissing dbB (setE (stdHashing toyH) t1 (nibs k1) [9]).2 = some hBr :=
  set_eval.2.2.1

theorem set_partial_fails_B (evs : List Ev) :
    rawSet toyH 10 { db := dbB, evs := evs } (toItem toyH t1) (nibs k1) [9] = .error (.missing hBr) := by
  rw [C07.raw_set_partial toyH toyH_len t1 t1_canon (nibs k1) [9] { db := dbB, evs := evs } t1_partialB 10 (by decide)]
  simp only [setB_firstMissing]

theorem set_missing_on_path_B :
    lookup dbB hBr = none ∧ HexW.OnPath (stdHashing toyH) t1 (nibs k1) hBr :=
  C07.raw_set_missing_on_path toyH toyH_len t1 t1_canon (nibs k1) [9] { db := dbB, evs := [] } t1_partialB 10 (by decide)
    hBr (set_partial_fails_B [])

/-- … and a key that leaves the root extension at its first nibble (`0x24`) fetches nothing at all -/
theorem setB_other_firstMissing : firstMissing dbB (setE (stdHashing toyH) t1 (nibs [0x24]) [9]).2 = none :=
  set_eval.2.2.2

theorem set_partial_ok_B (evs : List Ev) :
    rawSet toyH 10 { db := dbB, evs := evs } (toItem toyH t1) (nibs [0x24]) [9] =
      .ok (toItem toyH (setE (stdHashing toyH) t1 (nibs [0x24]) [9]).1,
        { db := applyPersists dbB (setE (stdHashing toyH) t1 (nibs [0x24]) [9]).2,
          evs := evs ++ (setE (stdHashing toyH) t1 (nibs [0x24]) [9]).2 }) := by
  rw [C07.raw_set_partial toyH toyH_len t1 t1_canon (nibs [0x24]) [9] { db := dbB, evs := evs } t1_partialB 10 (by decide)]
  simp only [setB_other_firstMissing]

end SetPartial

/-! ## 2. `_delete` on a damaged database -/
section DeletePartial

/-- the `_delete` calls of this section against `dbA`; the two nodes on the path of `k2` below the root do not
    have the hash of the removed leaf -/
theorem delete_eval :
    firstMissing dbA (deleteE (stdHashing toyH) t1 (nibs k1)).2 = some hLeaf ∧
    firstMissing dbA (deleteE (stdHashing toyH) t1 (nibs k2)).2 = some hLeaf ∧
    (firstMissing dbA (deleteE (stdHashing toyH) t1 (nibs [0x14])).2 = none ∧
      readsOf (deleteE (stdHashing toyH) t1 (nibs [0x14])).2 = [hBr]) ∧
    (stdHashing toyH).hashOf t1br ≠ hLeaf ∧ (stdHashing toyH).hashOf (leaf [] [5]) ≠ hLeaf := by
  decide +kernel

/-- `delete(k1)` walks to the removed leaf itself: the first unanswered fetch is the leaf -/
theorem delA_firstMissing : firstMissing dbA (deleteE (stdHashing toyH) t1 (nibs k1)).2 = some hLeaf :=
  delete_eval.1

/-- **`raw_delete_partial` applies: the delete stops at the removed node** -/
theorem delete_partial_fails (evs : List Ev) :
    rawDelete toyH 10 { db := dbA, evs := evs } (toItem toyH t1) (nibs k1) = .error (.missing hLeaf) := by
  rw [C07.raw_delete_partial toyH toyH_len t1 t1_canon (nibs k1) { db := dbA, evs := evs } t1_partialA 10 (by decide)]
  simp only [delA_firstMissing]

/-- **`raw_delete_missing_on_path` applies** -/
theorem delete_missing_on_path :
    lookup dbA hLeaf = none ∧
      (HexW.OnPath (stdHashing toyH) t1 (nibs k1) hLeaf ∨ HexW.SiblingOnPath (stdHashing toyH) t1 (nibs k1) hLeaf) :=
  C07.raw_delete_missing_on_path toyH toyH_len t1 t1_canon (nibs k1) { db := dbA, evs := [] } t1_partialA 10 (by decide)
    hLeaf (delete_partial_fails [])

/-- `delete(k2)` removes the embedded leaf next to it; the branch is left with one child and
    `_normalize_branch_node` must fetch that child — the removed leaf, which is *not* on the path of `k2` -/
theorem delA_sibling_firstMissing : firstMissing dbA (deleteE (stdHashing toyH) t1 (nibs k2)).2 = some hLeaf :=
  delete_eval.2.1

theorem delete_partial_fails_sibling (evs : List Ev) :
    rawDelete toyH 10 { db := dbA, evs := evs } (toItem toyH t1) (nibs k2) = .error (.missing hLeaf) := by
  rw [C07.raw_delete_partial toyH toyH_len t1 t1_canon (nibs k2) { db := dbA, evs := evs } t1_partialA 10 (by decide)]
  simp only [delA_sibling_firstMissing]

theorem delete_missing_sibling :
    lookup dbA hLeaf = none ∧
      (HexW.OnPath (stdHashing toyH) t1 (nibs k2) hLeaf ∨ HexW.SiblingOnPath (stdHashing toyH) t1 (nibs k2) hLeaf) :=
  C07.raw_delete_missing_on_path toyH toyH_len t1 t1_canon (nibs k2) { db := dbA, evs := [] } t1_partialA 10 (by decide)
    hLeaf (delete_partial_fails_sibling [])

/-- here the second disjunct is the one that holds: no node on the path of `k2` has that hash -/
theorem delete_sibling_not_on_path : ¬ HexW.OnPath (stdHashing toyH) t1 (nibs k2) hLeaf := by
  rintro ⟨q, n, hq, hne, hn, _, he⟩
  have hk : nibs k2 = [1, 3] := by decide
  rw [hk] at hq
  rw [t1_eq] at hn
  obtain rfl | ⟨t, rfl, rfl | rfl⟩ : q = [] ∨ ∃ t, q = 1 :: t ∧ (t = [] ∨ t = [3]) := by
    simpa [List.prefix_cons_iff] using hq
  · exact hne rfl
  · obtain rfl : t1br = n := by simpa [t1', nodeAt] using hn
    exact delete_eval.2.2.2.1 he
  · obtain rfl : leaf [] [5] = n := by simpa [t1', t1br, nodeAt, upd] using hn
    exact delete_eval.2.2.2.2 he

theorem delete_sibling_on_path : HexW.SiblingOnPath (stdHashing toyH) t1 (nibs k2) hLeaf :=
  delete_missing_sibling.2.resolve_left delete_sibling_not_on_path

/-- a delete that fetches the branch but neither of its hashed children (absent key `0x14`) goes through -/
theorem delA_other_firstMissing : firstMissing dbA (deleteE (stdHashing toyH) t1 (nibs [0x14])).2 = none :=
  delete_eval.2.2.1.1

theorem delete_partial_ok (evs : List Ev) :
    rawDelete toyH 10 { db := dbA, evs := evs } (toItem toyH t1) (nibs [0x14]) =
      .ok (toItem toyH (deleteE (stdHashing toyH) t1 (nibs [0x14])).1,
        { db := applyPersists dbA (deleteE (stdHashing toyH) t1 (nibs [0x14])).2,
          evs := evs ++ (deleteE (stdHashing toyH) t1 (nibs [0x14])).2 }) := by
  rw [C07.raw_delete_partial toyH toyH_len t1 t1_canon (nibs [0x14]) { db := dbA, evs := evs } t1_partialA 10 (by decide)]
  simp only [delA_other_firstMissing]

example : (deleteE (stdHashing toyH) t1 (nibs [0x14])).2.filterMap (fun e => match e with | .read h => some h | _ => none)
    = [hBr] := delete_eval.2.2.1.2

end DeletePartial

/-! ## 3. Traversals and lookups on a damaged database -/
section ReadPartial

/-- the traversals and lookups of this section; what `RootPartial` asks of the root of `t1`; the two keys as nibbles -/
theorem read_eval :
    (firstMissingRead toyH dbA t1 [1, 2] [] = some (hLeaf, [1, 2]) ∧
      firstMissingRead toyH dbB t1 [1, 2] [] = some (hBr, [1]) ∧
      firstMissingRead toyH dbA t1 [1, 3] [] = none ∧ firstMissingRead toyH dbA t1 [1] [] = none) ∧
    (isBlank t1 = false ∧ hRoot ≠ blankRoot toyH ∧ (enc toyH t1).length < 2 ^ 64) ∧
    nibs k1 = [1, 2] ∧ nibs k2 = [1, 3] ∧ Hex.get t1 [1, 3] = [5] := by
  decide +kernel

theorem travA_firstMissing : firstMissingRead toyH dbA t1 [1, 2] [] = some (hLeaf, [1, 2]) := read_eval.1.1
theorem travB_firstMissing : firstMissingRead toyH dbB t1 [1, 2] [] = some (hBr, [1]) := read_eval.1.2.1
theorem travA_other : firstMissingRead toyH dbA t1 [1, 3] [] = none := read_eval.1.2.2.1

/-- **`raw_traverse_partial` applies**: `traverse((1, 2))` through the removed leaf reports it with the two nibbles
    consumed to reach it … -/
theorem traverse_partial_fails :
    traverseOutD toyH dbA 3 (toItem toyH t1) [1, 2] = .error (.missing hLeaf [1, 2]) := by
  rw [C07.raw_traverse_partial toyH toyH_len dbA t1 t1_canon t1_partialA [1, 2] 3 (by decide)]
  simp only [travA_firstMissing]

/-- … with the branch removed, the same traversal reports the branch after one nibble … -/
theorem traverse_partial_fails_B :
    traverseOutD toyH dbB 3 (toItem toyH t1) [1, 2] = .error (.missing hBr [1]) := by
  rw [C07.raw_traverse_partial toyH toyH_len dbB t1 t1_canon t1_partialB [1, 2] 3 (by decide)]
  simp only [travB_firstMissing]

/-- … and a traversal to the embedded leaf avoids the removed node and returns the complete-database result -/
theorem traverse_partial_ok :
    traverseOutD toyH dbA 3 (toItem toyH t1) [1, 3] = .ok (TravOut.toD toyH (traverseOut t1 [1, 3])) := by
  rw [C07.raw_traverse_partial toyH toyH_len dbA t1 t1_canon t1_partialA [1, 3] 3 (by decide)]
  simp only [travA_other]

/-- a traversal stopping inside the root extension's successor: `traverse((1,))` on `dbA` returns the branch node -/
theorem traverse_partial_ok_branch :
    traverseOutD toyH dbA 2 (toItem toyH t1) [1] = .ok (TravOut.toD toyH (traverseOut t1 [1])) := by
  rw [C07.raw_traverse_partial toyH toyH_len dbA t1 t1_canon t1_partialA [1] 2 (by decide)]
  simp only [read_eval.1.2.2.2]

/-- `RootPartial` for a database that holds under `hRoot` the body of `t1` or nothing … -/
theorem rootPartial_t1 (db : Db) (hl : ∀ b, lookup db hRoot = some b → b = enc toyH t1) : RootPartial toyH db hRoot t1 := by
  unfold RootPartial
  rw [if_neg (by rw [read_eval.2.1.1]; exact Bool.false_ne_true)]
  exact ⟨rfl, read_eval.2.1.2.1, hl, rlpDecode_rlp_of_length_lt (toItem toyH t1) read_eval.2.1.2.2⟩

/-- … in particular for one in which the root's body is present … -/
theorem rootPartial_of_lookup (db : Db) (hl : lookup db hRoot = some (enc toyH t1)) : RootPartial toyH db hRoot t1 :=
  rootPartial_t1 db fun b hb => (Option.some.inj (hl.symm.trans hb)).symm

theorem t1_rootA : RootPartial toyH dbA hRoot t1 := rootPartial_of_lookup dbA dbA_lookups.2.2
theorem t1_rootB : RootPartial toyH dbB hRoot t1 := rootPartial_of_lookup dbB dbB_lookups.2.2

/-- … and for one from which it was removed -/
theorem t1_rootC : RootPartial toyH dbC hRoot t1 :=
  rootPartial_t1 dbC fun b hb => by rw [show lookup dbC hRoot = none from lookup_remove_self rawDb hRoot] at hb; cases hb

/-- the root's body being present, `get` goes on to the traversal -/
theorem root_present (db : Db) (hl : lookup db hRoot = some (enc toyH t1)) :
    ¬ (isBlank t1 = false ∧ lookup db hRoot = none) := fun h => by rw [hl] at h; cases h.2

/-- **`raw_get_partial` applies**: `get(k1)` reports the removed leaf at `(1, 2)` … -/
theorem get_partial_fails : getD toyH dbA hRoot (nibs k1) = .error (.missing hLeaf [1, 2]) := by
  rw [C07.raw_get_partial toyH toyH_len dbA hRoot t1 t1_canon t1_rootA t1_partialA (nibs k1),
    if_neg (root_present dbA dbA_lookups.2.2), read_eval.2.2.1, travA_firstMissing]

theorem get_partial_fails_B : getD toyH dbB hRoot (nibs k1) = .error (.missing hBr [1]) := by
  rw [C07.raw_get_partial toyH toyH_len dbB hRoot t1 t1_canon t1_rootB t1_partialB (nibs k1),
    if_neg (root_present dbB dbB_lookups.2.2), read_eval.2.2.1, travB_firstMissing]

/-- … `get(k2)` avoids it and returns the value … -/
theorem get_partial_ok : getD toyH dbA hRoot (nibs k2) = .ok [5] := by
  rw [C07.raw_get_partial toyH toyH_len dbA hRoot t1 t1_canon t1_rootA t1_partialA (nibs k2),
    if_neg (root_present dbA dbA_lookups.2.2), read_eval.2.2.2.1, travA_other, read_eval.2.2.2.2]

/-- … and with the root's body removed every lookup reports the root with no nibbles consumed -/
theorem get_partial_root_missing (k : Path) : getD toyH dbC hRoot k = .error (.missing hRoot []) := by
  rw [C07.raw_get_partial toyH toyH_len dbC hRoot t1 t1_canon t1_rootC t1_partialC k,
    if_pos ⟨read_eval.2.1.1, lookup_remove_self rawDb hRoot⟩]

end ReadPartial

/-! ## 4. A failed call has written nothing -/
section Atomic
open PyTrie.HexRawT

/-- the state a call starts from: the damaged database and some earlier traffic -/
def stA : HexRaw.St := { db := dbA, evs := [.read hRoot] }

/-- the calls on `stA`: `_set(k1)` stops at the removed leaf, having recorded two prune marks and the fetch of the
    branch; so does `_delete(k1)`; `_delete(k2)` fails *after* its sub-delete returned (in `_normalize_branch_node`,
    fetching the sibling): the one place where a fetch follows the point at which `_delete` could have persisted
    something -/
theorem stA_eval :
    (missOf (rawSetT toyH 10 stA (toItem toyH t1) (nibs k1) [9]).2 = some hLeaf ∧
      (rawSetT toyH 10 stA (toItem toyH t1) (nibs k1) [9]).1.evs = [.read hRoot, .prune hRoot, .read hBr, .prune hBr]) ∧
    missOf (rawDeleteT toyH 10 stA (toItem toyH t1) (nibs k1)).2 = some hLeaf ∧
    missOf (rawDeleteT toyH 10 stA (toItem toyH t1) (nibs k2)).2 = some hLeaf := by
  decide +kernel

/-- hypothesis of `raw_failed_set_writes_nothing`, by evaluation: `_set` stops at the removed leaf -/
theorem setT_fails : (rawSetT toyH 10 stA (toItem toyH t1) (nibs k1) [9]).2 = .error (.missing hLeaf) :=
  eq_of_missOf _ _ stA_eval.1.1

theorem failed_set_quiet : Quiet stA (rawSetT toyH 10 stA (toItem toyH t1) (nibs k1) [9]).1 :=
  C07.raw_failed_set_writes_nothing toyH hLeaf 10 stA (toItem toyH t1) (nibs k1) [9] setT_fails

/-- what the failed call did record before stopping: two prune marks and the fetch of the branch -/
example : (rawSetT toyH 10 stA (toItem toyH t1) (nibs k1) [9]).1.evs = [.read hRoot, .prune hRoot, .read hBr, .prune hBr] :=
  stA_eval.1.2

/-- hypothesis of `raw_failed_delete_writes_nothing`: `_delete(k1)` stops at the removed leaf … -/
theorem deleteT_fails : (rawDeleteT toyH 10 stA (toItem toyH t1) (nibs k1)).2 = .error (.missing hLeaf) :=
  eq_of_missOf _ _ stA_eval.2.1

theorem failed_delete_quiet : Quiet stA (rawDeleteT toyH 10 stA (toItem toyH t1) (nibs k1)).1 :=
  C07.raw_failed_delete_writes_nothing toyH toyH_len hLeaf 10 stA (toItem toyH t1) (nibs k1) deleteT_fails

/-- … and so does `_delete(k2)`, at the sibling fetch -/
theorem deleteT_fails_sibling : (rawDeleteT toyH 10 stA (toItem toyH t1) (nibs k2)).2 = .error (.missing hLeaf) :=
  eq_of_missOf _ _ stA_eval.2.2

theorem failed_delete_sibling_quiet : Quiet stA (rawDeleteT toyH 10 stA (toItem toyH t1) (nibs k2)).1 :=
  C07.raw_failed_delete_writes_nothing toyH toyH_len hLeaf 10 stA (toItem toyH t1) (nibs k2) deleteT_fails_sibling

/-- the two models agree on these calls (`rawT_set_agrees`), so the failures above are those of section 1 / 2 -/
example : rawSet toyH 10 stA (toItem toyH t1) (nibs k1) [9] = forget (rawSetT toyH 10 stA (toItem toyH t1) (nibs k1) [9]) :=
  C07.rawT_set_agrees toyH 10 stA (toItem toyH t1) (nibs k1) [9]

/-- end to end, on the trie with root `hRoot`: `set(k1, [9])`, `delete(k2)` (sibling fetch) and `set(k2, b'')` (which is
    a delete) over `dbA` stop at the removed leaf; any call over `dbC` stops at the root; for contrast, the call that
    avoids the removed leaf succeeds and does grow the database -/
theorem opT_eval :
    missOf (rawOpT toyH dbA hRoot k1 (some [9])).2 = some hLeaf ∧
    missOf (rawOpT toyH dbA hRoot k2 none).2 = some hLeaf ∧
    missOf (rawOpT toyH dbA hRoot k2 (some [])).2 = some hLeaf ∧
    missOf (rawOpT toyH dbC hRoot k2 (some [7])).2 = some hRoot ∧
    (match (rawOpT toyH dbA hRoot k2 (some [7])).2 with | .ok _ => true | .error _ => false) = true ∧
    (rawOpT toyH dbA hRoot k2 (some [7])).1.db.length = dbA.length + 2 := by
  decide +kernel

theorem opT_set_fails : (rawOpT toyH dbA hRoot k1 (some [9])).2 = .error (.missing hLeaf) :=
  eq_of_missOf _ _ opT_eval.1

theorem failed_set_leaves_db : (rawOpT toyH dbA hRoot k1 (some [9])).1.db = dbA :=
  C07.raw_failed_op_leaves_db toyH toyH_len dbA hRoot k1 (some [9]) hLeaf opT_set_fails

theorem opT_delete_fails : (rawOpT toyH dbA hRoot k2 none).2 = .error (.missing hLeaf) :=
  eq_of_missOf _ _ opT_eval.2.1

theorem failed_delete_leaves_db : (rawOpT toyH dbA hRoot k2 none).1.db = dbA :=
  C07.raw_failed_op_leaves_db toyH toyH_len dbA hRoot k2 none hLeaf opT_delete_fails

theorem opT_set_empty_fails : (rawOpT toyH dbA hRoot k2 (some [])).2 = .error (.missing hLeaf) :=
  eq_of_missOf _ _ opT_eval.2.2.1

theorem failed_set_empty_leaves_db : (rawOpT toyH dbA hRoot k2 (some [])).1.db = dbA :=
  C07.raw_failed_op_leaves_db toyH toyH_len dbA hRoot k2 (some []) hLeaf opT_set_empty_fails

theorem opT_root_fails : (rawOpT toyH dbC hRoot k2 (some [7])).2 = .error (.missing hRoot) :=
  eq_of_missOf _ _ opT_eval.2.2.2.1

theorem failed_root_leaves_db : (rawOpT toyH dbC hRoot k2 (some [7])).1.db = dbC :=
  C07.raw_failed_op_leaves_db toyH toyH_len dbC hRoot k2 (some [7]) hRoot opT_root_fails

example : (match (rawOpT toyH dbA hRoot k2 (some [7])).2 with | .ok _ => true | .error _ => false) = true ∧
    (rawOpT toyH dbA hRoot k2 (some [7])).1.db.length = dbA.length + 2 := opT_eval.2.2.2.2

end Atomic

/-! ## 5. Binary trie: a refused `set` has saved nothing -/
section BinRefused
open PyTrie.Bin PyTrie.Bin.BNode PyTrie.BinRaw

/-- `Except` has no decidable equality: test for the `NodeOverrideError` outcome -/
def isOverride {α : Type} : Except BinRaw.Err α → Bool
  | .error .override => true
  | _ => false

theorem eq_of_isOverride {α : Type} (r : Except BinRaw.Err α) (h : isOverride r = true) : r = .error .override := by
  unfold isOverride at h
  split at h
  · rfl
  · cases h

/-- four refused calls on `bt` over `btDb`, and for contrast the accepted `set(000, …)` of
    `NonVacuity.bin_set_witness`, which saves four nodes -/
theorem bin_eval :
    isOverride (BinRawT.rawSetT mixH (mixH []) 10 { db := btDb } (hashNode mixH bt) [false, false] [0x11] false).2 = true ∧
    isOverride (BinRawT.rawSetT mixH (mixH []) 10 { db := btDb } (hashNode mixH bt) [true, false] [0x11] false).2 = true ∧
    isOverride (BinRawT.rawSetT mixH (mixH []) 10 { db := btDb } (hashNode mixH bt) [false, false, true, false, false]
      [0x11] false).2 = true ∧
    isOverride (BinRawT.rawSetT mixH (mixH []) 10 { db := btDb } (hashNode mixH bt) [false] [] false).2 = true ∧
    (BinRawT.rawSetT mixH (mixH []) 10 { db := btDb } (hashNode mixH bt) bk [0xee] false).1.db.length = btDb.length + 4 := by
  decide +kernel

/-- `00` is a proper prefix of the stored keys `0010`, `0011`: `NodeOverrideError` (raised at the kv node below the root) -/
theorem bin_prefix_refused :
    (BinRawT.rawSetT mixH (mixH []) 10 { db := btDb } (hashNode mixH bt) [false, false] [0x11] false).2 = .error .override :=
  eq_of_isOverride _ bin_eval.1

theorem bin_prefix_saves_nothing :
    (BinRawT.rawSetT mixH (mixH []) 10 { db := btDb } (hashNode mixH bt) [false, false] [0x11] false).1 = { db := btDb } :=
  Raw.bin_refused_saves_nothing mixH (mixH []) 10 { db := btDb } (hashNode mixH bt) [false, false] [0x11] false bin_prefix_refused

/-- `10` runs past the stored key `1`: `NodeOverrideError` (raised at the leaf) -/
theorem bin_past_refused :
    (BinRawT.rawSetT mixH (mixH []) 10 { db := btDb } (hashNode mixH bt) [true, false] [0x11] false).2 = .error .override :=
  eq_of_isOverride _ bin_eval.2.1

theorem bin_past_saves_nothing :
    (BinRawT.rawSetT mixH (mixH []) 10 { db := btDb } (hashNode mixH bt) [true, false] [0x11] false).1 = { db := btDb } :=
  Raw.bin_refused_saves_nothing mixH (mixH []) 10 { db := btDb } (hashNode mixH bt) [true, false] [0x11] false bin_past_refused

/-- `00100` runs past the stored key `0010`, three nodes down (root branch, kv node, lower branch, leaf) -/
theorem bin_deep_refused :
    (BinRawT.rawSetT mixH (mixH []) 10 { db := btDb } (hashNode mixH bt) [false, false, true, false, false] [0x11] false).2 =
      .error .override :=
  eq_of_isOverride _ bin_eval.2.2.1

theorem bin_deep_saves_nothing :
    (BinRawT.rawSetT mixH (mixH []) 10 { db := btDb } (hashNode mixH bt) [false, false, true, false, false] [0x11] false).1 =
      { db := btDb } :=
  Raw.bin_refused_saves_nothing mixH (mixH []) 10 { db := btDb } (hashNode mixH bt) [false, false, true, false, false] [0x11]
    false bin_deep_refused

/-- a refused `delete` (empty value): the key `0` ends exactly at the kv node below the root -/
theorem bin_delete_refused :
    (BinRawT.rawSetT mixH (mixH []) 10 { db := btDb } (hashNode mixH bt) [false] [] false).2 = .error .override :=
  eq_of_isOverride _ bin_eval.2.2.2.1

theorem bin_delete_saves_nothing :
    (BinRawT.rawSetT mixH (mixH []) 10 { db := btDb } (hashNode mixH bt) [false] [] false).1 = { db := btDb } :=
  Raw.bin_refused_saves_nothing mixH (mixH []) 10 { db := btDb } (hashNode mixH bt) [false] [] false bin_delete_refused

example : (BinRawT.rawSetT mixH (mixH []) 10 { db := btDb } (hashNode mixH bt) bk [0xee] false).1.db.length = btDb.length + 4 :=
  bin_eval.2.2.2.2

end BinRefused

end PyTrie.Props.NonVacuity3
