import PyTrie.Props.C03
import PyTrie.Props.C01World
import PyTrie.Props.C04
import PyTrie.Props.C06
import PyTrie.Props.C05Batch
import PyTrie.Props.RawLevel
import PyTrie.Props.C13
import PyTrie.Props.C15
import PyTrie.Props.C09
import PyTrie.Props.C11
import PyTrie.Lemmas.HistoryAux
/-! # Non-vacuity: concrete witnesses for the run-level hypotheses of the property theorems

Every property theorem is universally quantified over the hash function, so the witnesses below use a
*toy* hash (`toyH`: pad with zeros / truncate to 32 bytes) under which the no-collision predicates and
invariants can be decided by evaluation on small concrete tries (`mixH` of §5 where `toyH` collides, on
binary and sparse-Merkle nodes). Nothing here is about Keccak; the point is only that the hypotheses of the
theorems are jointly satisfiable by non-trivial states. -/
namespace PyTrie.Props.NonVacuity
open PyTrie PyTrie.Hex PyTrie.HexD

/-- the toy hash: the first 32 bytes, zero-padded -/
def toyH (b : Bytes) : Bytes := (b ++ List.replicate 32 0).take 32

theorem toyH_len (b : Bytes) : (toyH b).length = 32 := by simp [toyH]

/-- a 33-byte value: a leaf holding it encodes to 36 bytes and is therefore stored under its hash -/
def longV : Bytes := List.replicate 33 7

def k1 : Bytes := [0x12]
def k2 : Bytes := [0x13]

/-! ## 1. C03 — Merkle proofs -/
section C03
open PyTrie.Hex.Node PyTrie.Props.C03

/-- two keys sharing a nibble: an extension over a branch with one hashed and one embedded leaf -/
def t1 : Node := Hex.set (Hex.set blank (nibs k1) longV) (nibs k2) [5]

def t1br : Node := branch (upd (upd emptyCh 2 (leaf [] longV)) 3 (leaf [] [5])) []
def t1' : Node := ext [1] t1br

theorem t1_eq : t1 = t1' := by
  simp [t1, t1', t1br, Hex.set, nibs, k1, k2, cpl, wrap]

theorem t1_canon : Canon t1 := by
  rw [t1_eq]
  simp only [t1', t1br, canon_ext, canon_branch, isBranch]
  refine ⟨by simp, trivial, fun i => ?_, by decide⟩
  simp only [upd, emptyCh]
  repeat' split
  all_goals simp [longV]

theorem t1_proof : getProof t1 (nibs k1) = [t1', t1br, leaf [] longV] := by
  rw [t1_eq]; simp [t1', t1br, getProof, nibs, k1, upd]

/-- all three nodes on the path are hashed (the leaf has 36 encoded bytes, the branch 52, the root 35) -/
example : (getProof t1 (nibs k1)).map (isHashed toyH) = [true, true, true] := by
  decide +kernel

theorem t1_nc : NoCollision toyH t1 (nibs k1) ((getProof t1 (nibs k1)).map (toItem toyH)) := by
  unfold NoCollision
  rw [t1_proof]
  intro n hn hs
  clear hs
  revert n
  decide +kernel

theorem t1_dec : DecOkOn toyH t1 (nibs k1) := by
  apply decOkOn_of_small
  rw [t1_proof]
  decide +kernel

/-- `proof_complete` applies to the witness -/
theorem c03_complete :
    getFromProof toyH (rootHash toyH t1) k1 ((getProof t1 (nibs k1)).map (toItem toyH)) = .value longV := by
  rw [proof_complete toyH toyH_len t1 t1_canon k1 t1_dec t1_nc]
  rfl

/-- a forged node list: the honest nodes reordered, the leaf replaced by one holding another long
    value, a duplicate of the root and a junk string -/
def forged : List Item :=
  [toItem toyH (leaf [] (List.replicate 33 8)), toItem toyH t1br, .str [1, 2, 3], toItem toyH t1', toItem toyH t1']

theorem forged_nc : NoCollision toyH t1 (nibs k1) forged := by
  unfold NoCollision
  rw [t1_proof]
  intro n hn hs
  clear hs
  revert n
  decide +kernel

/-- `proof_sound` applies to the forged list … -/
theorem c03_sound :
    getFromProof toyH (rootHash toyH t1) k1 forged = .value (get t1 (nibs k1)) ∨
    getFromProof toyH (rootHash toyH t1) k1 forged = .badProof :=
  proof_sound toyH toyH_len t1 t1_canon k1 t1_dec forged forged_nc

/-- … and since the hashed leaf is withheld, `proof_withheld` says which of the two it is -/
theorem c03_withheld : getFromProof toyH (rootHash toyH t1) k1 forged = .badProof := by
  refine proof_withheld toyH toyH_len t1 t1_canon k1 t1_dec forged forged_nc (leaf [] longV) ?_
    (Or.inr (by decide +kernel)) (by decide +kernel)
  rw [t1_proof]; simp

end C03


/-! ## Boolean checkers for the run-level predicates -/
section Checkers
open PyTrie.Hex.Node PyTrie.HexW PyTrie.HexRaw
open PyTrie.Props.C01 (Op run spec applyOp)

/-- structural equality test on trees (children compared at all 16 indices) -/
def sameB : Node → Node → Bool
  | blank, blank => true
  | leaf p v, leaf q w => p == q && v == w
  | ext p c, ext q d => p == q && sameB c d
  | branch ch v, branch dh w => (List.finRange 16).all (fun i => sameB (ch i) (dh i)) && v == w
  | _, _ => false

theorem sameB_eq (a b : Node) (h : sameB a b = true) : a = b := by
  fun_induction sameB a b with
  | case1 => rfl
  | case2 p v q w =>
    simp only [Bool.and_eq_true, beq_iff_eq] at h
    rw [h.1, h.2]
  | case3 p c q d ih =>
    simp only [Bool.and_eq_true, beq_iff_eq] at h
    rw [h.1, ih h.2]
  | case4 ch v dh w ih =>
    simp only [Bool.and_eq_true, List.all_eq_true, List.mem_finRange, forall_const, beq_iff_eq] at h
    rw [funext fun i => ih i (h.1 i), h.2]
  | case5 => cases h

theorem of_not_or {a b : Bool} (h : (!a || b) = true) (ha : a = true) : b = true := by
  subst ha; exact h

variable (Hs : Hashing)

def refSoundB : Node → Path → Bool
  | ext p c, k => !(decide (p <+: k)) || (refSoundB c (k.drop p.length) &&
      (!(Hs.refEq (deleteE Hs c (k.drop p.length)).1 c) || sameB (deleteE Hs c (k.drop p.length)).1 c))
  | branch ch _, n :: k => refSoundB (ch n) k &&
      (!(Hs.refEq (deleteE Hs (ch n) k).1 (ch n)) || sameB (deleteE Hs (ch n) k).1 (ch n))
  | _, _ => true

theorem refSound_of_B (t : Node) (k : Path) (h : refSoundB Hs t k = true) : RefSound Hs t k := by
  induction t generalizing k with
  | blank => simp [RefSound]
  | leaf p v => simp [RefSound]
  | ext p c ih =>
    simp only [RefSound]
    intro hp
    simp only [refSoundB, hp, decide_true, Bool.not_true, Bool.false_or, Bool.and_eq_true] at h
    exact ⟨ih _ h.1, fun he => sameB_eq _ _ (of_not_or h.2 he)⟩
  | branch ch v ih =>
    cases k with
    | nil => simp [RefSound]
    | cons n k =>
      simp only [refSoundB, Bool.and_eq_true] at h
      exact ⟨ih n _ h.1, fun he => sameB_eq _ _ (of_not_or h.2 he)⟩

def noClobberB (d : Dict Bytes) (ws : List (Hash × Bytes)) : Bool :=
  ws.all (fun e => (match Dict.get? d e.1 with | some b' => b' == e.2 | none => true) &&
    ws.all (fun e' => !(e'.1 == e.1) || e.2 == e'.2))

theorem noClobber_of_B (d : Dict Bytes) (ws : List (Hash × Bytes)) (h : noClobberB d ws = true) : NoClobber d ws := by
  simp only [noClobberB, List.all_eq_true, Bool.and_eq_true, Bool.or_eq_true, Bool.not_eq_true', beq_iff_eq,
    beq_eq_false_iff_ne, ne_eq] at h
  exact ⟨fun hh b b' hm hg => by simpa [hg] using (h _ hm).1,
    fun hh b b' hm hm' => ((h _ hm).2 _ hm').resolve_left fun h => h rfl⟩


variable (brh : Hash)

/-- one step of the executor; on an exception the trie is left as it was -/
def stepW (st : TrieSt × OpSt) (o : Op) : TrieSt × OpSt :=
  let r := opSetDel Hs brh st.1 (opKey o) (opVal o) st.2
  (match r.2 with | .ok T => T | .error _ => st.1, r.1)

/-- the run-level hypotheses of one step of `ReachOps` / `Reach`, as a test -/
def stepOkB (prune : Bool) (st : TrieSt × OpSt) (o : Op) : Bool :=
  refSoundB Hs st.1.tree (nibs (opKey o)) &&
  (isBlank (opTree Hs st.1 (opKey o) (opVal o)).1 ||
    !(Hs.hashOf (opTree Hs st.1 (opKey o) (opVal o)).1 == brh)) &&
  (prune || noClobberB st.2.store.base (opWrites Hs st.1 (opKey o) (opVal o))) &&
  (match (opSetDel Hs brh st.1 (opKey o) (opVal o) st.2).2 with | .ok _ => true | .error _ => false)

def initW (prune : Bool) : TrieSt × OpSt :=
  ({ tree := .blank, root := brh, prune := prune },
   { store := { base := [], cache := none, failAfter := none }, counts := [], pending := [] })

def runW (prune : Bool) (ops : List Op) : TrieSt × OpSt := ops.foldl (stepW Hs brh) (initW brh prune)

/-- all steps of a history pass the test (checked from the first operation on) -/
def allOkB (prune : Bool) : TrieSt × OpSt → List Op → Bool
  | _, [] => true
  | st, o :: r => stepOkB Hs brh prune st o && allOkB prune (stepW Hs brh st o) r

theorem stepOk_spec (prune : Bool) (st : TrieSt × OpSt) (o : Op) (h : stepOkB Hs brh prune st o = true) :
    RefSound Hs st.1.tree (nibs (opKey o)) ∧
    (isBlank (opTree Hs st.1 (opKey o) (opVal o)).1 = false → Hs.hashOf (opTree Hs st.1 (opKey o) (opVal o)).1 ≠ brh) ∧
    (prune = false → NoClobber st.2.store.base (opWrites Hs st.1 (opKey o) (opVal o))) ∧
    (opSetDel Hs brh st.1 (opKey o) (opVal o) st.2).2 = .ok (stepW Hs brh st o).1 := by
  simp only [stepOkB, Bool.and_eq_true] at h
  obtain ⟨⟨⟨h1, h2⟩, h3⟩, h4⟩ := h
  refine ⟨refSound_of_B Hs _ _ h1, fun hb => by simpa [hb] using h2,
    fun hp => noClobber_of_B _ _ (by simpa [hp] using h3), ?_⟩
  simp only [stepW]
  split at h4
  · next T hT => simp [hT]
  · cases h4

theorem reachOps_of_allOk (prune : Bool) (pre : List Op) (st : TrieSt × OpSt) (ops : List Op)
    (hr : ReachOps Hs brh prune pre st.1 st.2) (h : allOkB Hs brh prune st ops = true) :
    ReachOps Hs brh prune (pre ++ ops) (ops.foldl (stepW Hs brh) st).1 (ops.foldl (stepW Hs brh) st).2 := by
  induction ops generalizing pre st with
  | nil => simpa using hr
  | cons o r ih =>
    simp only [allOkB, Bool.and_eq_true] at h
    obtain ⟨h1, h2, h3, h4⟩ := stepOk_spec Hs brh prune st o h.1
    have := ih (pre ++ [o]) (stepW Hs brh st o) (ReachOps.step pre st.1 st.2 o _ hr h1 h2 h3 h4) h.2
    simpa using this

/-- **a history all of whose steps pass the test is a `ReachOps` history** -/
theorem reachOps_of_check (prune : Bool) (ops : List Op) (h : allOkB Hs brh prune (initW brh prune) ops = true) :
    ReachOps Hs brh prune ops (runW Hs brh prune ops).1 (runW Hs brh prune ops).2 := by
  simpa [runW] using reachOps_of_allOk Hs brh prune [] (initW brh prune) ops ReachOps.init h

theorem reach_of_allOk (st : TrieSt × OpSt) (ops : List Op)
    (hr : C06.Reach Hs brh st.1 st.2) (h : allOkB Hs brh true st ops = true) :
    C06.Reach Hs brh (ops.foldl (stepW Hs brh) st).1 (ops.foldl (stepW Hs brh) st).2 := by
  induction ops generalizing st with
  | nil => simpa using hr
  | cons o r ih =>
    simp only [allOkB, Bool.and_eq_true] at h
    obtain ⟨h1, h2, _, h4⟩ := stepOk_spec Hs brh true st o h.1
    exact ih (stepW Hs brh st o) (C06.Reach.step st.1 st.2 _ _ _ hr h1 h2 h4) h.2

theorem reach_of_check (ops : List Op) (h : allOkB Hs brh true (initW brh true) ops = true) :
    C06.Reach Hs brh (runW Hs brh true ops).1 (runW Hs brh true ops).2 :=
  reach_of_allOk Hs brh (initW brh true) ops C06.Reach.init h

end Checkers

/- From here on the elaborator may not run the executor on the concrete histories (it would whenever a `Canon` or
   `RefSound` over a tree reached by one is mentioned); what has to be computed about a run is computed by the
   kernel, once, in the lemma `…_eval` of that run. -/
attribute [local irreducible] runW

/-! ## 2. C04 / C01World — histories through the executor -/
section C04
open PyTrie.HexW PyTrie.HexRaw
open PyTrie.Props.C01 (Op run spec applyOp)

def toyHs : Hashing := stdHashing toyH

/-- two sets under a shared first nibble (one hashed leaf, one embedded), then the delete of the first -/
def hist : List Op := [.set k1 longV, .set k2 [5], .delete k1]

/-- the non-pruning run, evaluated once: every step passes the test, the database kept all five nodes ever
    written, and one more write passes the test -/
theorem hist_np_eval :
    allOkB toyHs (blankRoot toyH) false (initW (blankRoot toyH) false) hist = true ∧
    (runW toyHs (blankRoot toyH) false hist).2.store.base.length = 5 ∧
    stepOkB toyHs (blankRoot toyH) false (runW toyHs (blankRoot toyH) false hist) (.set k1 [9]) = true := by
  decide +kernel

/-- the pruning run: every step passes the test, and the database holds the final root only -/
theorem hist_p_eval :
    allOkB toyHs (blankRoot toyH) true (initW (blankRoot toyH) true) hist = true ∧
    (runW toyHs (blankRoot toyH) true hist).2.store.base.length = 1 := by
  decide +kernel

theorem hist_ok_np : allOkB toyHs (blankRoot toyH) false (initW (blankRoot toyH) false) hist = true :=
  hist_np_eval.1

theorem hist_ok_p : allOkB toyHs (blankRoot toyH) true (initW (blankRoot toyH) true) hist = true :=
  hist_p_eval.1

/-- `ReachOps` for a non-pruning trie … -/
theorem hist_reach_np : ReachOps toyHs (blankRoot toyH) false hist
    (runW toyHs (blankRoot toyH) false hist).1 (runW toyHs (blankRoot toyH) false hist).2 :=
  reachOps_of_check toyHs _ false hist hist_ok_np

/-- … and for a pruning one -/
theorem hist_reach_p : ReachOps toyHs (blankRoot toyH) true hist
    (runW toyHs (blankRoot toyH) true hist).1 (runW toyHs (blankRoot toyH) true hist).2 :=
  reachOps_of_check toyHs _ true hist hist_ok_p

/-- the pruning database holds only the final root -/
example : (runW toyHs (blankRoot toyH) false hist).2.store.base.length = 5 ∧
    (runW toyHs (blankRoot toyH) true hist).2.store.base.length = 1 := ⟨hist_np_eval.2.1, hist_p_eval.2⟩

/-- `world_get` on the witnesses -/
theorem c01_world_get_np (key : Bytes) :
    opGet toyHs (blankRoot toyH) (runW toyHs (blankRoot toyH) false hist).1 key
      (runW toyHs (blankRoot toyH) false hist).2 = .ok (spec hist key) :=
  C01.world_get toyHs _ false hist _ _ hist_reach_np key

theorem c01_world_get_p (key : Bytes) :
    opGet toyHs (blankRoot toyH) (runW toyHs (blankRoot toyH) true hist).1 key
      (runW toyHs (blankRoot toyH) true hist).2 = .ok (spec hist key) :=
  C01.world_get toyHs _ true hist _ _ hist_reach_p key

example : spec hist k2 = [5] ∧ spec hist k1 = [] := by decide

/-! C04: the database reached by the non-pruning history is `Complete`, the next write is `NoClobber`,
and `op_keeps_complete` applies to it -/

theorem c04_complete : Complete toyHs (blankRoot toyH) (runW toyHs (blankRoot toyH) false hist).2.store.base
    (runW toyHs (blankRoot toyH) false hist).1 := by
  have := (reachOps_inv toyHs _ false hist _ _ hist_reach_np).2.2.2.2
  simpa using this

theorem c04_next_ok : stepOkB toyHs (blankRoot toyH) false (runW toyHs (blankRoot toyH) false hist) (.set k1 [9]) = true :=
  hist_np_eval.2.2

theorem c04_op_keeps_complete :
    let T := (runW toyHs (blankRoot toyH) false hist).1
    let s := (runW toyHs (blankRoot toyH) false hist).2
    ∃ T', (opSetDel toyHs (blankRoot toyH) T k1 (some [9]) s).2 = .ok T' ∧
      T'.tree = (opTree toyHs T k1 (some [9])).1 ∧ T'.prune = false ∧
      Preserved s.store.base (opSetDel toyHs (blankRoot toyH) T k1 (some [9]) s).1.store.base ∧
      Complete toyHs (blankRoot toyH) (opSetDel toyHs (blankRoot toyH) T k1 (some [9]) s).1.store.base T' := by
  intro T s
  obtain ⟨h1, h2, h3, _⟩ := stepOk_spec toyHs (blankRoot toyH) false _ _ c04_next_ok
  obtain ⟨_, hp⟩ := C01.world_tree toyHs _ false hist _ _ hist_reach_np
  obtain ⟨ht, _, hcache, hfa, _⟩ := reachOps_inv toyHs _ false hist _ _ hist_reach_np
  refine C04.op_keeps_complete toyHs (blankRoot toyH) T hp ?_ k1 (some [9]) s hcache hfa c04_complete h1 (h3 rfl) h2
  rw [ht]; exact C01.canon_run hist

end C04

/-! ## 3. C06 — exact pruning -/
section C06
open PyTrie.HexW

theorem hist_reach : C06.Reach toyHs (blankRoot toyH)
    (runW toyHs (blankRoot toyH) true hist).1 (runW toyHs (blankRoot toyH) true hist).2 :=
  reach_of_check toyHs _ hist hist_ok_p

theorem c06_pruneInv : PruneInv toyHs (blankRoot toyH)
    (runW toyHs (blankRoot toyH) true hist).1 (runW toyHs (blankRoot toyH) true hist).2 :=
  (C06.reach_invariant toyHs _ _ _ hist_reach).2.2

/-- the pruning run stopped after the two sets: both steps pass the test, and the database holds a hashed leaf,
    a hashed branch and the root -/
theorem hist_mid_eval :
    allOkB toyHs (blankRoot toyH) true (initW (blankRoot toyH) true) (hist.take 2) = true ∧
    (runW toyHs (blankRoot toyH) true (hist.take 2)).2.store.base.length = 3 := by
  decide +kernel

theorem hist_mid_reach : C06.Reach toyHs (blankRoot toyH)
    (runW toyHs (blankRoot toyH) true (hist.take 2)).1 (runW toyHs (blankRoot toyH) true (hist.take 2)).2 :=
  reach_of_check toyHs _ (hist.take 2) hist_mid_eval.1

/-- also in the middle of the history -/
theorem c06_pruneInv_mid : PruneInv toyHs (blankRoot toyH)
    (runW toyHs (blankRoot toyH) true (hist.take 2)).1 (runW toyHs (blankRoot toyH) true (hist.take 2)).2 :=
  (C06.reach_invariant toyHs _ _ _ hist_mid_reach).2.2

example : (runW toyHs (blankRoot toyH) true (hist.take 2)).2.store.base.length = 3 := hist_mid_eval.2

end C06


/-! ## 4. C05Batch — `squash_changes` -/
section C05
open PyTrie.HexW PyTrie.HexRaw
open PyTrie.Props.C01 (Op)

/-- the invariant over the view only looks at base, cache, counts and pending of the state -/
theorem pruneInvV_congr (Hs : Hashing) (brh : Hash) (T : TrieSt) (s s' : OpSt) (h : PruneInvV Hs brh T s)
    (h1 : s'.store.base = s.store.base) (h2 : s'.store.cache = s.store.cache) (h3 : s'.counts = s.counts)
    (h4 : s'.pending = []) : PruneInvV Hs brh T s' := by
  refine ⟨h.prune, h.root, fun x => by rw [h3]; exact h.counts x, fun x => ?_, h4, ?_⟩
  · have : s'.store.view x = s.store.view x := by unfold Store.view; rw [h1, h2]
    rw [this]; exact h.keys x
  · intro c hc; rw [h2] at hc; exact h.cacheNoDup c hc

abbrev brh : Hash := blankRoot toyH

/-- the pruning trie after the two sets -/
def Tm : TrieSt := (runW toyHs brh true (hist.take 2)).1
def sm : OpSt := (runW toyHs brh true (hist.take 2)).2

def w0 : World := { base := sm.store.base, tries := #[Tm], counts := #[sm.counts] }

theorem w0_inv : PruneInv toyHs brh (w0.tries[0]!) (w0.opSt 0) :=
  have h := c06_pruneInv_mid
  ⟨h.prune, rfl, h.root, h.counts, h.keys, rfl⟩

/-- the batch opened by `squash_changes` -/
def b0 : Batch := { outer := 0, cache := [], trie := { Tm with prune := true }, counts := sm.counts }
def wB : World := { w0 with batch := some b0 }

theorem wB_eq : w0.batchBegin 0 = wB := by
  have : Tm.prune = true := c06_pruneInv_mid.prune
  simp [World.batchBegin, wB, b0, w0, this]

/-- **a world with an open batch satisfying `PruneInvV`** (by `batch_begin_invariant`) -/
theorem c05_begin : wB.batch = some b0 ∧ PruneInvV toyHs brh b0.trie (wB.batchOpSt b0) := by
  obtain ⟨b, hb, _, _, hinv⟩ := C05.batch_begin_invariant toyHs brh w0 0 (by decide) rfl w0_inv
  rw [wB_eq] at hb hinv
  obtain rfl : b0 = b := Option.some.inj hb
  exact ⟨rfl, hinv⟩

/-- inside the block: delete the hashed leaf's key (buffered deletes and a buffered write in the cache) -/
def T1 : TrieSt := (stepW toyHs brh (b0.trie, wB.batchOpSt b0) (.delete k1)).1
def s1 : OpSt := (stepW toyHs brh (b0.trie, wB.batchOpSt b0) (.delete k1)).2

/-- the world as `World.setDel … .batch` leaves it -/
def b1 : Batch := { b0 with cache := s1.store.cache.getD [], counts := s1.counts, trie := T1 }
def w1 : World := { wB with batch := some b1 }

/-- the step inside the block, evaluated once: it passes the test; the cache now holds four entries (the new
    root is buffered, the old root, branch and leaf are marked deleted); the batch trie of `w1` sees the
    database, cache and counts the step left -/
theorem batch_eval :
    stepOkB toyHs brh true (b0.trie, wB.batchOpSt b0) (.delete k1) = true ∧
    s1.store.cache.map (·.map (·.2.isSome)) = some [true, false, false, false] ∧
    (w1.batchOpSt b1).store.base = s1.store.base ∧ (w1.batchOpSt b1).store.cache = s1.store.cache ∧
    (w1.batchOpSt b1).counts = s1.counts := by
  decide +kernel

theorem batch_step_ok : stepOkB toyHs brh true (b0.trie, wB.batchOpSt b0) (.delete k1) = true := batch_eval.1

theorem Tm_canon : Canon Tm.tree := (C06.reach_invariant toyHs _ _ _ hist_mid_reach).1

theorem c05_op : PruneInvV toyHs brh T1 s1 := by
  obtain ⟨h1, h2, _, h4⟩ := stepOk_spec toyHs brh true _ _ batch_step_ok
  obtain ⟨T', hT, _, hinv, _⟩ := C05.batch_op_invariant toyHs brh b0.trie Tm_canon k1 none (wB.batchOpSt b0) rfl
    c05_begin.2 h1 h2
  have : T' = T1 := by
    have h := hT.symm.trans h4
    injection h
  rw [this] at hinv
  exact hinv

example : s1.store.cache.map (·.map (·.2.isSome)) = some [true, false, false, false] := batch_eval.2.1

theorem c05_world_inv : PruneInvV toyHs brh b1.trie (w1.batchOpSt b1) :=
  pruneInvV_congr toyHs brh T1 s1 _ c05_op batch_eval.2.2.1 batch_eval.2.2.2.1 batch_eval.2.2.2.2 rfl

theorem c05_commit :
    (w1.batchEnd false).1 = .ok () ∧ (w1.batchEnd false).2.batch = none ∧
    ((w1.batchEnd false).2.tries[0]!).tree = T1.tree ∧
    PruneInv toyHs brh ((w1.batchEnd false).2.tries[0]!) ((w1.batchEnd false).2.opSt 0) := by
  obtain ⟨h1, h2, h3, _, h5⟩ := C05.batch_commit_exact toyHs brh w1 b1 rfl (by decide) (by decide)
    c06_pruneInv_mid.prune rfl c05_world_inv
  exact ⟨h1, h2, h3, h5⟩

end C05
section C05NP
open PyTrie.HexW PyTrie.HexRaw
open PyTrie.Props.C01 (Op)

/-- the non-pruning trie after the whole history: of the nodes in its database only the root is live -/
def Tn : TrieSt := (runW toyHs brh false hist).1
def base0 : Dict Bytes := (runW toyHs brh false hist).2.store.base

def Tb : TrieSt := { Tn with prune := true }
def sb : OpSt := { store := { base := base0, cache := some [], failAfter := none }, counts := [], pending := [] }

/-- inside the block: write the long value again (its leaf and branch are already keys of `base0`) and one more key -/
def npOps : List Op := [.set k1 longV, .set [0x12, 0x34] [6]]

def npCache : Dict (Option Bytes) := (npOps.foldl (stepW toyHs brh) (Tb, sb)).2.store.cache.getD []

/-- the block evaluated once: `base0` has five entries, both steps pass the test, and the cache at the end is
    `npCache`, with four delete markers and three buffered writes -/
theorem np_eval :
    base0.length = 5 ∧ allOkB toyHs brh true (Tb, sb) npOps = true ∧
    (npOps.foldl (stepW toyHs brh) (Tb, sb)).2.store.cache = some npCache ∧
    npCache.map (·.2.isSome) = [false, false, false, false, true, true, true] := by
  decide +kernel

example : base0.length = 5 := np_eval.1

/-- **`BatchInvNP` on entering the block** (by `np_batch_begin`, from completeness of the database) -/
theorem c05_np_begin : BatchInvNP toyHs brh base0 Tb sb :=
  C05.np_batch_begin toyHs brh base0 Tn (complete_root toyHs brh base0 Tn c04_complete)
    (complete_keys' toyHs brh base0 Tn c04_complete) none

theorem np_ops_ok : allOkB toyHs brh true (Tb, sb) npOps = true := np_eval.2.1

theorem Tn_canon : Canon Tn.tree := by
  rw [show Tn.tree = C01.run hist from (C01.world_tree toyHs _ false hist _ _ hist_reach_np).1]
  exact C01.canon_run hist

/-- `np_batch_op` applies along the block -/
theorem batchInvNP_of_allOk (Hs : Hashing) (brh : Hash) (b0 : Dict Bytes) (st : TrieSt × OpSt) (ops : List Op)
    (hc : Canon st.1.tree) (hinv : BatchInvNP Hs brh b0 st.1 st.2) (h : allOkB Hs brh true st ops = true) :
    Canon (ops.foldl (stepW Hs brh) st).1.tree ∧
    BatchInvNP Hs brh b0 (ops.foldl (stepW Hs brh) st).1 (ops.foldl (stepW Hs brh) st).2 := by
  induction ops generalizing st with
  | nil => exact ⟨hc, hinv⟩
  | cons o r ih =>
    simp only [allOkB, Bool.and_eq_true] at h
    obtain ⟨h1, h2, _, h4⟩ := stepOk_spec Hs brh true st o h.1
    obtain ⟨T', hT, htree, hinv'⟩ := C05.np_batch_op Hs brh b0 st.1 hc (opKey o) (opVal o) st.2 hinv h1 h2
    have e : T' = (stepW Hs brh st o).1 := by
      have := hT.symm.trans h4
      injection this
    rw [e] at hinv' htree
    refine ih (stepW Hs brh st o) ?_ hinv' h.2
    rw [htree, opTree_fst_p Hs st.1 hc (opKey o) (opVal o) h1]
    cases hv : opVal o with
    | none => exact canon_delete _ _ hc
    | some v =>
      simp only
      split
      · exact canon_delete _ _ hc
      · next hne => exact canon_set _ _ _ hne hc

/-- **`BatchInvNP` at the end of the block**, with a non-empty cache … -/
theorem c05_np_inv : BatchInvNP toyHs brh base0 (npOps.foldl (stepW toyHs brh) (Tb, sb)).1
    (npOps.foldl (stepW toyHs brh) (Tb, sb)).2 :=
  (batchInvNP_of_allOk toyHs brh base0 (Tb, sb) npOps Tn_canon c05_np_begin np_ops_ok).2

example : npCache.map (·.2.isSome) = [false, false, false, false, true, true, true] := np_eval.2.2.2

/-- … and `np_batch_commit` applies to it -/
theorem c05_np_commit :
    let db' := (commitLoop false npCache base0 none).2.1
    let T := (npOps.foldl (stepW toyHs brh) (Tb, sb)).1
    (∀ h, Dict.contains base0 h = true → Dict.contains db' h = true) ∧
    (∀ h, 0 < occRoot toyHs T.tree h → Dict.contains db' h = true) ∧
    (∀ h, Dict.contains db' h = true → Dict.contains base0 h = false → 0 < occRoot toyHs T.tree h) :=
  C05.np_batch_commit toyHs brh base0 _ _ c05_np_inv npCache np_eval.2.2.1

end C05NP


/-! ## 5. Binary trie: C12 / C13 / raw level -/

/-- a toy hash that looks at every input byte: a polynomial in the bytes (base 257, seeded with the length)
    modulo `2^256 - 189`, written out as 32 little-endian bytes. `toyH` would identify `branch l r` with
    `branch l r'` and `H (l ++ r)` with `H (l ++ r')`; this one separates all nodes of the examples below. -/
def mixH (b : Bytes) : Bytes :=
  (List.range 32).map fun i =>
    UInt8.ofNat (b.foldl (fun a x => (a * 257 + x.toNat + 1) % (2 ^ 256 - 189)) b.length / 256 ^ i % 256)

theorem mixH_len (b : Bytes) : (mixH b).length = 32 := by simp [mixH]

section Bin
open PyTrie.Bin PyTrie.Bin.BNode PyTrie.BinRaw

/-- three keys `0010`, `0011`, `1`: a kv node over a branch, a branch at the root -/
def bt : BNode := branch (kv [false, true] (branch (leaf [0xaa]) (leaf [0xbb, 0xcc]))) (leaf [0xdd])

theorem bt_canon : BCanon bt := by
  simp [bt, BCanon]

example : bget bt [false, false, true, false] = some [0xaa] ∧ bget bt [false, false, true, true] = some [0xbb, 0xcc] ∧
    bget bt [true] = some [0xdd] := by decide +kernel

/-- it is the trie reached by the obvious history (so `C13.reachable_canonical` gives `BCanon` as well) -/
theorem bt_run : C12.run [.set [false, false, true, false] [0xaa], .set [false, false, true, true] [0xbb, 0xcc],
    .set [true] [0xdd]] = some bt := by decide +kernel

theorem sub_iff (t x : BNode) : Sub x t ↔ x ∈ trieNodes t := (mem_trieNodes_iff t x).symm

theorem forall_sub (t : BNode) (P : BNode → Prop) (h : ∀ n ∈ trieNodes t, P n) : ∀ n, Sub n t → P n :=
  fun n hn => h n ((sub_iff t n).1 hn)

/-- Boolean form of `NoCollisionOp` (the nodes of `t` enumerated by `trieNodes`) -/
def ncOpB (H : Bytes → Bytes) (t : BNode) (saves : List BNode) : Bool :=
  saves.all (fun s => !(hashNode H s == H [])) &&
  saves.all (fun s => (trieNodes t).all fun n => !(hashNode H s == hashNode H n) || encNode H s == encNode H n) &&
  saves.all (fun s => saves.all fun s' => !(hashNode H s == hashNode H s') || encNode H s == encNode H s')

theorem ncOp_of_B (H : Bytes → Bytes) (t : BNode) (saves : List BNode) (h : ncOpB H t saves = true) :
    NoCollisionOp H t saves := by
  simp only [ncOpB, Bool.and_eq_true, List.all_eq_true, Bool.or_eq_true, Bool.not_eq_true', beq_eq_false_iff_ne,
    ne_eq, beq_iff_eq] at h
  obtain ⟨⟨h1, h2⟩, h3⟩ := h
  exact ⟨h1, fun s hs n hn he => (h2 s hs n ((sub_iff t n).mp hn)).resolve_left fun h => h he,
    fun s hs s' hs' he => (h3 s hs s' hs').resolve_left fun h => h he⟩

/-- the database holding exactly the nodes of `bt` -/
def btDb : Bin.Db := applySaves mixH [] (trieNodes bt).reverse

/-- a `set` that splits the kv node: new key `000` -/
def bk : Bits := [false, false, false]

/-- C13: the branch for key `0011` (four nodes) -/
def bpath : List BNode := [bt, kv [false, true] (branch (leaf [0xaa]) (leaf [0xbb, 0xcc])),
  branch (leaf [0xaa]) (leaf [0xbb, 0xcc]), leaf [0xbb, 0xcc]]

/-- a forged list (the leaf replaced) -/
def bforged : List Bytes := [encNode mixH bt, encNode mixH (leaf [0xbb, 0xcd]), [7, 7], encNode mixH (branch (leaf [0xaa]) (leaf [0xbb, 0xcd]))]

/-- what is evaluated about `bt` under `mixH`, the hashes of its nodes being computed once: `btDb` stores every
    node; no collision for the `set` of `bk`, for a second `set` going right at both branches (where `toyH` would
    collide), for the nodes of `bpath`, and for `bforged` -/
theorem bt_eval :
    (∀ n ∈ trieNodes bt, hashNode mixH n ≠ mixH [] ∧ Bin.lookup btDb (hashNode mixH n) = some (encNode mixH n)) ∧
    ncOpB mixH bt (bsetS bt bk [0xee] false).2 = true ∧
    ncOpB mixH bt (bsetS bt [false, false, true, true] [0x11] false).2 = true ∧
    (∀ n ∈ trieNodes bt, hashNode mixH n ≠ mixH [] ∧
      ∀ b ∈ bpath.map (encNode mixH), mixH b = hashNode mixH n → b = encNode mixH n) ∧
    ∀ n ∈ trieNodes bt, hashNode mixH n ≠ mixH [] ∧ ∀ b ∈ bforged, mixH b = hashNode mixH n → b = encNode mixH n := by
  decide +kernel

theorem bt_allStored : AllStored mixH btDb bt := forall_sub bt _ bt_eval.1

example : (bsetS bt bk [0xee] false).2.length = 4 := by decide

theorem bt_ncOp : NoCollisionOp mixH bt (bsetS bt bk [0xee] false).2 := ncOp_of_B _ _ _ bt_eval.2.1

theorem bin_set_witness :
    BinRaw.rawSet mixH (mixH []) 10 { db := btDb } (hashNode mixH bt) bk [0xee] false =
      match (bsetS bt bk [0xee] false).1 with
      | .ok t' => .ok (rootOf mixH t', { db := applySaves mixH btDb (bsetS bt bk [0xee] false).2 })
      | .error _ => .error .override :=
  Raw.bin_set_refines mixH mixH_len bt bt_canon bk [0xee] false { db := btDb } bt_allStored bt_ncOp 10 (by decide)

/-- the operation succeeds at tree level, so the raw one returns a new root -/
example : ∃ t', (bsetS bt bk [0xee] false).1 = .ok (some t') ∧ bget t' bk = some [0xee] := ⟨_, rfl, by decide⟩

/-- a second one going right at both branches (where `toyH` would collide) -/
theorem bt_ncOp2 : NoCollisionOp mixH bt (bsetS bt [false, false, true, true] [0x11] false).2 :=
  ncOp_of_B _ _ _ bt_eval.2.2.1

theorem bpath_ok : getBranch bt [false, false, true, true] = .ok bpath := rfl

theorem bt_nc : Bin.NoCollision mixH bt (bpath.map (encNode mixH)) := forall_sub bt _ bt_eval.2.2.2.1

theorem branch_valid_witness :
    ifBranchValid mixH (bpath.map (encNode mixH)) (hashNode mixH bt) [false, false, true, true] (some [0xbb, 0xcc]) = .valid :=
  C13.branch_valid mixH mixH_len bt bt_canon _ bpath bpath_ok bt_nc

/-- and `branch_sound` for the forged list -/
theorem bforged_nc : Bin.NoCollision mixH bt bforged := forall_sub bt _ bt_eval.2.2.2.2

theorem branch_sound_witness (claimed : Option Bytes)
    (hv : ifBranchValid mixH bforged (hashNode mixH bt) [false, false, true, true] claimed = .valid) :
    claimed = some [0xbb, 0xcc] :=
  C13.branch_sound mixH mixH_len bt bt_canon _ bforged bforged_nc claimed hv

end Bin


/-! ## 6. Raw level, hexary -/
section RawHex
open PyTrie.Hex.Node PyTrie.HexRaw PyTrie.HexW

def childOkB (H : Bytes → Bytes) (db : Db) (c : Node) : Bool :=
  !(isHashed H c) || (!(hashOf H c == blankRoot H) && (lookup db (hashOf H c) == some (enc H c)) &&
    decide ((enc H c).length < 2 ^ 64))

def storedDB (H : Bytes → Bytes) (db : Db) : Node → Bool
  | blank => true
  | leaf _ _ => true
  | ext _ c => childOkB H db c && storedDB H db c
  | branch ch _ => (List.finRange 16).all fun i => childOkB H db (ch i) && storedDB H db (ch i)

theorem childOk_spec (H : Bytes → Bytes) (db : Db) (c : Node) (h : childOkB H db c = true) :
    isHashed H c = true → hashOf H c ≠ blankRoot H ∧ lookup db (hashOf H c) = some (enc H c) ∧
      rlpDecode (enc H c) = some (toItem H c) := by
  intro hh
  simp only [childOkB, hh, Bool.not_true, Bool.false_or, Bool.and_eq_true, Bool.not_eq_true',
    beq_eq_false_iff_ne, ne_eq, beq_iff_eq, decide_eq_true_eq] at h
  exact ⟨h.1.1, h.1.2, rlpDecode_rlp_of_length_lt (toItem H c) h.2⟩

theorem storedD_of_B (H : Bytes → Bytes) (db : Db) (t : Node) (h : storedDB H db t = true) : StoredD H db t := by
  induction t with
  | blank => trivial
  | leaf p v => trivial
  | ext p c ih =>
    simp only [storedDB, Bool.and_eq_true] at h
    exact ⟨childOk_spec H db c h.1, ih h.2⟩
  | branch ch v ih =>
    simp only [storedDB, List.all_eq_true, List.mem_finRange, forall_const, Bool.and_eq_true] at h
    exact fun i => ⟨childOk_spec H db (ch i) (h i).1, ih i (h i).2⟩

/-- the database written by the non-pruning executor for the two sets (hashed leaf, hashed branch, roots) -/
def rawDb : Db := (runW toyHs (blankRoot toyH) false (hist.take 2)).2.store.base

/-- `t1` has a hashed branch below the root extension and a hashed leaf below that -/
theorem t1_storedD : StoredD toyH rawDb t1 := storedD_of_B toyH rawDb t1 (by decide +kernel)

/-- `set_refines` applies: a third key that splits the extension -/
theorem set_refines_witness (st : St) (hst : st.db = rawDb) :
    rawSet toyH 10 st (toItem toyH t1) (nibs [0x14]) [6] =
      .ok (toItem toyH (setE toyHs t1 (nibs [0x14]) [6]).1,
           { db := applyPersists st.db (setE toyHs t1 (nibs [0x14]) [6]).2,
             evs := st.evs ++ (setE toyHs t1 (nibs [0x14]) [6]).2 }) :=
  Raw.set_refines toyH toyH_len t1 t1_canon (nibs [0x14]) [6] st (hst ▸ t1_storedD) 10 (by decide)

/-- the operation reads the hashed branch, prunes root and branch, and persists the new branch -/
example : (setE toyHs t1 (nibs [0x14]) [6]).2.map (fun e => match e with | .read _ => 0 | .prune _ => 1 | .persist _ _ => 2)
    = [1, 0, 1, 2] := by decide +kernel

theorem delete_refines_witness (st : St) (hst : st.db = rawDb) :
    rawDelete toyH 10 st (toItem toyH t1) (nibs k1) =
      .ok (toItem toyH (deleteE toyHs t1 (nibs k1)).1,
           { db := applyPersists st.db (deleteE toyHs t1 (nibs k1)).2,
             evs := st.evs ++ (deleteE toyHs t1 (nibs k1)).2 }) :=
  Raw.delete_refines toyH toyH_len t1 t1_canon (nibs k1) st (hst ▸ t1_storedD) 10 (by decide)

end RawHex


/-! ## 7. SparseMerkleTree: C14 / C15 -/
section SMT
open PyTrie.Smt
open PyTrie.Bin (Bits toBits)

/-- no hash is bound to two bodies: every entry is compared with the later ones -/
def functionalB : Smt.Db → Bool
  | [] => true
  | e :: r => r.all (fun e' => !(e.1 == e'.1) || e.2 == e'.2) && functionalB r

theorem functional_of_B (db : Smt.Db) (h : functionalB db = true) : Functional db := by
  induction db with
  | nil => intro x b b' m; cases m
  | cons e r ih =>
    simp only [functionalB, Bool.and_eq_true, List.all_eq_true, Bool.or_eq_true, Bool.not_eq_true',
      beq_eq_false_iff_ne, ne_eq, beq_iff_eq] at h
    have hd : ∀ x b b', (x, b) = e → (x, b') ∈ r → b = b' := by
      intro x b b' he m
      subst he
      exact (h.1 _ m).resolve_left fun h => h rfl
    intro x b b' m1 m2
    rcases List.mem_cons.1 m1 with e1 | m1 <;> rcases List.mem_cons.1 m2 with e2 | m2
    · exact (Prod.mk.inj (e1.trans e2.symm)).2
    · exact hd x b b' e1 m2
    · exact (hd x b' b e2 m1).symm
    · exact ih h.2 x b b' m1 m2

/-- three writes on one-byte keys: two keys sharing seven bits, then an overwrite -/
def smtOps : List C14.Op := [.set (toBits [0x12]) [1, 2, 3], .set (toBits [0x13]) [4], .set (toBits [0x12]) [9]]

/-- the key tracked in C15, and the proof object built from what the tree returns for it -/
def smtKey : Bits := toBits [0x13]

def smtProof : Proof :=
  match getAux (C14.run mixH 8 [] smtOps).db (C14.run mixH 8 [] smtOps).root smtKey with
  | some (v, br) => { key := smtKey, value := v, branch := br }
  | none => { key := smtKey, value := [], branch := [] }

/-- the one evaluation of the run: its database is functional, and `smtProof` holds what `_get` returns -/
theorem smt_eval : functionalB (C14.run mixH 8 [] smtOps).db = true ∧ smtProof.key = smtKey ∧
    getAux (C14.run mixH 8 [] smtOps).db (C14.run mixH 8 [] smtOps).root smtKey =
      some (smtProof.value, smtProof.branch) := by decide +kernel

theorem smt_functional : Functional (C14.run mixH 8 [] smtOps).db := functional_of_B _ smt_eval.1

theorem smt_keys : C14.KeysSized 8 smtOps := by unfold C14.KeysSized; decide

/-- C14 on the witness: reads, the root, and a verifying branch -/
theorem smt_get : Smt.get (C14.run mixH 8 [] smtOps) (toBits [0x12]) = .ok [9] := by
  rw [C14.get_spec mixH mixH_len 8 [] smtOps smt_keys smt_functional _ (by decide)]
  have : C14.spec [] smtOps (toBits [0x12]) = [9] := by decide
  rw [this]; rfl

theorem smt_get_absent : Smt.get (C14.run mixH 8 [] smtOps) (toBits [0x55]) = .error .keyError := by
  rw [C14.get_spec mixH mixH_len 8 [] smtOps smt_keys smt_functional _ (by decide)]
  have : C14.spec [] smtOps (toBits [0x55]) = [] := by decide
  rw [this]; rfl

theorem smt_root : (C14.run mixH 8 [] smtOps).root = merkleRoot mixH 8 (C14.spec [] smtOps) :=
  C14.root_is_merkle_root mixH mixH_len 8 [] smtOps smt_keys smt_functional

/-- C15: `smtProof` is `InSync` with the tree's contents -/
theorem smt_inSync : C15.InSync mixH 8 (C14.spec [] smtOps) smtProof := by
  have h := getAux_of_rep mixH _ smt_functional 8 _ _
    (C14.run_rep mixH mixH_len 8 [] smtOps smt_keys smt_functional) smtKey (by decide)
  rw [smt_eval.2.2] at h
  injection h with h
  injection h with hv hb
  unfold C15.InSync
  rw [smt_eval.2.1]
  exact ⟨by decide, hv, hb⟩

example : smtProof.value = [4] ∧ smtProof.branch.length = 8 := by
  obtain ⟨_, hv, hb⟩ := smt_inSync
  rw [hv, hb, smt_eval.2.1]
  exact ⟨by decide, by decide⟩

/-- a stream of later writes: the neighbouring key (diverging at the last bit, all 8 hashes passed on), a far
    key (diverging at the first bit, one hash suffices), and the tracked key itself (no hashes needed) -/
def smtUpdates : List C15.Update :=
  [{ key := toBits [0x12], value := [7], n := 8 }, { key := toBits [0x93], value := [8], n := 1 },
   { key := smtKey, value := [5], n := 0 }]

theorem smt_sufficient : ∀ u ∈ smtUpdates, C15.Sufficient smtProof.key u := by
  rw [smt_eval.2.1]
  intro u hu
  simp only [smtUpdates, List.mem_cons, List.not_mem_nil, or_false] at hu
  rcases hu with rfl | rfl | rfl
  · exact Or.inr ⟨7, by decide, by decide⟩
  · exact Or.inr ⟨0, by decide, by decide⟩
  · exact Or.inl rfl

theorem smt_stream :
    ∃ p', C15.feed mixH 8 (C14.spec [] smtOps) smtProof smtUpdates =
        some (p', smtUpdates.foldl (fun g (u : C15.Update) => Smt.upd g u.key u.value) (C14.spec [] smtOps)) ∧
      C15.InSync mixH 8 (smtUpdates.foldl (fun g (u : C15.Update) => Smt.upd g u.key u.value) (C14.spec [] smtOps)) p' := by
  obtain ⟨p', h1, _, h3, _⟩ := C15.stream_tracks mixH 8 _ smtProof smt_inSync smtUpdates (by decide) smt_sufficient
  exact ⟨p', h1, h3⟩

end SMT


/-! ## 8. C09 / C11 — fog and walk -/
section FogWalk
open PyTrie.Fog PyTrie.Walk

/-- a fog reached by explorations (the example of `Props/C11.lean`) is well-formed, directly … -/
theorem fog_wf : Fog.Wf [[15, 0], [15, 1, 2]] := ⟨by unfold Fog.Sorted; decide, by unfold Fog.Antichain; decide⟩

/-- … so `explore_spec` has a non-trivial instance -/
example : ∃ f', Fog.explore [[15, 0], [15, 1, 2]] [15, 0] [[3], [4, 5]] = .ok f' ∧ Fog.Wf f' := by
  have h : Fog.explore [[15, 0], [15, 1, 2]] [15, 0] [[3], [4, 5]] = .ok [[15, 0, 3], [15, 0, 4, 5], [15, 1, 2]] := by
    rfl
  exact ⟨_, h, (C11.explore_spec _ fog_wf _ _ _ h).1⟩

/-- a second version of `t1`: the embedded leaf's value changed (the key of the hashed leaf is stable) -/
def t2 : Node := Hex.set t1 (nibs k2) [7]

theorem t2_canon : Canon t2 := canon_set _ _ _ (by decide) t1_canon

/-- a schedule alternating between the two versions -/
def sched : List (Node × Path) := [(t1, []), (t2, [1]), (t1, [1, 2]), (t2, [1, 3])]

def walkEnd : WState := (wrun start sched).getD start

/-- an intermediate state of the walk -/
def walkMid : WState := (wrun start (sched.take 2)).getD start

/-- the walk evaluated once: it runs to the end and leaves no fog; what was met (the other key with the value of
    the version consulted there); the fog after two steps; and the value of `k1` in every version consulted -/
theorem walk_eval : (wrun start sched).isSome = true ∧ walkEnd.fog = [] ∧
    walkEnd.met = [(nibs k2, [7]), (nibs k1, longV)] ∧ walkMid.fog = [[1, 2], [1, 3]] ∧
    ∀ e ∈ sched, get e.1 (nibs k1) = longV := by decide +kernel

theorem sched_runs : (wrun start sched).isSome = true := walk_eval.1

theorem sched_run : wrun start sched = some walkEnd := by
  have h := sched_runs
  unfold walkEnd
  cases hw : wrun start sched with
  | none => rw [hw] at h; cases h
  | some s => rfl

theorem sched_done : walkEnd.fog = [] := walk_eval.2.1

/-- **`finds_stable` applies**: the stable key is met with its value -/
theorem walk_finds : (nibs k1, longV) ∈ walkEnd.met := by
  refine C09.finds_stable sched walkEnd ?_ (nibs k1) longV (by decide) walk_eval.2.2.2.2 sched_run sched_done
  simp [sched, t1_canon, t2_canon]

/-- the other key was met with the value of the version consulted there -/
example : walkEnd.met = [(nibs k2, [7]), (nibs k1, longV)] := walk_eval.2.2.1

/-! at the intermediate state the fog is `Wf` with two unexplored prefixes; `step_defined` applies -/

theorem walkMid_fog : walkMid.fog = [[1, 2], [1, 3]] := walk_eval.2.2.2.1

theorem walkMid_wf : Fog.Wf walkMid.fog := by
  rw [walkMid_fog]; exact ⟨by unfold Fog.Sorted; decide, by unfold Fog.Antichain; decide⟩

example : ∃ s', wstep walkMid t2 [1, 3] = some s' ∧ Fog.Wf s'.fog :=
  C09.step_defined walkMid walkMid_wf t2 t2_canon [1, 3] (by rw [walkMid_fog]; decide)

end FogWalk

end PyTrie.Props.NonVacuity
