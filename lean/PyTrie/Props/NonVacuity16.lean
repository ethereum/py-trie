import PyTrie.Props.NonVacuity2
/-! # Non-vacuity, part 16: a stored VALUE that is the hash of a stored node is not followed (C13)

A second trie `side` lives in the same database and the trie under test stores `side`'s root hash as the value of one of
its keys, as an account trie stores storage roots (/verif/seeded/C13q-trie-nodes-follows-leaf-value-as-hash).
`C13.raw_trie_nodes` / `raw_witness` apply (the database stores the whole trie — that it stores more does not matter):
exactly the trie's own nodes come back. -/
namespace PyTrie.Props.NonVacuity16
open PyTrie PyTrie.Bin PyTrie.Bin.BNode PyTrie.BinRaw PyTrie.BranchRaw
open PyTrie.Props.NonVacuity PyTrie.Props.NonVacuity2

/-- the second trie -/
def side : BNode := branch (leaf [0x01]) (leaf [0x02])

/-- the trie under test: key `1` holds `side`'s root hash as its value -/
def acct : BNode := branch (kv [false, true] (leaf [0xaa])) (leaf (hashNode mixH side))

theorem acct_canon : BCanon acct := by
  have h : hashNode mixH side ≠ [] := by decide +kernel
  simp [acct, BCanon, h]

/-- one database holding the nodes of both tries -/
def bothDb : Bin.Db := applySaves mixH (applySaves mixH [] (trieNodes side).reverse) (trieNodes acct).reverse

/-- `bothDb` stores every node of `acct`, and the value under key `1` really is a key of the database -/
theorem acct_eval :
    (∀ n ∈ trieNodes acct, hashNode mixH n ≠ mixH [] ∧ lookup bothDb (hashNode mixH n) = some (encNode mixH n)) ∧
    (lookup bothDb (hashNode mixH side)).isSome = true ∧ bget acct [true] = some (hashNode mixH side) := by
  decide +kernel

theorem acct_allStored : AllStored mixH bothDb acct := forall_sub acct _ acct_eval.1

theorem value_is_a_stored_hash : (lookup bothDb (hashNode mixH side)).isSome = true ∧ bget acct [true] = some (hashNode mixH side) :=
  acct_eval.2

/-- **`get_trie_nodes` returns exactly the four nodes of the trie** — not the three of the trie its value points at -/
theorem trie_nodes_do_not_follow_values :
    trieNodesD bothDb 4 (hashNode mixH acct) = .ok ((trieNodes acct).map (encNode mixH)) :=
  C13.raw_trie_nodes mixH mixH_len acct acct_canon bothDb acct_allStored 4 (by decide)

example : (trieNodes acct).length = 4 ∧ (trieNodes side).length = 3 ∧ bothDb.length = 7 := by decide +kernel

/-- … and so does the witness for the prefix `1` -/
theorem witness_does_not_follow_values :
    witnessD bothDb 4 4 (hashNode mixH acct) [true] = liftR mixH (getWitness acct [true]) :=
  C13.raw_witness mixH mixH_len acct acct_canon bothDb acct_allStored [true] 4 4 (by decide) (by decide)

end PyTrie.Props.NonVacuity16
