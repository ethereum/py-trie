import PyTrie.Props.C01
import PyTrie.Model.HexEnc
import PyTrie.Lemmas.YellowPaper
/-! # C02 — the root hash is a function of the contents only (canonical MPT root)

`rootHash H t = H (rlp (toItem H t))` is the Yellow-Paper encoding of the tree `t`
(hex-prefix paths, RLP, children shorter than 32 bytes embedded, root always hashed), written in
`Model/HexEnc.lean`. The theorems below show, for **every** hash function `H` (nothing is assumed
about it), that two histories with the same resulting mapping produce *the same tree*, hence the
same root, the same database for a pruning trie, the same everything; and that the empty mapping
has the blank root. That this tree is the Yellow Paper's `c(J,0)` construction on the contents is
`root_is_yellow_paper_trie`; that the model's `rlp` and Keccak-256 are the real ones is pinned by
external vectors (four ethereum/tests roots + constants, checked on every run) and by the
independent Yellow-Paper oracle of the correspondence harness. -/
namespace PyTrie.Props.C02
open PyTrie PyTrie.Hex PyTrie.Props.C01

/-- only byte-string keys are ever stored: paths outside the image of `nibs` hold nothing -/
theorem get_off_image (ops : List Op) (p : Path) (hp : ∀ k, p ≠ nibs k) : get (run ops) p = [] := by
  unfold run
  suffices h : ∀ (t : Node), get t p = [] → get (ops.foldl applyOp t) p = [] from h _ (by simp [Hex.get])
  induction ops with
  | nil => intro t h; exact h
  | cons o os ih =>
    intro t h
    apply ih
    cases o with
    | set k v =>
      simp only [applyOp]
      split
      · rw [Hex.get_delete]; simp [hp k, h]
      · rw [Hex.get_set]; simp [hp k, h]
    | delete k => simp only [applyOp]; rw [Hex.get_delete]; simp [hp k, h]

/-- Two histories (any order, overwrites, deletions, set-to-empty; by `flatten` also any batching)
    that lead to the same mapping lead to the same tree. -/
theorem run_eq_of_spec_eq (ops₁ ops₂ : List Op) (h : ∀ k, spec ops₁ k = spec ops₂ k) :
    run ops₁ = run ops₂ := by
  apply canon_unique _ _ (canon_run ops₁) (canon_run ops₂)
  intro p
  by_cases hp : ∃ k, p = nibs k
  · obtain ⟨k, rfl⟩ := hp
    rw [run_get, run_get, h]
  · have hp' : ∀ k, p ≠ nibs k := fun k e => hp ⟨k, e⟩
    rw [get_off_image ops₁ p hp', get_off_image ops₂ p hp']

/-- the root hash depends only on the contents, for every hash function -/
theorem root_depends_only_on_contents (H : Bytes → Bytes) (ops₁ ops₂ : List Op)
    (h : ∀ k, spec ops₁ k = spec ops₂ k) : rootHash H (run ops₁) = rootHash H (run ops₂) := by
  rw [run_eq_of_spec_eq ops₁ ops₂ h]

/-- … including histories that were applied through committed / aborted squash_changes blocks -/
theorem root_batched (H : Bytes → Bytes) (h₁ h₂ : List HOp)
    (h : ∀ k, spec (flatten h₁) k = spec (flatten h₂) k) :
    rootHash H (run (flatten h₁)) = rootHash H (run (flatten h₂)) :=
  root_depends_only_on_contents H _ _ h

/-- an empty mapping always has the blank root `H(rlp(b''))`, whatever happened before -/
theorem root_empty (H : Bytes → Bytes) (ops : List Op) (h : ∀ k, spec ops k = []) :
    rootHash H (run ops) = blankRoot H := by
  have : run ops = run [] := run_eq_of_spec_eq ops [] (fun k => by rw [h k]; rfl)
  rw [this]
  rfl

/-- with Keccak-256 the blank root is the constant `BLANK_NODE_HASH` of `trie/constants.py` -/
theorem blank_root_constant :
    toHex (blankRoot keccak) = "56e81f171bcc55a6ff8345e692c0f86e5b48e01b996cadc001622fb5e363b421" := by
  decide +kernel

/-- non-vacuity: two different insertion orders with an overwrite and a deleted key -/
example : (∀ k, spec [.set [1] [5], .set [2] [6], .set [1] [7], .delete [2]] k = spec [.set [2] [9], .delete [2], .set [1] [7]] k) := by
  intro k; simp only [spec, List.foldl, specStep]; split <;> simp_all

/-! ## Conformance with the Yellow Paper (Appendix D)

`YP.ypC` / `YP.ypRef` / `YP.ypRoot` are the paper's `c(J, i)`, `n(J, i)`, `TRIE(J)` written out literally over the list of
(nibble key, value) pairs (`Lemmas/YellowPaper.lean`). `itemsOf t` is the sorted list of the stored pairs
(`C10.items_exact`, `C10.items_sorted`). -/

/-- the raw node structure py-trie builds for any history **is** the Yellow Paper's construction applied
    to the current contents; the root hash is `TRIE(contents)` — for every hash function `H` -/
theorem root_is_yellow_paper_trie (H : Bytes → Bytes) (ops : List Op) :
    rootHash H (run ops) = YP.ypRoot H (YP.height (run ops)) (itemsOf (run ops)) :=
  YP.rootHash_eq_ypRoot H (run ops) (canon_run ops) _ (Nat.le_refl _)

/-- every canonical subtree is `c(J, i)` of its contents, every child reference is `n(J, i)` -/
theorem node_is_yellow_paper_c (H : Bytes → Bytes) (t : Node) (hc : Canon t) (hb : isBlank t = false) (pre : Path) :
    toItem H t = YP.ypC H (YP.height t) (YP.entriesAt t pre) pre.length :=
  YP.toItem_eq_ypC H t hc hb pre _ (Nat.le_refl _)

theorem ref_is_yellow_paper_n (H : Bytes → Bytes) (t : Node) (hc : Canon t) (pre : Path) :
    refOf H t = YP.ypRef H (YP.entriesAt t pre) (YP.ypC H (YP.height t) (YP.entriesAt t pre) pre.length) :=
  YP.refOf_eq_ypRef H t hc pre _ (Nat.le_refl _)

end PyTrie.Props.C02
