import PyTrie.Lemmas.HexIterProofs
import PyTrie.Lemmas.NodesLoop
import PyTrie.Props.C02
/-! # C10 — NodeIterator enumerates contents in key order; next() is the strict successor

`nextKey`/`keyAfter` mirror `_get_next_key`/`_get_key_after`, `preorder` is the sequence `nodes()`
yields, `itemsOf` the sequence `items()` yields (`keys()`/`values()` are its projections). The
tree-level theorems (`Lemmas/HexIterProofs.lean`) hold for every canonical tree; here they are
restated for the trie reached by an arbitrary history: the `next` theorems and `items_exact` over
byte-string keys and Python's byte-string order `blt`; the order of `items()` and `nodes()` over
nibble paths and `plt` (`plt_nibs`: on images of byte strings the two orders agree). -/
namespace PyTrie.Props.C10
open PyTrie PyTrie.Hex PyTrie.Hex.Node PyTrie.Props.C01

/-- byte-string order is nibble-path order -/
theorem plt_nibs (a b : Bytes) : plt (nibs a) (nibs b) = blt a b := Hex.plt_nibs a b

/-- a nibble path under which a reachable trie stores something is the image of a byte-string key -/
theorem stored_path_is_key (ops : List Op) (p : Path) (h : get (run ops) p ≠ []) : ∃ k, p = nibs k :=
  Classical.byContradiction fun hn =>
    h (C02.get_off_image ops p (fun k hk => hn ⟨k, hk⟩))

/-- `next(k)`: when `_get_key_after` returns a path it is the image of a stored key strictly greater
    than `k` with no stored key strictly between; when it returns `None`, no stored key is greater —
    for every byte string `k`, stored or not -/
theorem next_is_successor (ops : List Op) (k : Bytes) :
    (∀ r, keyAfter (run ops) (nibs k) [] = some r →
        ∃ k', r = nibs k' ∧ spec ops k' ≠ [] ∧ blt k k' = true ∧
          ∀ k'', spec ops k'' ≠ [] → blt k k'' = true → blt k'' k' = false) ∧
    (keyAfter (run ops) (nibs k) [] = none → ∀ k'', spec ops k'' ≠ [] → blt k k'' = false) := by
  have hs := keyAfter_spec (run ops) (canon_run ops) (nibs k) []
  simp only [← run_get, ← Hex.plt_nibs]
  refine ⟨fun r hr => ?_, fun hnone k'' hk'' => hs.2 hnone _ hk''⟩
  obtain ⟨_, rfl, hget, hlt, hmin⟩ := hs.1 r hr
  obtain ⟨k', rfl⟩ := stored_path_is_key ops _ hget
  exact ⟨k', rfl, hget, hlt, fun k'' h1 h2 => hmin _ h1 h2⟩

/-- `next()`: `None` exactly on the empty trie, otherwise the smallest stored key -/
theorem next_none_is_min (ops : List Op) :
    (isBlank (run ops) = true → nextKey (run ops) [] = none) ∧
    (isBlank (run ops) = false → ∃ k, nextKey (run ops) [] = some (nibs k) ∧ spec ops k ≠ [] ∧
        ∀ k', spec ops k' ≠ [] → blt k' k = false) := by
  simp only [← run_get, ← Hex.plt_nibs]
  refine ⟨fun hb => by rw [(isBlank_iff _).1 hb]; rfl, fun hb => ?_⟩
  obtain ⟨r, hr, hget, hmin⟩ := nextKey_some (run ops) (canon_run ops) hb []
  obtain ⟨k, rfl⟩ := stored_path_is_key ops r hget
  exact ⟨k, hr, hget, fun k' hk' => hmin _ hk'⟩

/-- `items()` yields exactly the stored pairs … -/
theorem items_exact (ops : List Op) (k v : Bytes) :
    (nibs k, v) ∈ itemsOf (run ops) ↔ v ≠ [] ∧ spec ops k = v := by
  rw [itemsOf_mem (run ops) (canon_run ops), run_get]

/-- … every yielded path is a byte-string key … -/
theorem items_are_keys (ops : List Op) (p : Path) (v : Bytes) (h : (p, v) ∈ itemsOf (run ops)) :
    ∃ k, p = nibs k := by
  obtain ⟨hv, hg⟩ := (itemsOf_mem (run ops) (canon_run ops) p v).1 h
  exact stored_path_is_key ops p (by rw [hg]; exact hv)

/-- … in strictly ascending key order, hence each exactly once -/
theorem items_sorted (ops : List Op) :
    ((itemsOf (run ops)).map (·.1)).Pairwise (fun a b => plt a b = true) :=
  itemsOf_sorted (run ops) (canon_run ops)

/-- `nodes()`: every yielded pair is the node `traverse(prefix)` returns … -/
theorem nodes_are_traverse (ops : List Op) (p : Path) (n : Node) (h : (p, n) ∈ preorder (run ops) []) :
    nodeAt (run ops) p = some n ∧ traverseT (run ops) p = (n, []) :=
  preorder_nodeAt (run ops) (canon_run ops) p n h

/-- … prefixes strictly increase in tuple order: each node once, a parent (a proper prefix) before
    its children, children left to right … -/
theorem nodes_preorder (ops : List Op) :
    ((preorder (run ops) []).map (·.1)).Pairwise (fun a b => plt a b = true) :=
  preorder_sorted (run ops) (canon_run ops)

/-- … and every non-blank node of the trie is yielded -/
theorem nodes_complete (ops : List Op) (p : Path) (n : Node)
    (h : nodeAt (run ops) p = some n) (hb : isBlank n = false) : (p, n) ∈ preorder (run ops) [] :=
  by simpa using preorder_complete (run ops) [] p n h hb

/-- **`nodes()` as written** — the loop over a `HexaryTrieFog` taking `nearest_right(())`, with a
    `TrieFrontierCache` (`traverse` on a miss, `traverse_from(cached parent, segment)` on a hit), `explore`
    and cache maintenance, transcribed in `Model/Iter.lean` — yields exactly the pre-order sequence, for
    every reachable trie (fuel = any bound above the number of nodes) -/
theorem nodes_loop_is_preorder (ops : List Op) (fuel : Nat) (hf : (preorder (run ops) []).length < fuel) :
    nodesOf (run ops) fuel = preorder (run ops) [] :=
  nodesOf_eq_preorder (run ops) (canon_run ops) fuel hf

end PyTrie.Props.C10
