import PyTrie.Lemmas.HexDbProofs
import PyTrie.Lemmas.RlpRoundTrip
/-! # C03 — hexary Merkle proofs are complete and sound

`getProof` mirrors `_get_proof` on trees; `HexD.getFromProof` mirrors `get_from_proof` on a database
of *encoded* nodes built from an arbitrary node list (`proofDb`), reading through `get_node`,
`_traverse_from` and `_get` (Layer D). -/
namespace PyTrie.Props.C03
open PyTrie PyTrie.Hex PyTrie.Hex.Node PyTrie.HexD

/-- `get_proof(key)` contains only nodes on that key's path: every node of the proof is the subtree
    of the trie at some nibble prefix of the key (extension paths of an honest trie are non-empty) -/
theorem proof_on_path (t : Node) (hc : Canon t) (k : Path) (n : Node) (h : n ∈ getProof t k) :
    ∃ p, p <+: k ∧ nodeAt t p = some n := by
  fun_induction getProof t k with
  | case1 => cases h
  | case2 | case4 | case5 => cases List.mem_singleton.1 h; exact ⟨[], List.nil_prefix, rfl⟩
  | case3 p c k hpk ih =>
    rcases List.mem_cons.1 h with rfl | h'
    · exact ⟨[], List.nil_prefix, rfl⟩
    · obtain ⟨q, hq, hn⟩ := ih hc.2.2 h'
      obtain ⟨r, rfl⟩ := hpk
      exact ⟨p ++ q, (List.prefix_append_right_inj p).2 (by simpa using hq), nodeAt_ext_append p c q n hn hc.1⟩
  | case6 ch v a k ih =>
    rcases List.mem_cons.1 h with rfl | h'
    · exact ⟨[], List.nil_prefix, rfl⟩
    · obtain ⟨q, hq, hn⟩ := ih (hc.1 a) h'
      exact ⟨a :: q, List.cons_prefix_cons.2 ⟨rfl, hq⟩, hn⟩

/-- the first node of a non-empty proof is the root node itself -/
theorem proof_head (t : Node) (k : Path) (hb : isBlank t = false) : (getProof t k).head? = some t := by
  rw [getProof_eq_cons t k hb]
  rfl

/-! ## Layer D: `get_from_proof` on arbitrary node lists -/
section
variable (H : Bytes → Bytes)

theorem proofDb_foldl_mem (ns : List Item) (acc : Db) (e : Hash × Bytes) :
    e ∈ ns.foldl (fun db n => if n == Item.str [] then db else (H (rlp n), rlp n) :: db) acc ↔
    e ∈ acc ∨ ∃ it ∈ ns, (it == Item.str []) = false ∧ e = (H (rlp it), rlp it) := by
  induction ns generalizing acc with
  | nil => simp
  | cons n ns ih =>
    rw [List.foldl_cons, ih]
    simp only [List.mem_cons, or_and_right, exists_or, exists_eq_left]
    cases hn : n == Item.str [] with
    | true => simp
    | false => simpa [or_assoc] using or_left_comm

/-- every entry of the proof database is an offered node stored under the hash of its encoding -/
theorem mem_proofDb (ns : List Item) (e : Hash × Bytes) :
    e ∈ proofDb H ns ↔ ∃ it ∈ ns, (it == Item.str []) = false ∧ e = (H (rlp it), rlp it) := by
  unfold proofDb
  rw [proofDb_foldl_mem]
  simp

theorem lookup_some_mem (db : Db) (h : Hash) (b : Bytes) (hl : lookup db h = some b) : (h, b) ∈ db := by
  obtain ⟨e, hf, rfl⟩ := Option.map_eq_some_iff.1 hl
  have hp : e.1 = h := by simpa using List.find?_some hf
  exact hp ▸ List.mem_of_find?_eq_some hf

theorem lookup_none_of_not_mem (db : Db) (h : Hash) (hn : ∀ b, (h, b) ∉ db) : lookup db h = none := by
  cases hl : lookup db h with
  | none => rfl
  | some b => exact absurd (lookup_some_mem db h b hl) (hn b)

theorem lookup_of_functional (db : Db) (h : Hash) (b : Bytes) (hm : (h, b) ∈ db)
    (hf : ∀ b', (h, b') ∈ db → b' = b) : lookup db h = some b := by
  cases hl : lookup db h with
  | none => simp [lookup] at hl; exact absurd rfl (hl h b hm)
  | some b' => rw [hf b' (lookup_some_mem db h b' hl)]

theorem toItem_ne_blank (n : Node) (hb : isBlank n = false) : (toItem H n == Item.str []) = false := by
  cases n with
  | blank => simp [isBlank] at hb
  | leaf p v => simp [toItem, BEq.beq, Item.beq]
  | ext p c => simp [toItem, BEq.beq, Item.beq]
  | branch ch v => simp [toItem, BEq.beq, Item.beq]

theorem isBlank_of_mem_getProof (t : Node) (k : Path) (n : Node) (h : n ∈ getProof t k) : isBlank n = false := by
  fun_induction getProof t k with
  | case1 => cases h
  | case2 | case4 | case5 => cases List.mem_singleton.1 h; rfl
  | case3 _ _ _ _ ih | case6 _ _ _ _ ih => exact (List.mem_cons.1 h).elim (· ▸ rfl) ih

/-- the run-level "no collision" predicate of an offered node list against the honest path nodes:
    an offered node hashing to a stored path node's hash *is* that node's encoding, and no stored
    path node hashes to the blank root. False only if the run exhibits a hash collision. -/
def NoCollision (t : Node) (k : Path) (ns : List Item) : Prop :=
  ∀ n ∈ getProof t k, Stored H t n →
    hashOf H n ≠ blankRoot H ∧ ∀ it ∈ ns, H (rlp it) = hashOf H n → rlp it = enc H n

/-- offered nodes that do not collide with the honest path nodes make a database that does not contradict them -/
theorem compatible_proofDb (t : Node) (k : Path) (ns : List Item) (hnc : NoCollision H t k ns) :
    ∀ n ∈ getProof t k, Stored H t n → Compatible H (proofDb H ns) n := by
  intro n hn hs
  obtain ⟨h1, h2⟩ := hnc n hn hs
  refine ⟨h1, fun b hb => ?_⟩
  obtain ⟨it, hit, _, he⟩ := (mem_proofDb H ns _).1 (lookup_some_mem _ _ _ hb)
  simp only [Prod.mk.injEq] at he
  rw [he.2]
  exact h2 it hit he.1.symm

/-- **soundness**: whatever node list is offered against the root of an honest trie — nodes removed,
    altered, reordered, duplicated, taken from elsewhere — `get_from_proof` returns the value the trie
    really holds or raises `BadTrieProof`; it never returns another value and raises nothing else -/
theorem proof_sound (hlen : ∀ b, (H b).length = 32) (t : Node) (hc : Canon t) (key : Bytes)
    (hdec : DecOkOn H t (nibs key)) (ns : List Item) (hnc : NoCollision H t (nibs key) ns) :
    getFromProof H (rootHash H t) key ns = .value (get t (nibs key)) ∨
    getFromProof H (rootHash H t) key ns = .badProof := by
  unfold getFromProof
  rcases getD_sound H hlen t hc (proofDb H ns) (nibs key) hdec (compatible_proofDb H t _ ns hnc) with
    h | ⟨h, used, he⟩
  · left; rw [h]
  · right; rw [he]

/-- **a withheld node is detected**: if a stored node on the key's path (the root, or any node of
    at least 32 encoded bytes) is not among the offered nodes, `get_from_proof` raises `BadTrieProof` -/
theorem proof_withheld (hlen : ∀ b, (H b).length = 32) (t : Node) (hc : Canon t) (key : Bytes)
    (hdec : DecOkOn H t (nibs key)) (ns : List Item) (hnc : NoCollision H t (nibs key) ns)
    (n : Node) (hn : n ∈ getProof t (nibs key)) (hs : Stored H t n)
    (hw : ∀ it ∈ ns, H (rlp it) ≠ hashOf H n) :
    getFromProof H (rootHash H t) key ns = .badProof := by
  have hmiss : lookup (proofDb H ns) (hashOf H n) = none := by
    apply lookup_none_of_not_mem
    intro b hb
    obtain ⟨it, hit, _, he⟩ := (mem_proofDb H ns _).1 hb
    simp only [Prod.mk.injEq] at he
    exact hw it hit he.1.symm
  obtain ⟨h, used, he⟩ :=
    getD_withheld H hlen t hc (proofDb H ns) (nibs key) hdec (compatible_proofDb H t _ ns hnc) n hn hs hmiss
  unfold getFromProof
  rw [he]

/-- **completeness**: the list returned by `get_proof(key)` makes `get_from_proof` return exactly
    `get(key)`, for every key — stored, absent, ending inside an extension, at a branch value, below
    embedded nodes -/
theorem proof_complete (hlen : ∀ b, (H b).length = 32) (t : Node) (hc : Canon t) (key : Bytes)
    (hdec : DecOkOn H t (nibs key))
    (hnc : NoCollision H t (nibs key) ((getProof t (nibs key)).map (toItem H))) :
    getFromProof H (rootHash H t) key ((getProof t (nibs key)).map (toItem H)) = .value (get t (nibs key)) := by
  have hres : ∀ n ∈ getProof t (nibs key), Stored H t n →
      Resolves H (proofDb H ((getProof t (nibs key)).map (toItem H))) n := by
    intro n hn hs
    obtain ⟨h1, h2⟩ := hnc n hn hs
    refine ⟨h1, lookup_of_functional _ _ _ ?_ ?_⟩
    · refine (mem_proofDb H _ _).2 ⟨toItem H n, List.mem_map.2 ⟨n, hn, rfl⟩,
        toItem_ne_blank H n (isBlank_of_mem_getProof _ _ _ hn), rfl⟩
    · intro b' hb'
      obtain ⟨it, hit, _, he⟩ := (mem_proofDb H _ _).1 hb'
      simp only [Prod.mk.injEq] at he
      rw [he.2]
      exact h2 it hit he.1.symm
  unfold getFromProof
  rw [getD_of_path H hlen t hc _ (nibs key) hdec hres]

end

/-- the decoder inverts the encoder on every path node shorter than 2^64 bytes (pyrlp itself
    refuses longer payloads), by the RLP round-trip theorem -/
theorem decOkOn_of_small (H : Bytes → Bytes) (t : Node) (k : Path)
    (h : ∀ n ∈ getProof t k, (enc H n).length < 2 ^ 64) : DecOkOn H t k :=
  fun n hn => rlpDecode_rlp_of_length_lt (toItem H n) (h n hn)

/-- completeness and soundness for py-trie's own hashing (rlp + Keccak-256) -/
theorem proof_complete_keccak (t : Node) (hc : Canon t) (key : Bytes)
    (hsz : ∀ n ∈ getProof t (nibs key), (enc keccak n).length < 2 ^ 64)
    (hnc : NoCollision keccak t (nibs key) ((getProof t (nibs key)).map (toItem keccak))) :
    getFromProof keccak (rootHash keccak t) key ((getProof t (nibs key)).map (toItem keccak)) =
      .value (get t (nibs key)) :=
  proof_complete keccak keccak_length t hc key (decOkOn_of_small keccak t _ hsz) hnc

theorem proof_sound_keccak (t : Node) (hc : Canon t) (key : Bytes)
    (hsz : ∀ n ∈ getProof t (nibs key), (enc keccak n).length < 2 ^ 64)
    (ns : List Item) (hnc : NoCollision keccak t (nibs key) ns) :
    getFromProof keccak (rootHash keccak t) key ns = .value (get t (nibs key)) ∨
    getFromProof keccak (rootHash keccak t) key ns = .badProof :=
  proof_sound keccak keccak_length t hc key (decOkOn_of_small keccak t _ hsz) ns hnc

end PyTrie.Props.C03
