import PyTrie.Lemmas.WorldComplete
import PyTrie.Props.C03
/-! # C04 — non-pruning tries never lose or alter history: old roots stay readable

World executor (`Model/HexWorld.lean`): `opSetDel` is `HexaryTrie.set/delete` on a store, including
where a failing write or a missing node leaves things; `commitLoop` is the commit of
`ScratchDB.batch_commit`; `World.setDel` applies them to one of several tries sharing one database.
No injectivity of the hash is assumed: an old binding survives, *or the operation overwrote a key
with a different body* — which for content-addressed writes is a hash collision (`Clobbers`). -/
namespace PyTrie.Props.C04
open PyTrie PyTrie.Hex PyTrie.HexW

/-- every database write of `_set` is `db[hash(node)] = encoding(node)` -/
theorem set_writes_addressed (Hs : Hashing) (t : Node) (k : Path) (v : Bytes) :
    ∀ e ∈ writesOf (setE Hs t k v).2, ∃ n, e = (Hs.hashOf n, Hs.encOf n) := setE_Addr Hs t k v

theorem delete_writes_addressed (Hs : Hashing) (t : Node) (k : Path) :
    ∀ e ∈ writesOf (deleteE Hs t k).2, ∃ n, e = (Hs.hashOf n, Hs.encOf n) := deleteE_Addr Hs t k

/-- **append-only, at every crash point**: `set`/`delete` on a non-pruning trie over a plain dict —
    successful, failing on a missing node, or aborted by a failing write at *any* position (`failAfter`) —
    leaves every old binding unchanged (or exhibits a collision), adds only its own content-addressed
    writes, and deletes nothing -/
theorem set_delete_append_only (Hs : Hashing) (blankRootHash : Hash) (T : TrieSt) (hp : T.prune = false)
    (key : Bytes) (val : Option Bytes) (s : OpSt) (hc : s.store.cache = none) :
    let r := opSetDel Hs blankRootHash T key val s
    let ws := writesOf (opTree Hs T key val).2 ++ [(Hs.hashOf (opTree Hs T key val).1, Hs.encOf (opTree Hs T key val).1)]
    r.1.store.cache = none ∧
    (Preserved s.store.base r.1.store.base ∨ Clobbers s.store.base ws) ∧
    OnlyAdds s.store.base r.1.store.base ws := by
  intro r ws
  have h := opSetDel_plain Hs blankRootHash T hp key val s hc ws fun x hx => by
    rcases List.mem_append.1 hx with h | h
    · exact List.mem_append_left _ h
    · split at h
      · cases h
      · exact List.mem_append_right _ h
  exact ⟨h.1, h.2.final⟩

/-- a failed operation leaves every trie's root pointer and tree as they were -/
theorem failed_op_keeps_roots (Hs : Hashing) (blankRootHash : Hash) (w : World) (i : Nat) (key : Bytes)
    (val : Option Bytes) (e : Exn) (h : (w.setDel Hs blankRootHash (.trie i) key val).1 = .error e) :
    (w.setDel Hs blankRootHash (.trie i) key val).2.tries = w.tries := by
  simp only [World.setDel] at h ⊢
  generalize opSetDel Hs blankRootHash w.tries[i]! key val (w.opSt i) = q at h ⊢
  obtain ⟨st', r⟩ := q
  cases r with
  | ok T' => simp at h
  | error x => rfl

/-- the commit of a `squash_changes` block of a non-pruning trie only inserts, and this holds for
    every prefix of the commit loop, i.e. also when one of its writes fails -/
theorem batch_commit_append_only (cache : List (Hash × Option Bytes)) (base : Dict Bytes) (fa : Option Nat) :
    let r := commitLoop false cache base fa
    let ws := cache.filterMap (fun e => e.2.map (fun v => (e.1, v)))
    (Preserved base r.2.1 ∨ Clobbers base ws) ∧ OnlyAdds base r.2.1 ws := commitLoop_noDeletes cache base fa

/-- **old roots stay readable**: if the database resolved the stored nodes on a key's path of a
    historical tree `t` before, and the bindings were preserved, then a fresh trie opened at that root
    (the Layer-D reader over the later database) still returns exactly the historical contents -/
theorem old_root_still_readable (H : Bytes → Bytes) (hlen : ∀ b, (H b).length = 32)
    (t : Node) (hc : Canon t) (db db' : HexD.Db) (k : Path) (hdec : HexD.DecOkOn H t k)
    (hres : ∀ n ∈ getProof t k, HexD.Stored H t n → HexD.Resolves H db n)
    (hpres : ∀ h b, HexD.lookup db h = some b → HexD.lookup db' h = some b) :
    HexD.getD H db' (rootHash H t) k = .ok (get t k) := by
  apply HexD.getD_of_path H hlen t hc db' k hdec
  intro n hn hs
  obtain ⟨h1, h2⟩ := hres n hn hs
  exact ⟨h1, hpres _ _ h2⟩

/-- `Dict.get?` of the world model and `lookup` of the Layer-D reader are the same function -/
theorem lookup_eq_get? (d : Dict Bytes) (h : Hash) : HexD.lookup d h = Dict.get? d h := rfl

/-! ## The completeness invariant

`Complete d T`: the root pointer is the hash of the tree, the root node and every hashed subtree are
stored under their hashes with their encodings. -/

/-- **a non-pruning `set` / `delete` on a complete database never raises, computes the tree-level
    operation, keeps every old binding and leaves a complete database for the new root** (no write fault
    injected; `NoClobber` is the run-level no-collision predicate for this operation's writes) -/
theorem op_keeps_complete (Hs : Hashing) (blankRootHash : Hash) (T : TrieSt) (hp : T.prune = false) (hc : Canon T.tree)
    (key : Bytes) (val : Option Bytes) (s : OpSt) (hcache : s.store.cache = none) (hfa : s.store.failAfter = none)
    (hcomp : Complete Hs blankRootHash s.store.base T) (hrs : RefSound Hs T.tree (nibs key))
    (hnc : NoClobber s.store.base (opWrites Hs T key val))
    (hblank : isBlank (opTree Hs T key val).1 = false → Hs.hashOf (opTree Hs T key val).1 ≠ blankRootHash) :
    ∃ T', (opSetDel Hs blankRootHash T key val s).2 = .ok T' ∧
      T'.tree = (opTree Hs T key val).1 ∧ T'.prune = false ∧
      Preserved s.store.base (opSetDel Hs blankRootHash T key val s).1.store.base ∧
      Complete Hs blankRootHash (opSetDel Hs blankRootHash T key val s).1.store.base T' :=
  opSetDel_keeps_complete Hs blankRootHash T hp key val s hcache hfa hcomp hnc hblank

/-- every trie that was complete stays complete whatever is added later (other tries on the same
    database, later operations, batches): bindings are only ever preserved -/
theorem complete_survives (Hs : Hashing) (blankRootHash : Hash) (d d' : Dict Bytes) (hp : Preserved d d') (T : TrieSt)
    (h : Complete Hs blankRootHash d T) : Complete Hs blankRootHash d' T := complete_mono Hs blankRootHash d d' hp T h

end PyTrie.Props.C04
