import PyTrie.Props.C03
import PyTrie.Props.C08
import PyTrie.Props.C10
/-! History-level corollaries for C03 and C08: the tree-level theorems instantiated at the trie reached by
    an arbitrary history (`C01.run ops`, canonical by `C01.canon_run`) and restated with byte-string keys and the
    map model `C01.spec`. -/
namespace PyTrie.Props.Histories
open PyTrie PyTrie.Hex PyTrie.Hex.Node PyTrie.Props.C01 PyTrie.HexD

/-- C03 completeness for every history and key: `get_from_proof(root, key, get_proof(key)) = get(key)` -/
theorem proof_complete_run (H : Bytes → Bytes) (hlen : ∀ b, (H b).length = 32) (ops : List Op) (key : Bytes)
    (hsz : ∀ n ∈ getProof (run ops) (nibs key), (enc H n).length < 2 ^ 64)
    (hnc : C03.NoCollision H (run ops) (nibs key) ((getProof (run ops) (nibs key)).map (toItem H))) :
    getFromProof H (rootHash H (run ops)) key ((getProof (run ops) (nibs key)).map (toItem H)) = .value (spec ops key) := by
  rw [C03.proof_complete H hlen (run ops) (canon_run ops) key (C03.decOkOn_of_small H _ _ hsz) hnc, run_get]

/-- C03 soundness for every history, key and offered node list -/
theorem proof_sound_run (H : Bytes → Bytes) (hlen : ∀ b, (H b).length = 32) (ops : List Op) (key : Bytes)
    (hsz : ∀ n ∈ getProof (run ops) (nibs key), (enc H n).length < 2 ^ 64)
    (ns : List Item) (hnc : C03.NoCollision H (run ops) (nibs key) ns) :
    getFromProof H (rootHash H (run ops)) key ns = .value (spec ops key) ∨
    getFromProof H (rootHash H (run ops)) key ns = .badProof := by
  have := C03.proof_sound H hlen (run ops) (canon_run ops) key (C03.decOkOn_of_small H _ _ hsz) ns hnc
  rwa [run_get] at this

/-- C08: `traverse(path)` is blank exactly when no stored byte-string key starts with the path -/
theorem traverse_blank_iff_run (ops : List Op) (p : Path) :
    (traverseT (run ops) p).1 = blank ↔ ∀ k : Bytes, p <+: nibs k → spec ops k = [] := by
  rw [C08.traverse_blank_iff (run ops) (canon_run ops) p]
  simp only [← run_get]
  refine ⟨fun h k hk => h _ hk, fun h q hq => Classical.byContradiction fun hg => ?_⟩
  obtain ⟨k, rfl⟩ := C10.stored_path_is_key ops q hg
  exact hg (h k hq)

/-- C08: the description at `path` covers every stored byte-string key below it -/
theorem traverse_covers_run (ops : List Op) (p : Path) (d : Ann)
    (hd : (traverseOut (run ops) p).desc = some d) (k : Bytes) (hpk : p <+: nibs k) (hk : spec ops k ≠ []) :
    (nibs k = p ++ d.suffix ∧ d.value = spec ops k) ∨ (∃ s ∈ d.subs, (p ++ s) <+: nibs k) := by
  have := C08.traverse_covers (run ops) (canon_run ops) p d hd (nibs k) hpk (by rw [run_get]; exact hk)
  rwa [run_get] at this

end PyTrie.Props.Histories
