import PyTrie.Props.NonVacuity
/-! # Non-vacuity, part 2: raw-level histories (hexary and binary), C13 at raw level, a walk with stale cache entries,
the hexary read path and `NodeIterator` at raw level -/
namespace PyTrie.Props.NonVacuity2
open PyTrie PyTrie.Hex PyTrie.HexD
open PyTrie.Props.NonVacuity

/-! ## 1. Whole histories at raw level (hexary) -/
section RawHist
open PyTrie.Hex.Node PyTrie.HexRaw PyTrie.HexW
open PyTrie.Props.C01 (Op run spec applyOp)

/-- every body of a concrete dictionary is shorter than `N` as soon as that holds of the listed entries -/
theorem bodies_short (d : Dict Bytes) (N : Nat) (hall : d.all (fun e => decide (e.2.length < N)) = true)
    (h : Hash) (b : Bytes) (hg : Dict.get? d h = some b) : b.length < N := by
  simp only [Dict.get?, Option.map_eq_some_iff] at hg
  obtain ⟨e, he, rfl⟩ := hg
  have hm := List.mem_of_find?_eq_some he
  simp only [List.all_eq_true, decide_eq_true_eq] at hall
  exact hall e hm

def histBase : Dict Bytes := (runW toyHs (blankRoot toyH) false hist).2.store.base

theorem histBase_eval : Dict.get? histBase (blankRoot toyH) = none ∧
    histBase.all (fun e => decide (e.2.length < 100)) = true := by decide +kernel

theorem histBase_blank : Dict.get? histBase (blankRoot toyH) = none := histBase_eval.1

theorem histBase_short : ∀ h b, Dict.get? histBase h = some b → b.length < 2 ^ 64 := by
  intro h b hg
  have := bodies_short histBase 100 histBase_eval.2 h b hg
  omega

theorem histBase_def : histBase = (runW toyHs (blankRoot toyH) false hist).2.store.base := rfl

theorem raw_history_is_world_run :
    ∃ db, rawRun toyH hist (blankRoot toyH, []) = .ok ((runW toyHs (blankRoot toyH) false hist).1.root, db) ∧
      DbAgrees db histBase := by
  rw [histBase_def]
  exact Raw.history_is_world_run toyH toyH_len hist _ _ hist_reach_np (histBase_def ▸ histBase_blank)
    (histBase_def ▸ histBase_short)

theorem raw_history_root_is_yellow_paper :
    ∃ db, rawRun toyH hist (blankRoot toyH, []) = .ok (YP.ypRoot toyH (YP.height (run hist)) (itemsOf (run hist)), db) :=
  Raw.history_root_is_yellow_paper toyH toyH_len hist _ _ hist_reach_np (histBase_def ▸ histBase_blank)
    (histBase_def ▸ histBase_short)

theorem raw_history_get (key : Bytes) :
    ∃ db, rawRun toyH hist (blankRoot toyH, []) = .ok (rootHash toyH (run hist), db) ∧
      getD toyH db (rootHash toyH (run hist)) (nibs key) = .ok (spec hist key) :=
  Raw.history_get toyH toyH_len hist _ _ hist_reach_np (histBase_def ▸ histBase_blank)
    (histBase_def ▸ histBase_short) key

/-- what the raw-level run returns on the witness: a root and a database (write log) of five entries -/
def rawEnd : Hash × Db := match rawRun toyH hist (blankRoot toyH, []) with | .ok r => r | .error _ => ([], [])

/-- the raw-level run evaluated once: it returns `rawEnd`, five entries and the root of the remaining leaf -/
theorem rawRun_eval : (rawRun toyH hist (blankRoot toyH, [])).toOption = some rawEnd ∧
    rawEnd.2.length = 5 ∧ rawEnd.1 = rootHash toyH (leaf (nibs k2) [5]) := by decide +kernel

theorem rawRun_hist : rawRun toyH hist (blankRoot toyH, []) = .ok rawEnd := by
  have h := rawRun_eval.1
  cases hr : rawRun toyH hist (blankRoot toyH, []) with
  | ok r => rw [hr] at h; rw [Option.some.inj h]
  | error e => rw [hr] at h; cases h

theorem rawRun_hist_ok : (match rawRun toyH hist (blankRoot toyH, []) with | .ok _ => true | .error _ => false) = true := by
  rw [rawRun_hist]

example : rawEnd.2.length = 5 ∧ rawEnd.1 = rootHash toyH (leaf (nibs k2) [5]) := rawRun_eval.2

end RawHist

/-! ## 2. Whole histories of the binary trie at raw level -/
section BinHist
open PyTrie.Bin PyTrie.Bin.BNode PyTrie.BinRaw
open PyTrie.Props.C12 (Op run spec apply)

/-- Boolean form of `NoCollTop` -/
def ncTopB (H : Bytes → Bytes) (t : Option BNode) (o : Op) : Bool :=
  match t with
  | some n => ncOpB H n (bsetS n o.key (opVal o) (opSub o)).2
  | none =>
    (bsetTopS none o.key (opVal o) (opSub o)).2.all (fun s => !(hashNode H s == H [])) &&
    (bsetTopS none o.key (opVal o) (opSub o)).2.all (fun s =>
      (bsetTopS none o.key (opVal o) (opSub o)).2.all fun s' =>
        !(hashNode H s == hashNode H s') || encNode H s == encNode H s')

theorem ncTop_of_B (H : Bytes → Bytes) (t : Option BNode) (o : Op) (h : ncTopB H t o = true) : NoCollTop H t o := by
  cases t with
  | some n => exact ncOp_of_B H n _ h
  | none =>
    simp only [ncTopB, Bool.and_eq_true, List.all_eq_true, Bool.or_eq_true, Bool.not_eq_true', beq_eq_false_iff_ne,
      ne_eq, beq_iff_eq] at h
    exact ⟨h.1, fun s hs s' hs' he => (h.2 s hs s' hs').resolve_left fun h => h he⟩

/-- the hypotheses of one `BinReach` step, as a test -/
def binStepB (H : Bytes → Bytes) (t : Option BNode) (o : Op) : Bool :=
  !(o.key.isEmpty) && (match apply t o with | .ok _ => true | .error _ => false) && ncTopB H t o

def binAllB (H : Bytes → Bytes) : Option BNode → List Op → Bool
  | _, [] => true
  | t, o :: r => binStepB H t o && binAllB H (C12.step t o) r

theorem binReach_of_allB (H : Bytes → Bytes) (pre : List Op) (t : Option BNode) (ops : List Op)
    (hr : BinReach H pre t) (h : binAllB H t ops = true) : BinReach H (pre ++ ops) (ops.foldl C12.step t) := by
  induction ops generalizing pre t with
  | nil => simpa using hr
  | cons o r ih =>
    simp only [binAllB, binStepB, Bool.and_eq_true, Bool.not_eq_true', List.isEmpty_eq_false_iff] at h
    obtain ⟨⟨⟨hk, hap⟩, hnc⟩, hrest⟩ := h
    have hstep : apply t o = .ok (C12.step t o) := by
      unfold C12.step
      cases ha : apply t o with
      | ok t' => rfl
      | error e => rw [ha] at hap; cases hap
    have := ih (pre ++ [o]) (C12.step t o) (BinReach.step pre t o _ hr hk hstep (ncTop_of_B H t o hnc)) hrest
    simpa using this

theorem binReach_of_check (H : Bytes → Bytes) (ops : List Op) (h : binAllB H none ops = true) :
    BinReach H ops (run ops) := by
  simpa [run] using binReach_of_allB H [] none ops BinReach.init h

/-- six accepted calls: the second splits the root kv node, the fourth splits the inner kv node `01`
    (new key `000`), then a `delete` (which merges nodes again) and a `delete_subtrie` -/
def bops : List Op :=
  [.set [false, false, true, false] [0xaa], .set [false, false, true, true] [0xbb, 0xcc], .set [true] [0xdd],
   .set bk [0xee], .delete [false, false, true, false], .deleteSubtrie [false, false]]

theorem bops_ok : binAllB mixH none bops = true := by decide +kernel

theorem bops_reach : BinReach mixH bops (run bops) := binReach_of_check mixH bops bops_ok

/-! the intermediate trees: after three calls the tree is `bt`; the fourth call splits its kv node; the delete turns the
lower branch into a kv node; the `delete_subtrie` leaves one key -/

example : run (bops.take 3) = some bt := by decide +kernel

example : run (bops.take 4) =
    some (branch (kv [false] (branch (leaf [0xee]) (branch (leaf [0xaa]) (leaf [0xbb, 0xcc])))) (leaf [0xdd])) := by
  decide +kernel

example : run (bops.take 5) =
    some (branch (kv [false] (branch (leaf [0xee]) (kv [true] (leaf [0xbb, 0xcc])))) (leaf [0xdd])) := by
  decide +kernel

theorem bops_run : run bops = some (kv [true] (leaf [0xdd])) := by decide +kernel

/-- the raw-level run succeeds and its database (a write log) has 17 entries -/
example : (match binRawRun mixH bops (mixH [], { db := [] }) with | .ok r => r.2.db.length | .error _ => 0) = 17 := by
  decide +kernel

theorem bin_history_witness :
    ∃ st, binRawRun mixH bops (mixH [], { db := [] }) = .ok (rootOf mixH (run bops), st) ∧
      (∀ n, run bops = some n → AllStored mixH st.db n) :=
  Raw.bin_history mixH mixH_len bops _ bops_reach

theorem bin_history_get_witness (k : Bits) :
    ∃ st, binRawRun mixH bops (mixH [], { db := [] }) = .ok (rootOf mixH (run bops), st) ∧
      bgetD (mixH []) st.db (k.length + 1) (rootOf mixH (run bops)) k = .ok (spec bops k) :=
  Raw.bin_history_get mixH mixH_len bops _ bops_reach k

end BinHist

/-! ## 3. C13 at raw level -/
section C13Raw
open PyTrie.Bin PyTrie.Bin.BNode PyTrie.BinRaw PyTrie.BranchRaw

/-- `_check_if_branch_exist` for the prefix `001` (inside the kv node and one step into the branch below) -/
theorem c13_raw_exists :
    existsD (mixH []) btDb 5 (hashNode mixH bt) [false, false, true] = .ok (branchExists bt [false, false, true]) :=
  C13.raw_exists mixH mixH_len bt bt_canon btDb bt_allStored [false, false, true] 5 (by decide)

example : branchExists bt [false, false, true] = true ∧ branchExists bt [false, true] = false := by decide

/-- `_get_branch` for the key `0011`: the four encoded nodes of `bpath` -/
theorem c13_raw_get_branch :
    getBranchD (mixH []) btDb 6 (hashNode mixH bt) [false, false, true, true] = .ok (bpath.map (encNode mixH)) := by
  rw [C13.raw_get_branch mixH mixH_len bt bt_canon btDb bt_allStored [false, false, true, true] 6 (by decide), bpath_ok]
  rfl

example : bpath.length = 4 := rfl

/-- `_get_trie_nodes` from the root: all six nodes -/
theorem c13_raw_trie_nodes :
    trieNodesD btDb 4 (hashNode mixH bt) = .ok ((trieNodes bt).map (encNode mixH)) :=
  C13.raw_trie_nodes mixH mixH_len bt bt_canon btDb bt_allStored 4 (by decide)

example : (trieNodes bt).length = 6 := by decide

/-- `_get_witness_for_key_prefix` for the prefix `00`: root, kv node and the whole subtree below it -/
theorem c13_raw_witness :
    witnessD btDb 4 4 (hashNode mixH bt) [false, false] = liftR mixH (getWitness bt [false, false]) :=
  C13.raw_witness mixH mixH_len bt bt_canon btDb bt_allStored [false, false] 4 4 (by decide) (by decide)

theorem bt_witness : getWitness bt [false, false] = .ok [bt, kv [false, true] (branch (leaf [0xaa]) (leaf [0xbb, 0xcc])),
    branch (leaf [0xaa]) (leaf [0xbb, 0xcc]), leaf [0xaa], leaf [0xbb, 0xcc]] := by
  rfl

end C13Raw

/-! ## 4. C09 — the concrete walk with a stale `TrieFrontierCache` -/
section Walk
open PyTrie.Fog PyTrie.Walk

/-- the root is explored while the trie is `t1`; then the trie is changed to `t2`, and the three remaining
    prefixes are explored through the cache entries made from nodes of `t1` -/
def csched : List (Node × Path) := [(t1, []), (t2, [1]), (t2, [1, 2]), (t2, [1, 3])]

def cEnd : CState := (crun cstart csched).getD cstart

/-- the state after the first step (made under `t1`): the cache maps the prefix `1` to the root node of `t1` -/
def cMid1 : CState := (crun cstart (csched.take 1)).getD cstart

def cMid2 : CState := (crun cstart (csched.take 2)).getD cstart

/-- the walk evaluated once: it runs to the end and leaves no fog; the second step (current version `t2`) is a cache
    hit, on the entry holding the root of the older version `t1`, and so are the third and fourth (entries holding the
    branch node of `t1`, created in step 2 from the stale root); the value of `k1` in every version consulted; the pairs
    met (the changed key was read through the stale entry and so shows the value of the old version) -/
theorem cwalk_eval :
    ((crun cstart csched).isSome = true ∧ cEnd.fog = []) ∧
    (Frontier.get cMid1.cache [1]).map (fun e => (sameB e.1 t1, e.2)) = some (true, [1]) ∧
    ((Frontier.get cMid2.cache [1, 2]).map (fun e => (sameB e.1 t1br, e.2)) = some (true, [2]) ∧
      (Frontier.get cMid2.cache [1, 3]).map (fun e => (sameB e.1 t1br, e.2)) = some (true, [3])) ∧
    (∀ e ∈ csched, get e.1 (nibs k1) = longV) ∧ cEnd.met = [(nibs k2, [5]), (nibs k1, longV)] := by
  decide +kernel

theorem csched_runs : (crun cstart csched).isSome = true := cwalk_eval.1.1

theorem csched_run : crun cstart csched = some cEnd := by
  have h := csched_runs
  unfold cEnd
  cases hw : crun cstart csched with
  | none => rw [hw] at h; cases h
  | some s => rfl

theorem csched_done : cEnd.fog = [] := cwalk_eval.1.2

theorem cMid1_hit : (Frontier.get cMid1.cache [1]).map (fun e => (sameB e.1 t1, e.2)) = some (true, [1]) :=
  cwalk_eval.2.1

theorem cMid2_hits :
    (Frontier.get cMid2.cache [1, 2]).map (fun e => (sameB e.1 t1br, e.2)) = some (true, [2]) ∧
    (Frontier.get cMid2.cache [1, 3]).map (fun e => (sameB e.1 t1br, e.2)) = some (true, [3]) :=
  cwalk_eval.2.2.1

theorem csched_canon : ∀ e ∈ csched, Canon e.1 := by
  simp [csched, t1_canon, t2_canon]

/-- **`concrete_finds_stable` applies**: the stable key is met with its value -/
theorem cwalk_finds : (nibs k1, longV) ∈ cEnd.met :=
  C09.concrete_finds_stable csched cEnd csched_canon (nibs k1) longV (by decide) cwalk_eval.2.2.2.1 csched_run
    csched_done

theorem cEnd_met : cEnd.met = [(nibs k2, [5]), (nibs k1, longV)] := cwalk_eval.2.2.2.2

/-- **`concrete_sound` applies** to that stale pair: some version of the schedule did hold it (`t1`) -/
theorem cwalk_sound : ∃ e ∈ csched, ([5] : Bytes) ≠ [] ∧ get e.1 (nibs k2) = [5] :=
  C09.concrete_sound csched cEnd csched_canon csched_run (nibs k2) [5] (by rw [cEnd_met]; simp)

example : get t2 (nibs k2) = [7] ∧ get t1 (nibs k2) = [5] := by decide +kernel

end Walk

/-! ## 5. Hexary read path and `NodeIterator` at raw level -/
section ReadIter
open PyTrie.Hex.Node PyTrie.HexRaw PyTrie.HexW

theorem t1_height : YP.height t1 = 3 := by decide +kernel

theorem next_key_witness :
    nextKeyD toyH rawDb 64 4 (Ann.toD toyH (annotate t1)) [] = .ok (nextKey t1 []) :=
  Raw.next_key_refines toyH toyH_len t1 t1_canon rawDb t1_storedD [] 64 4 (by decide) (by rw [t1_height]; decide)

example : nextKey t1 [] = some (nibs k1) := by decide +kernel

theorem key_after_witness :
    keyAfterD toyH rawDb 64 80 (Ann.toD toyH (annotate t1)) (nibs k1) [] = .ok (keyAfter t1 (nibs k1) []) :=
  Raw.key_after_refines toyH toyH_len t1 t1_canon rawDb t1_storedD (nibs k1) [] 64 80 (by decide)
    (by rw [t1_height]; decide)

example : keyAfter t1 (nibs k1) [] = some (nibs k2) := by decide +kernel

theorem get_proof_witness :
    getProofD toyH rawDb 4 (toItem toyH t1) (nibs k1) = .ok ([t1', t1br, leaf [] longV].map (toItem toyH)) := by
  rw [Raw.get_proof_refines toyH toyH_len t1 t1_canon rawDb t1_storedD (nibs k1) 4 (by decide), t1_proof]

theorem annotate_witness : annotateD (toItem toyH t1br) = some (Ann.toD toyH (annotate t1br)) :=
  Raw.annotate_refines toyH toyH_len t1br

example : (annotate t1br).subs = [[2], [3]] := by decide +kernel

end ReadIter

end PyTrie.Props.NonVacuity2
