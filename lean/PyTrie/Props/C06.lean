import PyTrie.Lemmas.WorldPrune
import PyTrie.Lemmas.HexCanon
/-! # C06 — pruning is exact, reference counts are true (structural core)

`setE`/`deleteE` are `_set`/`_delete` with the database traffic they cause. The theorems here are
the structural heart of exact pruning, for **every** hashing:

* the instrumented functions compute the same tree as the plain ones;
* *balance*: for every hash `h`, references to `h` in the new tree (below the root) plus the
  prunes of `h` equal the references in the old tree (root included) plus the persists of `h`.
  `_complete_pruning` applies `+persist` at once and `−prune` at the end, deleting at zero, so the
  balance is exactly what keeps `ref_count = occurrences` and `db keys = support`.

`RefSound` is the run-level hypothesis that the two `encoded == old reference` short-circuits of
the delete path did not confuse two different subtrees; it can fail only if the run exhibits a
hash collision (no injectivity of the hash function is assumed anywhere).

The lift of the balance through the world executor is below (`opSetDel` on a pruning trie) and in
`C05Batch.lean` (`squash_changes` blocks); the correspondence check ties the same facts to the code (exact
database key set, counts and `regenerate_ref_count()` after every operation). -/
namespace PyTrie.Props.C06
open PyTrie PyTrie.Hex

theorem setE_tree (Hs : Hashing) (t : Node) (k : Path) (v : Bytes) : (setE Hs t k v).1 = Hex.set t k v :=
  setE_fst Hs t k v

theorem deleteE_tree (Hs : Hashing) (t : Node) (k : Path) (hrs : RefSound Hs t k) (hc : Canon t) :
    (deleteE Hs t k).1 = Hex.delete t k := deleteE_fst Hs t k hrs hc

/-- insert side: references gained = persists, references lost = prunes, for every hash -/
theorem setE_balance (Hs : Hashing) (t : Node) (k : Path) (v : Bytes) (h : Hash) :
    occProper Hs (setE Hs t k v).1 h + cntPrune (setE Hs t k v).2 h =
    occ Hs t h + cntPersist (setE Hs t k v).2 h := Hex.setE_balance Hs t k v h

/-- delete side, including normalisation / extension merging, the persist-then-prune of a merged
    child and the two short-circuits -/
theorem deleteE_balance (Hs : Hashing) (t : Node) (k : Path) (hrs : RefSound Hs t k) (h : Hash) :
    occProper Hs (deleteE Hs t k).1 h + cntPrune (deleteE Hs t k).2 h =
    occ Hs t h + cntPersist (deleteE Hs t k).2 h := Hex.deleteE_balance Hs t k hrs h

/-- `RefSound` follows from (but is much weaker than) global soundness of reference equality -/
theorem refSound_of_sound (Hs : Hashing) (hre : ∀ a b, Hs.refEq a b = true → a = b) (t : Node) (k : Path) :
    RefSound Hs t k := Hex.refSound_of_sound Hs hre t k

/-! ## Exact pruning at world level

`PruneInv T s`: the root pointer is the hash of the tree; for **every** hash `h` the reference count is
`occRoot T.tree h` — the number of hashed subtrees below the root with that hash (shared identical
subtrees counted once per occurrence) plus one for the root, which is stored even when short — and the
database contains `h` **iff** that number is positive. So: nothing live is ever deleted, nothing dead is
left behind, the counts are true. -/
open PyTrie.HexW

theorem prune_invariant_init (Hs : Hashing) (blankRootHash : Hash) :
    PruneInv Hs blankRootHash { tree := .blank, root := blankRootHash, prune := true }
      { store := { base := [], cache := none, failAfter := none }, counts := [], pending := [] } :=
  pruneInv_init Hs blankRootHash

/-- every `set` / `delete` (through `_prune_on_success`, `_set_db_value`, `_set_root_node`, `_complete_pruning`)
    re-establishes the invariant, never raising -/
theorem prune_invariant_step (Hs : Hashing) (blankRootHash : Hash) (T : TrieSt) (hc : Canon T.tree) (key : Bytes)
    (val : Option Bytes) (s : OpSt) (hfa : s.store.failAfter = none) (hinv : PruneInv Hs blankRootHash T s)
    (hrs : RefSound Hs T.tree (nibs key))
    (hblank : isBlank (opTree Hs T key val).1 = false → Hs.hashOf (opTree Hs T key val).1 ≠ blankRootHash) :
    ∃ T', (opSetDel Hs blankRootHash T key val s).2 = .ok T' ∧
      T'.tree = (match val with
        | some v => if v = [] then Hex.delete T.tree (nibs key) else Hex.set T.tree (nibs key) v
        | none => Hex.delete T.tree (nibs key)) ∧
      PruneInv Hs blankRootHash T' (opSetDel Hs blankRootHash T key val s).1 :=
  opSetDel_pruneInv Hs blankRootHash T hc key val s hfa hinv hrs hblank

/-- `regenerate_ref_count()` recomputes exactly these numbers (for hashings whose embedded nodes cannot
    contain hashed ones — true of rlp + Keccak: `keccak_embedded`), so `ref_count = regenerate_ref_count()`:
    the walk skips embedded subtrees, which is harmless because they cannot contain hashed nodes -/
theorem regenerate_is_true_count (Hs : Hashing) (hemb : EmbeddedLeafy Hs) (t : Node) (h : Hash) :
    (regen Hs t).count h = occRoot Hs t h := by
  unfold regen occRoot
  cases hb : isBlank t
  · simp only [Bool.false_eq_true, ↓reduceIte, List.count_cons, regenSub_count Hs hemb, beq_iff_eq, true_and]
  · simp [occProper_of_isBlank Hs hb]

/-- for py-trie's own hashing an embedded node has no hashed descendants: a reference to a hashed child
    is a 32-byte string, so the parent's encoding has at least 33 bytes -/
theorem keccak_embedded : EmbeddedLeafy keccakHashing := by
  -- rewriting first: unifying `keccakHashing.hashed _` with `isHashed keccak _` directly unfolds the encoding
  apply embeddedLeafy_of_child <;> rw [keccakHashing_hashed]
  · exact HexD.isHashed_ext_of_child keccak keccak_length
  · exact HexD.isHashed_branch_of_child keccak keccak_length

/-- a history of the trie's own API on a pruning trie that started from an empty database: the
    run-level hypotheses are the no-collision predicates of each step (`RefSound`, and that no node hashes
    to the blank root); the conclusion is the invariant after the whole history -/
inductive Reach (Hs : Hashing) (blankRootHash : Hash) : TrieSt → OpSt → Prop where
  | init : Reach Hs blankRootHash { tree := .blank, root := blankRootHash, prune := true }
      { store := { base := [], cache := none, failAfter := none }, counts := [], pending := [] }
  | step (T : TrieSt) (s : OpSt) (key : Bytes) (val : Option Bytes) (T' : TrieSt) :
      Reach Hs blankRootHash T s →
      RefSound Hs T.tree (nibs key) →
      (isBlank (opTree Hs T key val).1 = false → Hs.hashOf (opTree Hs T key val).1 ≠ blankRootHash) →
      (opSetDel Hs blankRootHash T key val s).2 = .ok T' →
      Reach Hs blankRootHash T' (opSetDel Hs blankRootHash T key val s).1

theorem reach_invariant (Hs : Hashing) (blankRootHash : Hash) (T : TrieSt) (s : OpSt)
    (h : Reach Hs blankRootHash T s) :
    Canon T.tree ∧ s.store.failAfter = none ∧ PruneInv Hs blankRootHash T s := by
  induction h with
  | init => exact ⟨trivial, rfl, pruneInv_init Hs blankRootHash⟩
  | step T s key val T' _ hrs hbl hok ih =>
    obtain ⟨hc, hfa, hinv⟩ := ih
    obtain ⟨T'', h1, h2, h3⟩ := opSetDel_pruneInv Hs blankRootHash T hc key val s hfa hinv hrs hbl
    rw [hok] at h1
    cases h1
    refine ⟨?_, ?_, h3⟩
    · rw [h2]
      cases val with
      | none => exact canon_delete _ _ hc
      | some v =>
        simp only
        split
        · exact canon_delete _ _ hc
        · next hv => exact canon_set _ _ _ hv hc
    · exact failAfter_none_preserved Hs blankRootHash T key val s hfa

end PyTrie.Props.C06
