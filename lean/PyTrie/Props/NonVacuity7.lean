import PyTrie.Props.NonVacuity6
/-! # Non-vacuity, part 7: the raw-level walk step (`C09.raw_step_refines`, `C09.raw_cache_invariant`)

Both theorems are stated under `Canon t`, `RootPartial H db root t`, `PartialD H db t`, `CacheOkD H db s.cache`. Here, with
the toy hash `toyH` and the executor's pruning runs of `NonVacuity4.lean` / `NonVacuity6.lean`:

1. a complete walk (five raw-level steps, four of them cache hits) of the final tree of the six-operation history `hist6`
   (three keys; a hashed branch and two hashed leaves below the root) over its final pruned database, and
   `raw_cache_invariant` on its successful steps;
2. the cache of that walk after two steps, kept while two more operations (`hist8`) prune a hashed leaf under a cached
   parent: over the *current* tree, root and database the stale cache still satisfies `CacheOkD`, and the step at the prefix
   of the pruned leaf is the left disjunct — `MissingTraversalNode` for exactly that leaf;
3. a stale hit in the same cache whose child is still in the database: the step succeeds and is the tree-level step, which
   describes the **old** version there (the value met is the old one, the current trie holds another).

The hypotheses are not assumed: `Canon` is `C01.canon_run`, `RootPartial`/`PartialD` come from
`C09.earlier_versions_consistent` on checked `ReachVersions` histories, `CacheOkD` from the empty cache and
`C09.raw_cache_invariant`. Which disjunct of `raw_step_refines` holds is decided by evaluating `cstepD` in the kernel. -/
namespace PyTrie.Props.NonVacuity7
open PyTrie PyTrie.Hex PyTrie.Hex.Node PyTrie.HexD PyTrie.Fog PyTrie.Walk
open PyTrie.Props.NonVacuity PyTrie.Props.NonVacuity2 PyTrie.Props.NonVacuity4 PyTrie.Props.NonVacuity6
open PyTrie.HexW PyTrie.HexRaw
open PyTrie.HexFree (ReachVersions WritesAgree)
open PyTrie.Props.C01 (Op run spec applyOp)

/-! ## 0. Reading off the outcome of a step -/

/-- the state after a tree-level step (the old state if the step is not defined — never the case below) -/
def stepGet (t : Node) (s : CState) (p : Path) : CState := (cstep t s p).getD s

/-- the raw-level step returned a new state -/
def okSomeB : Except TErr (Option CStateD) → Bool
  | .ok (some _) => true
  | _ => false

/-- the raw-level step raised `MissingTraversalNode(h, pre)` -/
def missB (h : Hash) (pre : Path) : Except TErr (Option CStateD) → Bool
  | .error (.missing h' pre') => h' == h && pre' == pre
  | _ => false

theorem eq_of_missB (h : Hash) (pre : Path) (r : Except TErr (Option CStateD)) (hm : missB h pre r = true) :
    r = .error (.missing h pre) := by
  unfold missB at hm
  split at hm
  · simp only [Bool.and_eq_true, beq_iff_eq] at hm
    rw [hm.1, hm.2]
  · cases hm

/-- the cache holds `(parent, seg)` at `p`, as a test (`Node` has no decidable equality: `sameB`) -/
def hitB (c : Frontier Node) (p : Path) (parent : Node) (seg : Path) : Bool :=
  match Frontier.get c p with
  | some (n, s) => sameB n parent && s == seg
  | none => false

theorem hit_of_B (c : Frontier Node) (p : Path) (parent : Node) (seg : Path) (h : hitB c p parent seg = true) :
    Frontier.get c p = some (parent, seg) := by
  unfold hitB at h
  split at h
  · next n s heq =>
    simp only [Bool.and_eq_true, beq_iff_eq] at h
    rw [heq, sameB_eq _ _ h.1, h.2]
  · cases h

/-- a tree-level hit is a raw-level hit on the parent's body -/
theorem hit_raw (c : CState) (p : Path) (parent : Node) (seg : Path) (h : Frontier.get c.cache p = some (parent, seg)) :
    Frontier.get (toCD toyH c).cache p = some (toItem toyH parent, seg) := by
  simp only [toCD, frontier_get_map, h, Option.map_some]

theorem cacheOkD_nil (db : Db) : CacheOkD toyH db [] := by
  intro p parent seg h
  simp [Frontier.get] at h

/-- **one successful step, from `C09.raw_step_refines` and `C09.raw_cache_invariant`**: under the hypotheses of the two
    theorems, if the evaluation of `cstepD` shows a new state, then the tree-level step is defined, `cstepD` returns the raw
    image of its result, and the cache invariant holds afterwards -/
def StepOk (db : Db) (root : Hash) (t : Node) (s : CState) (p : Path) : Prop :=
  cstep t s p = some (stepGet t s p) ∧
  cstepD toyH db root (toCD toyH s) p = .ok (some (toCD toyH (stepGet t s p))) ∧
  cstepD toyH db root (toCD toyH s) p = .ok ((cstep t s p).map (toCD toyH)) ∧
  CacheOkD toyH db (stepGet t s p).cache

theorem step_ok (db : Db) (root : Hash) (t : Node) (hc : Canon t) (hroot : RootPartial toyH db root t)
    (hst : PartialD toyH db t) (s : CState) (hcache : CacheOkD toyH db s.cache) (p : Path)
    (hev : okSomeB (cstepD toyH db root (toCD toyH s) p) = true) : StepOk db root t s p := by
  rcases C09.raw_step_refines toyH toyH_len db root t hc hroot hst s hcache p with ⟨h, pre, he, _⟩ | hr
  · rw [he] at hev; cases hev
  · have hs : cstep t s p = some (stepGet t s p) := by
      unfold stepGet
      cases hcs : cstep t s p with
      | none => rw [hr, hcs] at hev; cases hev
      | some s' => rfl
    refine ⟨hs, ?_, hr, C09.raw_cache_invariant toyH db t hc hst s hcache p _ hs⟩
    rw [hr, hs]; rfl

/-- **one failing step, from `C09.raw_step_refines`**: if the evaluation of `cstepD` shows `MissingTraversalNode(h, pre)`,
    the theorem's left disjunct holds with these `h`, `pre` — in particular the database does not hold `h` -/
theorem step_missing (db : Db) (root : Hash) (t : Node) (hc : Canon t) (hroot : RootPartial toyH db root t)
    (hst : PartialD toyH db t) (s : CState) (hcache : CacheOkD toyH db s.cache) (p : Path) (h : Hash) (pre : Path)
    (hev : missB h pre (cstepD toyH db root (toCD toyH s) p) = true) :
    cstepD toyH db root (toCD toyH s) p = .error (.missing h pre) ∧ lookup db h = none := by
  have he := eq_of_missB h pre _ hev
  rcases C09.raw_step_refines toyH toyH_len db root t hc hroot hst s hcache p with ⟨h', pre', he', hl⟩ | hr
  · rw [he] at he'
    injection he' with he'
    injection he' with h1 h2
    subst h1
    exact ⟨he, hl⟩
  · rw [he] at hr; cases hr

/-! ## 1. A complete walk over a complete database

The final tree of `hist6` (`NonVacuity6.lean`; keys `k1 = 12`, `k3 = 14`, `k4 = 25`): a root branch whose child 1 is the
hashed branch `br6` over two hashed leaves (`longW` at `[1,2]`, `longV` at `[1,4]`) and whose child 2 is an embedded leaf. -/

def br6 : Node := branch (upd (upd emptyCh 2 (leaf [] longW)) 4 (leaf [] longV)) []

def t6 : Node := run (hist6.take 6)

def root6 : Hash := rootHash toyH t6

/-! the states of the walk: prefixes `[]`, `[1]`, `[1,2]`, `[1,4]`, `[2]` (always the left-most unexplored one) -/

def a0 : CState := cstart
def a1 : CState := stepGet t6 a0 []
def a2 : CState := stepGet t6 a1 [1]
def a3 : CState := stepGet t6 a2 [1, 2]
def a4 : CState := stepGet t6 a3 [1, 4]
def a5 : CState := stepGet t6 a4 [2]

/-- what is compared of a walk state: fog, cached prefixes with their segments, pairs met -/
structure Shape where
  fog : Fog
  cached : List (Path × Path)
  met : List (Path × Bytes)
  deriving DecidableEq

def shape (s : CState) : Shape := ⟨s.fog, s.cache.map (fun e => (e.1, e.2.2)), s.met⟩

/-- the cache entries of the tree-level states used below: those hit by steps 2–5, and the two of `a2` that sections 2
    and 3 use -/
theorem walk6_hitsB :
    hitB a1.cache [1] t6 [1] = true ∧ hitB a2.cache [1, 2] br6 [2] = true ∧ hitB a3.cache [1, 4] br6 [4] = true ∧
    hitB a4.cache [2] t6 [2] = true ∧ hitB a2.cache [1, 4] br6 [4] = true ∧ hitB a2.cache [2] t6 [2] = true := by
  decide +kernel

/-- two more operations on the pruning trie (section 2) -/
def hist8 : List Op := hist6 ++ [.set k1 longV, .set k3 [6, 6]]

def Tp8 : TrieSt := (runW toyHs (blankRoot toyH) true hist8).1
def sp8 : OpSt := (runW toyHs (blankRoot toyH) true hist8).2

/-- the current (pruned) database -/
def db8 : Dict Bytes := sp8.store.base

def t8 : Node := run (hist8.take 8)

def root8 : Hash := rootHash toyH t8

def br8 : Node := branch (upd (upd emptyCh 2 (leaf [] longV)) 4 (leaf [] [6, 6])) []

/-- **The pruning run of `hist8` — whose first six operations are `hist6` —, evaluated once** (as in
    `NonVacuity4.hist5_eval`; the theorems of this file that rest on an evaluation of the executor are the components). -/
theorem hist8_eval :
    -- section 1, over the final database of `hist6`: every node on the paths of the keys is there, and each of the five
    -- raw-level steps returns a state
    ((∀ k ∈ [k1, k3, k4], firstMissingRead toyH prunedBase6 t6 (nibs k) [] = none) ∧
      okSomeB (cstepD toyH prunedBase6 root6 (toCD toyH a0) []) = true ∧
      okSomeB (cstepD toyH prunedBase6 root6 (toCD toyH a1) [1]) = true ∧
      okSomeB (cstepD toyH prunedBase6 root6 (toCD toyH a2) [1, 2]) = true ∧
      okSomeB (cstepD toyH prunedBase6 root6 (toCD toyH a3) [1, 4]) = true ∧
      okSomeB (cstepD toyH prunedBase6 root6 (toCD toyH a4) [2]) = true) ∧
    -- section 2, over that of `hist8`: the history passes the `ReachVersions` test; `Tp8` and `db8` as projections of the
    -- run (for rewriting, as in `NonVacuity4.hist5_eval`); the final trie state; what the database holds and what has
    -- been pruned; the step at `[1,2]` on the stale cache and on the emptied one
    (allOkVB toyH true [] (initW (blankRoot toyH) true) hist8 = true ∧
      (trieStB Tp8 (runW toyHs (blankRoot toyH) true hist8).1 = true ∧ db8 = sp8.store.base) ∧
      (Tp8.prune = true ∧ Tp8.root = root8) ∧
      (db8.length = 3 ∧
        lookup prunedBase6 (hashOf toyH (leaf [] longW)) = some (enc toyH (leaf [] longW)) ∧
        lookup db8 (hashOf toyH (leaf [] longW)) = none ∧
        lookup prunedBase6 (hashOf toyH br6) = some (enc toyH br6) ∧ lookup db8 (hashOf toyH br6) = none ∧
        lookup prunedBase6 (hashOf toyH t6) = some (enc toyH t6) ∧ lookup db8 (hashOf toyH t6) = none ∧
        lookup db8 (hashOf toyH (leaf [] longV)) = some (enc toyH (leaf [] longV)) ∧
        lookup db8 root8 = some (enc toyH t8)) ∧
      missB (hashOf toyH (leaf [] longW)) [2] (cstepD toyH db8 root8 (toCD toyH a2) [1, 2]) = true ∧
      okSomeB (cstepD toyH db8 root8 (toCD toyH a0) []) = true ∧
      okSomeB (cstepD toyH db8 root8 (toCD toyH ⟨a2.fog, [], a2.met⟩) [1, 2]) = true) ∧
    -- section 3: the steps at `[1,4]` and `[2]` on the stale cache
    okSomeB (cstepD toyH db8 root8 (toCD toyH a2) [1, 4]) = true ∧
    okSomeB (cstepD toyH db8 root8 (toCD toyH a2) [2]) = true := by
  decide +kernel

theorem t6_shape : t6 = branch (upd (upd emptyCh 1 br6) 2 (leaf [5] [6])) [] := sameB_eq _ _ (by decide +kernel)

/-- three keys; the branch and the two leaves below the root are stored under their hashes -/
theorem t6_contents :
    get t6 (nibs k1) = longW ∧ get t6 (nibs k3) = longV ∧ get t6 (nibs k4) = [6] ∧
    isHashed toyH br6 = true ∧ isHashed toyH (leaf [] longW) = true ∧ isHashed toyH (leaf [] longV) = true := by
  decide +kernel

theorem t6_canon : Canon t6 := C01.canon_run _

theorem t6_root : RootPartial toyH prunedBase6 root6 t6 := (hist6_versions_consistent 6 (by decide)).1

theorem t6_partial : PartialD toyH prunedBase6 t6 := (hist6_versions_consistent 6 (by decide)).2

/-- the database is complete for `t6`: nothing is missing on the path of any of its keys -/
theorem t6_db_complete :
    ∀ k ∈ [k1, k3, k4], firstMissingRead toyH prunedBase6 t6 (nibs k) [] = none := hist8_eval.1.1

theorem walk6_shapes :
    shape a0 = ⟨[[]], [], []⟩ ∧
    shape a1 = ⟨[[1], [2]], [([2], [2]), ([1], [1])], []⟩ ∧
    shape a2 = ⟨[[1, 2], [1, 4], [2]], [([1, 4], [4]), ([1, 2], [2]), ([2], [2])], []⟩ ∧
    shape a3 = ⟨[[1, 4], [2]], [([1, 4], [4]), ([2], [2])], [([1, 2], longW)]⟩ ∧
    shape a4 = ⟨[[2]], [([2], [2])], [([1, 4], longV), ([1, 2], longW)]⟩ ∧
    shape a5 = ⟨[], [], [([2, 5], [6]), ([1, 4], longV), ([1, 2], longW)]⟩ := by
  decide +kernel

/-- **cache hits**: at steps 2–5 the chosen prefix is in the cache filled by an earlier step — the root node (step 1) for
    `[1]` and `[2]`, the hashed branch `br6` (step 2) for `[1,2]` and `[1,4]` — so `traverse_from(cached parent, segment)` runs -/
theorem walk6_hits :
    Frontier.get a0.cache [] = none ∧
    Frontier.get a1.cache [1] = some (t6, [1]) ∧
    Frontier.get a2.cache [1, 2] = some (br6, [2]) ∧
    Frontier.get a3.cache [1, 4] = some (br6, [4]) ∧
    Frontier.get a4.cache [2] = some (t6, [2]) :=
  ⟨rfl, hit_of_B _ _ _ _ walk6_hitsB.1, hit_of_B _ _ _ _ walk6_hitsB.2.1, hit_of_B _ _ _ _ walk6_hitsB.2.2.1,
   hit_of_B _ _ _ _ walk6_hitsB.2.2.2.1⟩

/-- the same at raw level: the cache of the raw state holds the parents' bodies -/
theorem walk6_hits_raw :
    Frontier.get (toCD toyH a1).cache [1] = some (toItem toyH t6, [1]) ∧
    Frontier.get (toCD toyH a2).cache [1, 2] = some (toItem toyH br6, [2]) ∧
    Frontier.get (toCD toyH a3).cache [1, 4] = some (toItem toyH br6, [4]) ∧
    Frontier.get (toCD toyH a4).cache [2] = some (toItem toyH t6, [2]) :=
  ⟨hit_raw a1 _ _ _ walk6_hits.2.1, hit_raw a2 _ _ _ walk6_hits.2.2.1, hit_raw a3 _ _ _ walk6_hits.2.2.2.1,
   hit_raw a4 _ _ _ walk6_hits.2.2.2.2⟩

/-- on a hit the traversal of the raw step is `traverse_from` on the cached body over the current database -/
theorem walk6_hit_runs_traverse_from :
    walkTraverseD toyH prunedBase6 root6 (toCD toyH a2) [1, 2] =
      traverseOutD toyH prunedBase6 (prunedBase6.length + 1 + 2) (toItem toyH br6) [2] := by
  unfold walkTraverseD
  rw [walk6_hits_raw.2.1]
  simp only [List.length_cons, List.length_nil, Nat.zero_add]

theorem walk6_ev1 : okSomeB (cstepD toyH prunedBase6 root6 (toCD toyH a0) []) = true := hist8_eval.1.2.1
theorem walk6_ev2 : okSomeB (cstepD toyH prunedBase6 root6 (toCD toyH a1) [1]) = true := hist8_eval.1.2.2.1
theorem walk6_ev3 : okSomeB (cstepD toyH prunedBase6 root6 (toCD toyH a2) [1, 2]) = true := hist8_eval.1.2.2.2.1
theorem walk6_ev4 : okSomeB (cstepD toyH prunedBase6 root6 (toCD toyH a3) [1, 4]) = true := hist8_eval.1.2.2.2.2.1
theorem walk6_ev5 : okSomeB (cstepD toyH prunedBase6 root6 (toCD toyH a4) [2]) = true := hist8_eval.1.2.2.2.2.2

theorem walk6_s1 : StepOk prunedBase6 root6 t6 a0 [] := step_ok prunedBase6 root6 t6 t6_canon t6_root t6_partial a0 (cacheOkD_nil _) [] walk6_ev1
theorem walk6_s2 : StepOk prunedBase6 root6 t6 a1 [1] := step_ok prunedBase6 root6 t6 t6_canon t6_root t6_partial a1 walk6_s1.2.2.2 [1] walk6_ev2
theorem walk6_s3 : StepOk prunedBase6 root6 t6 a2 [1, 2] := step_ok prunedBase6 root6 t6 t6_canon t6_root t6_partial a2 walk6_s2.2.2.2 [1, 2] walk6_ev3
theorem walk6_s4 : StepOk prunedBase6 root6 t6 a3 [1, 4] := step_ok prunedBase6 root6 t6 t6_canon t6_root t6_partial a3 walk6_s3.2.2.2 [1, 4] walk6_ev4
theorem walk6_s5 : StepOk prunedBase6 root6 t6 a4 [2] := step_ok prunedBase6 root6 t6 t6_canon t6_root t6_partial a4 walk6_s4.2.2.2 [2] walk6_ev5

/-- **the hypotheses of `raw_step_refines` hold at every step of the walk** -/
theorem walk6_hyps :
    Canon t6 ∧ RootPartial toyH prunedBase6 root6 t6 ∧ PartialD toyH prunedBase6 t6 ∧
    CacheOkD toyH prunedBase6 a0.cache ∧ CacheOkD toyH prunedBase6 a1.cache ∧ CacheOkD toyH prunedBase6 a2.cache ∧
    CacheOkD toyH prunedBase6 a3.cache ∧ CacheOkD toyH prunedBase6 a4.cache :=
  ⟨t6_canon, t6_root, t6_partial, cacheOkD_nil _, walk6_s1.2.2.2, walk6_s2.2.2.2, walk6_s3.2.2.2, walk6_s4.2.2.2⟩

/-- **`C09.raw_step_refines` on the five steps: each is the right disjunct**, concretely `.ok (some (toCD aᵢ₊₁))` -/
theorem walk6_raw_steps :
    cstepD toyH prunedBase6 root6 (toCD toyH a0) [] = .ok (some (toCD toyH a1)) ∧
    cstepD toyH prunedBase6 root6 (toCD toyH a1) [1] = .ok (some (toCD toyH a2)) ∧
    cstepD toyH prunedBase6 root6 (toCD toyH a2) [1, 2] = .ok (some (toCD toyH a3)) ∧
    cstepD toyH prunedBase6 root6 (toCD toyH a3) [1, 4] = .ok (some (toCD toyH a4)) ∧
    cstepD toyH prunedBase6 root6 (toCD toyH a4) [2] = .ok (some (toCD toyH a5)) :=
  ⟨walk6_s1.2.1, walk6_s2.2.1, walk6_s3.2.1, walk6_s4.2.1, walk6_s5.2.1⟩

/-- … equal to the image of the tree-level step, in the form the theorem states it -/
theorem walk6_raw_steps_refine :
    cstepD toyH prunedBase6 root6 (toCD toyH a0) [] = .ok ((cstep t6 a0 []).map (toCD toyH)) ∧
    cstepD toyH prunedBase6 root6 (toCD toyH a1) [1] = .ok ((cstep t6 a1 [1]).map (toCD toyH)) ∧
    cstepD toyH prunedBase6 root6 (toCD toyH a2) [1, 2] = .ok ((cstep t6 a2 [1, 2]).map (toCD toyH)) ∧
    cstepD toyH prunedBase6 root6 (toCD toyH a3) [1, 4] = .ok ((cstep t6 a3 [1, 4]).map (toCD toyH)) ∧
    cstepD toyH prunedBase6 root6 (toCD toyH a4) [2] = .ok ((cstep t6 a4 [2]).map (toCD toyH)) :=
  ⟨walk6_s1.2.2.1, walk6_s2.2.2.1, walk6_s3.2.2.1, walk6_s4.2.2.1, walk6_s5.2.2.1⟩

theorem walk6_tree_steps :
    cstep t6 a0 [] = some a1 ∧ cstep t6 a1 [1] = some a2 ∧ cstep t6 a2 [1, 2] = some a3 ∧
    cstep t6 a3 [1, 4] = some a4 ∧ cstep t6 a4 [2] = some a5 :=
  ⟨walk6_s1.1, walk6_s2.1, walk6_s3.1, walk6_s4.1, walk6_s5.1⟩

/-- the raw states have the fog and the pairs met of the tree-level ones: after three steps one pair is met, after five
    the fog is complete and the pairs met are the contents of the trie -/
theorem walk6_met :
    (toCD toyH a3).met = [([1, 2], longW)] ∧ (toCD toyH a3).met ≠ [] ∧
    (toCD toyH a5).fog = [] ∧ (toCD toyH a5).met = [(nibs k4, [6]), (nibs k3, longV), (nibs k1, longW)] := by
  decide +kernel

/-! ### `raw_cache_invariant` on the successful steps -/

/-- **`C09.raw_cache_invariant` applied to each successful step of the walk** (the last component of `step_ok`) -/
theorem walk6_cache_invariant :
    CacheOkD toyH prunedBase6 a1.cache ∧ CacheOkD toyH prunedBase6 a2.cache ∧ CacheOkD toyH prunedBase6 a3.cache ∧
    CacheOkD toyH prunedBase6 a4.cache ∧ CacheOkD toyH prunedBase6 a5.cache :=
  ⟨walk6_s1.2.2.2, walk6_s2.2.2.2, walk6_s3.2.2.2, walk6_s4.2.2.2, walk6_s5.2.2.2⟩

/-- what it says about an entry made by step 2: the cached hashed branch is canonical and partially consistent -/
theorem walk6_cached_branch : Canon br6 ∧ PartialD toyH prunedBase6 br6 :=
  walk6_cache_invariant.2.1 [1, 2] br6 [2] walk6_hits.2.2.1

/-! ## 2. A stale cache over a pruned database

Two more operations on the pruning trie: `set k1 longV` (the hashed leaf holding `longW` is pruned, with the branch `br6`
and the root `t6`) and `set k3 [6,6]` (the branch and the root once more). The cache is the one of the walk above after
two steps (`a2`: parents `t6` at `[2]`, `br6` at `[1,2]` and `[1,4]`) — filled at raw level over the database of that
time (`walk6_raw_steps`). -/

theorem hist8_okV_p : allOkVB toyH true [] (initW (blankRoot toyH) true) hist8 = true := hist8_eval.2.1.1

theorem Tp8_def : Tp8 = (runW toyHs (blankRoot toyH) true hist8).1 := trieSt_eq _ _ hist8_eval.2.1.2.1.1

theorem db8_def : db8 = sp8.store.base := hist8_eval.2.1.2.1.2

theorem hist8_versions_p : ReachVersions toyH true hist8 Tp8 sp8 :=
  Tp8_def ▸ reachVersions_of_check toyH true hist8 hist8_okV_p

theorem hist8_versions_consistent (i : Nat) (hi : i ≤ 8) :
    RootPartial toyH db8 (rootHash toyH (run (hist8.take i))) (run (hist8.take i)) ∧
    PartialD toyH db8 (run (hist8.take i)) :=
  db8_def ▸ C09.earlier_versions_consistent toyH true hist8 Tp8 sp8 hist8_versions_p i hi

theorem t8_shape : t8 = branch (upd (upd emptyCh 1 br8) 2 (leaf [5] [6])) [] := sameB_eq _ _ (by decide +kernel)

theorem Tp8_state : Tp8.prune = true ∧ Tp8.root = root8 := hist8_eval.2.1.2.2.1

/-- version 6 of the longer history is `t6` -/
theorem hist8_v6 : run (hist8.take 6) = t6 := rfl

theorem t8_canon : Canon t8 := C01.canon_run _
theorem t8_root : RootPartial toyH db8 root8 t8 := (hist8_versions_consistent 8 (by decide)).1
theorem t8_partial : PartialD toyH db8 t8 := (hist8_versions_consistent 8 (by decide)).2

/-- the old version `t6` is partially consistent with the current database -/
theorem t6_partial8 : PartialD toyH db8 t6 := hist8_v6 ▸ (hist8_versions_consistent 6 (by decide)).2

/-- **the pruning**: the current database has three entries (root, branch `br8`, the leaf holding `longV`); the leaf holding
    `longW`, the branch `br6` and the root `t6` — all in the database when the cache was filled — are gone; the leaf
    holding `longV` is still there -/
theorem db8_pruned :
    db8.length = 3 ∧
    lookup prunedBase6 (hashOf toyH (leaf [] longW)) = some (enc toyH (leaf [] longW)) ∧
    lookup db8 (hashOf toyH (leaf [] longW)) = none ∧
    lookup prunedBase6 (hashOf toyH br6) = some (enc toyH br6) ∧ lookup db8 (hashOf toyH br6) = none ∧
    lookup prunedBase6 (hashOf toyH t6) = some (enc toyH t6) ∧ lookup db8 (hashOf toyH t6) = none ∧
    lookup db8 (hashOf toyH (leaf [] longV)) = some (enc toyH (leaf [] longV)) ∧
    lookup db8 root8 = some (enc toyH t8) :=
  hist8_eval.2.1.2.2.2.1

/-- **`CacheOkD` holds for the stale cache over the current database**: `raw_cache_invariant` with the old version `t6`
    (partially consistent with the current database by `earlier_versions_consistent`) along the two steps that filled it -/
theorem stale_cacheOk : CacheOkD toyH db8 a2.cache :=
  C09.raw_cache_invariant toyH db8 t6 t6_canon t6_partial8 a1
    (C09.raw_cache_invariant toyH db8 t6 t6_canon t6_partial8 a0 (cacheOkD_nil _) [] a1 walk6_tree_steps.1)
    [1] a2 walk6_tree_steps.2.1

/-- in particular the stale parent `br6` — itself pruned, one of its two hashed children pruned — is canonical and
    partially consistent with the pruned database -/
theorem stale_parent_ok : Canon br6 ∧ PartialD toyH db8 br6 := stale_cacheOk [1, 2] br6 [2] walk6_hits.2.2.1

/-- the hypotheses of `raw_step_refines` for the current tree, root, database and the stale cache -/
theorem stale_hyps :
    Canon t8 ∧ RootPartial toyH db8 root8 t8 ∧ PartialD toyH db8 t8 ∧ CacheOkD toyH db8 a2.cache :=
  ⟨t8_canon, t8_root, t8_partial, stale_cacheOk⟩

theorem stale_ev_missing :
    missB (hashOf toyH (leaf [] longW)) [2] (cstepD toyH db8 root8 (toCD toyH a2) [1, 2]) = true := hist8_eval.2.1.2.2.2.2.1

/-- **`C09.raw_step_refines` at `[1,2]` is the left disjunct**: the stale parent `br6` is asked for its child 2, the
    pruned leaf; `MissingTraversalNode` names its hash, with the prefix `[2]` *from the parent* -/
theorem stale_step_missing :
    cstepD toyH db8 root8 (toCD toyH a2) [1, 2] = .error (.missing (hashOf toyH (leaf [] longW)) [2]) ∧
    lookup db8 (hashOf toyH (leaf [] longW)) = none :=
  step_missing db8 root8 t8 t8_canon t8_root t8_partial a2 stale_cacheOk [1, 2] _ _ stale_ev_missing

/-- the hash, concretely (the toy hash keeps the first 32 bytes of the encoding) -/
theorem stale_missing_hash : hashOf toyH (leaf [] longW) = [227, 32, 161] ++ List.replicate 29 8 := by decide +kernel

/-- the right disjunct is false there: the tree-level step on the stale cache is defined (it describes the old leaf) -/
theorem stale_step_not_right :
    (cstep t8 a2 [1, 2]).isSome = true ∧
    cstepD toyH db8 root8 (toCD toyH a2) [1, 2] ≠ .ok ((cstep t8 a2 [1, 2]).map (toCD toyH)) := by
  refine ⟨by decide +kernel, ?_⟩
  rw [stale_step_missing.1]
  intro h; cases h

/-- without the cache entry the same prefix is read from the current root and succeeds: the failure is the stale parent's -/
theorem fresh_step_ok : okSomeB (cstepD toyH db8 root8 (toCD toyH a0) []) = true ∧
    okSomeB (cstepD toyH db8 root8 (toCD toyH ⟨a2.fog, [], a2.met⟩) [1, 2]) = true :=
  hist8_eval.2.1.2.2.2.2.2

/-! ## 3. A stale hit that still resolves

The same stale cache, prefix `[1,4]`: the stale parent `br6` is asked for its child 4, the leaf holding `longV`, which is
still in the database (the current tree uses it at `[1,2]`). -/

def c1 : CState := stepGet t8 a2 [1, 4]

theorem stale_ev_ok : okSomeB (cstepD toyH db8 root8 (toCD toyH a2) [1, 4]) = true := hist8_eval.2.2.1

theorem stale_s : StepOk db8 root8 t8 a2 [1, 4] := step_ok db8 root8 t8 t8_canon t8_root t8_partial a2 stale_cacheOk [1, 4] stale_ev_ok

/-- **`C09.raw_step_refines` at `[1,4]` is the right disjunct**: `.ok`, equal to the tree-level step -/
theorem stale_step_ok :
    cstepD toyH db8 root8 (toCD toyH a2) [1, 4] = .ok (some (toCD toyH c1)) ∧
    cstepD toyH db8 root8 (toCD toyH a2) [1, 4] = .ok ((cstep t8 a2 [1, 4]).map (toCD toyH)) ∧
    cstep t8 a2 [1, 4] = some c1 :=
  ⟨stale_s.2.1, stale_s.2.2.1, stale_s.1⟩

/-- it is a hit on the stale parent, whose child is in the current database -/
theorem stale_hit :
    Frontier.get (toCD toyH a2).cache [1, 4] = some (toItem toyH br6, [4]) ∧
    lookup db8 (hashOf toyH (leaf [] longV)) = some (enc toyH (leaf [] longV)) :=
  ⟨hit_raw a2 _ _ _ (hit_of_B _ _ _ _ walk6_hitsB.2.2.2.2.1), db8_pruned.2.2.2.2.2.2.2.1⟩

/-- **the tree-level step describes the OLD version `t6` at `[1,4]`** (the version the parent was cached from): the pair
    met is `(k3, longV)`, the value of `k3` in `t6`; in the current tree `t8` the value of `k3` is `[6,6]`, and a step
    without the cache entry meets that -/
theorem stale_step_old_version :
    shape c1 = ⟨[[1, 2], [2]], [([1, 2], [2]), ([2], [2])], [(nibs k3, longV)]⟩ ∧
    get t6 (nibs k3) = longV ∧ get t8 (nibs k3) = [6, 6] ∧
    shape (stepGet t6 a2 [1, 4]) = shape c1 ∧
    (stepGet t8 ⟨a2.fog, [], a2.met⟩ [1, 4]).met = [(nibs k3, [6, 6])] := by
  decide +kernel

/-- `raw_cache_invariant` on the successful stale step -/
theorem stale_step_cache_invariant : CacheOkD toyH db8 c1.cache :=
  C09.raw_cache_invariant toyH db8 t8 t8_canon t8_partial a2 stale_cacheOk [1, 4] c1 stale_step_ok.2.2

/-- the third stale entry (`[2]`, parent: the pruned old root `t6`, child embedded): resolves without any read -/
theorem stale_root_entry :
    Frontier.get (toCD toyH a2).cache [2] = some (toItem toyH t6, [2]) ∧
    cstepD toyH db8 root8 (toCD toyH a2) [2] = .ok (some (toCD toyH (stepGet t8 a2 [2]))) ∧
    (stepGet t8 a2 [2]).met = [(nibs k4, [6])] :=
  ⟨hit_raw a2 _ _ _ (hit_of_B _ _ _ _ walk6_hitsB.2.2.2.2.2),
   (step_ok db8 root8 t8 t8_canon t8_root t8_partial a2 stale_cacheOk [2] hist8_eval.2.2.2).2.1,
   by decide +kernel⟩

end PyTrie.Props.NonVacuity7
