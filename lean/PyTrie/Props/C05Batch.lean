import PyTrie.Lemmas.WorldBatchCex
import PyTrie.Lemmas.WorldBatchNP
/-! # C05 / C06 — `squash_changes` on a pruning trie is all-or-nothing and keeps pruning exact
(companion of `Props/C05.lean`)

`PruneInvV` is the exact-pruning invariant stated over what the block *will commit* (`Store.view`: buffered
writes present, buffered deletes absent, everything else as in the wrapped database). Entering the block
establishes it from the outer trie's invariant, every `set` / `delete` on the batch trie preserves it and
never raises, and a normal exit (`batch_commit(do_deletes=True)`) hands the outer trie the batch's tree
and root with counts = true references and database = exactly the live nodes. An exceptional exit restores
the world (`C05.abort_restores_world`). -/
namespace PyTrie.Props.C05
open PyTrie PyTrie.Hex PyTrie.HexW

theorem batch_begin_invariant (Hs : Hashing) (blankRootHash : Hash) (w : World) (i : Nat) (hi : i < w.tries.size)
    (hnb : w.batch = none) (hinv : PruneInv Hs blankRootHash (w.tries[i]!) (w.opSt i)) :
    ∃ b, (w.batchBegin i).batch = some b ∧ b.outer = i ∧ b.trie.tree = (w.tries[i]!).tree ∧
      PruneInvV Hs blankRootHash b.trie ((w.batchBegin i).batchOpSt b) :=
  batchBegin_pruneInvV Hs blankRootHash w i hi hnb hinv

theorem batch_op_invariant (Hs : Hashing) (blankRootHash : Hash) (T : TrieSt) (hc : Canon T.tree) (key : Bytes)
    (val : Option Bytes) (s : OpSt) (hfa : s.store.failAfter = none) (hinv : PruneInvV Hs blankRootHash T s)
    (hrs : RefSound Hs T.tree (nibs key))
    (hblank : isBlank (opTree Hs T key val).1 = false → Hs.hashOf (opTree Hs T key val).1 ≠ blankRootHash) :
    ∃ T', (opSetDel Hs blankRootHash T key val s).2 = .ok T' ∧
      T'.tree = (opTree Hs T key val).1 ∧
      PruneInvV Hs blankRootHash T' (opSetDel Hs blankRootHash T key val s).1 ∧
      (opSetDel Hs blankRootHash T key val s).1.store.failAfter = none :=
  opSetDel_pruneInvV Hs blankRootHash T hc key val s hfa hinv hrs hblank

/-- the commit of a block with deletes (no write fault) completes and produces exactly the view -/
theorem commit_produces_view (cache : Dict (Option Bytes)) (base : Dict Bytes) (hnd : NoDupKeys cache) :
    (commitLoop true cache base none).1 = true ∧ (commitLoop true cache base none).2.2 = none ∧
    ∀ h, Dict.contains (commitLoop true cache base none).2.1 h =
      Store.view { base := base, cache := some cache, failAfter := none } h := commitLoop_view cache base hnd

/-- **committed block on a pruning trie**: the outer trie gets the batch's tree and root, the counts are the
    true reference counts and the database holds exactly the live nodes -/
theorem batch_commit_exact (Hs : Hashing) (blankRootHash : Hash) (w : World) (b : Batch) (hb : w.batch = some b)
    (hi : b.outer < w.tries.size) (hic : b.outer < w.counts.size)
    (hop : (w.tries[b.outer]!).prune = true) (hfa : w.failAfter = none)
    (hinv : PruneInvV Hs blankRootHash b.trie (w.batchOpSt b)) :
    let w' := (w.batchEnd false).2
    (w.batchEnd false).1 = .ok () ∧ w'.batch = none ∧
    (w'.tries[b.outer]!).tree = b.trie.tree ∧ (w'.tries[b.outer]!).root = b.trie.root ∧
    PruneInv Hs blankRootHash (w'.tries[b.outer]!) (w'.opSt b.outer) :=
  batchEnd_pruneInv Hs blankRootHash w b hb hi hic hop hfa hinv

/-! ## Non-pruning outer trie

The batch trie is a pruning trie over a ScratchDB whose counts start empty although the wrapped database
`base0` is not. `BatchInvNP` tracks exactness only for hashes that are not keys of `base0`. -/

theorem np_batch_begin (Hs : Hashing) (blankRootHash : Hash) (base0 : Dict Bytes) (T : TrieSt)
    (hroot : if isBlank T.tree then T.root = blankRootHash else T.root = Hs.hashOf T.tree ∧ T.root ≠ blankRootHash)
    (hkeys : ∀ h, 0 < occRoot Hs T.tree h → Dict.contains base0 h = true) (fa : Option Nat) :
    BatchInvNP Hs blankRootHash base0 { T with prune := true }
      { store := { base := base0, cache := some [], failAfter := fa }, counts := [], pending := [] } :=
  batchInvNP_begin Hs blankRootHash base0 T hroot hkeys fa

theorem np_batch_op (Hs : Hashing) (blankRootHash : Hash) (base0 : Dict Bytes) (T : TrieSt) (hc : Canon T.tree) (key : Bytes)
    (val : Option Bytes) (s : OpSt) (hinv : BatchInvNP Hs blankRootHash base0 T s)
    (hrs : RefSound Hs T.tree (nibs key))
    (hblank : isBlank (opTree Hs T key val).1 = false → Hs.hashOf (opTree Hs T key val).1 ≠ blankRootHash) :
    ∃ T', (opSetDel Hs blankRootHash T key val s).2 = .ok T' ∧
      T'.tree = (opTree Hs T key val).1 ∧
      BatchInvNP Hs blankRootHash base0 T' (opSetDel Hs blankRootHash T key val s).1 :=
  opSetDel_batchInvNP Hs blankRootHash base0 T hc key val s hinv hrs hblank

/-- **committed block on a non-pruning trie**: nothing pre-existing is removed, every node needed for the new
    root is present, and every key that was added is a node of the new tree — no node that served only
    intermediate states of the block is added -/
theorem np_batch_commit (Hs : Hashing) (blankRootHash : Hash) (base0 : Dict Bytes) (T : TrieSt) (s : OpSt)
    (hinv : BatchInvNP Hs blankRootHash base0 T s) (c : Dict (Option Bytes)) (hcache : s.store.cache = some c) :
    let db' := (commitLoop false c base0 none).2.1
    (∀ h, Dict.contains base0 h = true → Dict.contains db' h = true) ∧
    (∀ h, 0 < occRoot Hs T.tree h → Dict.contains db' h = true) ∧
    (∀ h, Dict.contains db' h = true → Dict.contains base0 h = false → 0 < occRoot Hs T.tree h) := by
  have hcl := (commitLoop_contains false c base0 (by
    obtain ⟨c', hc', hnd⟩ := hinv.cached
    rw [hcache] at hc'; cases hc'; exact hnd)).2.2
  have hview : ∀ h, Store.view { base := base0, cache := some c, failAfter := none } h = s.store.view h := by
    intro h; unfold Store.view; rw [hcache, hinv.base]
  simp only [Bool.not_false, Bool.true_and, hview] at hcl
  refine ⟨fun h hb => ?_, fun h hp => ?_, fun h hd hb => ?_⟩
  · rw [hcl, hb]; rfl
  · rw [hcl]
    cases hb : Dict.contains base0 h
    · exact (hinv.newKeys h hb).2 hp
    · rfl
  · rw [hcl, hb] at hd
    exact (hinv.newKeys h hb).1 hd

end PyTrie.Props.C05
