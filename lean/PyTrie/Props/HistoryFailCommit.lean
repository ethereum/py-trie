import PyTrie.Props.HistoryBlocks
/-! # C05 — "the trie remains fully usable and correct afterwards": histories with FAILING COMMITS on a non-pruning trie

`Props/HistoryBlocks.lean` covers histories of direct calls and blocks left normally or by an exception. Here a third kind
of step: a block whose body runs normally and whose commit is cut short by the database — the `(n+1)`-th write of
`ScratchDB.batch_commit` is refused (`failBlock inner n`; the harness does exactly this with a dict that raises). The outer
trie is NON-pruning (the property states the commit-failure clause for non-pruning tries; a pruning commit deletes, and an
interrupted delete phase cannot be undone).

`GoodF`: the premises of `Good` for ordinary steps and for the calls inside the failing block, plus that the commit really is
cut short (`.error .writeFailed`; otherwise the step is an ordinary committed block).

Theorems: along every such history the tree-free world and the tree-carrying world agree call by call; at the end the trie
holds the tree of the flattened history in which a block with a failed commit contributes NOTHING, the database is complete
for it, nothing any earlier database held was lost, and `get` returns the map model's value. -/
namespace PyTrie.Props.Free
open PyTrie PyTrie.Hex PyTrie.HexD PyTrie.HexW PyTrie.HexRaw PyTrie.HexFree
open PyTrie.Props.C01 (Op run spec)

inductive HStepF where
  | step (s : HStep)
  | failBlock (inner : List (Bytes × Option Bytes)) (n : Nat)

section
variable (H : Bytes → Bytes)

/-- tree-carrying world: the body runs on the batch trie, then the commit with the `(n+1)`-th database write refused; the
    fault is cleared afterwards (as the harness does) -/
def stepWF (w : World) : HStepF → List (Except Exn Unit) × World
  | .step s => stepW H w s
  | .failBlock inner n =>
    let (rs, w1) := innerW H (w.batchBegin 0) inner
    let (r, w2) := ({ w1 with failAfter := some n } : World).batchEnd false
    (rs ++ [r], { w2 with failAfter := none })

/-- tree-free world, the same -/
def stepFF (fw : FWorld) : HStepF → List (Except Exn Unit) × FWorld
  | .step s => stepF H fw s
  | .failBlock inner n =>
    let (rs, f1) := innerF H fw.batchBegin inner
    let (r, f2) := ({ f1 with failAfter := some n } : FWorld).batchEnd false
    (rs ++ [r], { f2 with failAfter := none })

def runWF (w : World) : List HStepF → List (Except Exn Unit) × World
  | [] => ([], w)
  | s :: rest => let (a, w') := stepWF H w s; let (b, w'') := runWF w' rest; (a ++ b, w'')

def runFF (fw : FWorld) : List HStepF → List (Except Exn Unit) × FWorld
  | [] => ([], fw)
  | s :: rest => let (a, f') := stepFF H fw s; let (b, f'') := runFF f' rest; (a ++ b, f'')

/-- run-level premises along the run of the tree-carrying world -/
def GoodF : World → List HStepF → Prop
  | _, [] => True
  | w, .step s :: rest => Good H w [s] ∧ GoodF (stepWF H w (.step s)).2 rest
  | w, .failBlock inner n :: rest =>
    GoodInner H (w.batchBegin 0) inner ∧
    (({ (innerW H (w.batchBegin 0) inner).2 with failAfter := some n } : World).batchEnd false).1 = .error .writeFailed ∧
    GoodF (stepWF H w (.failBlock inner n)).2 rest

/-- the calls that count: a block whose commit failed contributes nothing -/
def flattenStepsF : List HStepF → List Op
  | [] => []
  | .step s :: r => flattenSteps [s] ++ flattenStepsF r
  | .failBlock _ _ :: r => flattenStepsF r

theorem stepWF_fail_snd (w : World) (inner : List (Bytes × Option Bytes)) (n : Nat) :
    (stepWF H w (.failBlock inner n)).2 =
      { (({ (innerW H (w.batchBegin 0) inner).2 with failAfter := some n } : World).batchEnd false).2 with
        failAfter := none } := by
  simp only [stepWF]

theorem stepWF_fail_fst (w : World) (inner : List (Bytes × Option Bytes)) (n : Nat) :
    (stepWF H w (.failBlock inner n)).1 =
      (innerW H (w.batchBegin 0) inner).1 ++
        [(({ (innerW H (w.batchBegin 0) inner).2 with failAfter := some n } : World).batchEnd false).1] := by
  simp only [stepWF]

theorem stepFF_fail_snd (fw : FWorld) (inner : List (Bytes × Option Bytes)) (n : Nat) :
    (stepFF H fw (.failBlock inner n)).2 =
      { (({ (innerF H fw.batchBegin inner).2 with failAfter := some n } : FWorld).batchEnd false).2 with
        failAfter := none } := by
  simp only [stepFF]

theorem stepFF_fail_fst (fw : FWorld) (inner : List (Bytes × Option Bytes)) (n : Nat) :
    (stepFF H fw (.failBlock inner n)).1 =
      (innerF H fw.batchBegin inner).1 ++
        [(({ (innerF H fw.batchBegin inner).2 with failAfter := some n } : FWorld).batchEnd false).1] := by
  simp only [stepFF]

theorem flattenStepsF_cons (s : HStepF) (rest : List HStepF) :
    flattenStepsF (s :: rest) = flattenStepsF [s] ++ flattenStepsF rest := by
  cases s <;> simp [flattenStepsF]

/-- **one block with a failing commit on a non-pruning trie**: the outer trie (root, tree, counts) is exactly as before,
    every binding of the database is still there, the block is closed, the fault cleared, and the between-steps invariant
    (`WInv`: canonical tree, database complete for the root) holds again -/
theorem fail_block_step (w : World) (hinv : WInv H false w) (inner : List (Bytes × Option Bytes)) (n : Nat)
    (hg : GoodInner H (w.batchBegin 0) inner)
    (hfail : (({ (innerW H (w.batchBegin 0) inner).2 with failAfter := some n } : World).batchEnd false).1 = .error .writeFailed) :
    WInv H false (stepWF H w (.failBlock inner n)).2 ∧
    (stepWF H w (.failBlock inner n)).2.tries = w.tries ∧
    (stepWF H w (.failBlock inner n)).2.counts = w.counts ∧
    Preserved w.base (stepWF H w (.failBlock inner n)).2.base := by
  obtain ⟨i1, -, -⟩ := inner_run H false w inner _ _ (binv_begin H false w hinv) rfl hg
  rw [stepWF_fail_snd]
  generalize (innerW H (w.batchBegin 0) inner).2 = w1 at i1 hfail ⊢
  obtain ⟨b, hb, hbo, -, -, -, hnp⟩ := i1.blk
  have hpr : (w1.tries[b.outer]!).prune = false := by rw [hbo, i1.tries]; exact hinv.pr
  have heq := World.batchEnd_failed_eq { w1 with failAfter := some n } b hb hfail
  simp only [hpr] at heq
  rw [heq]
  -- the interrupted commit wrote a prefix of the buffered writes, none of which changes a binding
  have hpres : Preserved w.base (commitLoop false b.cache w1.base (some n)).2.1 := by
    rw [← i1.base]
    exact commitLoop_preserved (w1.batchOpSt b).store b.cache rfl (i1.view H b hb).2.2 (hnp rfl).2 (some n)
  exact ⟨winv_congr H false w _ hinv i1.tries i1.counts rfl rfl hpres nofun, i1.tries, i1.counts, hpres⟩

theorem stepWF_tracks (w : World) (hinv : WInv H false w) (s : HStepF) (rest : List HStepF)
    (hg : GoodF H w (s :: rest)) :
    GoodF H (stepWF H w s).2 rest ∧
    Tracks H false w (fun t => (flattenStepsF [s]).foldl C01.applyOp t) (stepWF H w s) (fun fw => stepFF H fw s) := by
  cases s with
  | step s =>
    obtain ⟨hg1, hg2⟩ := hg
    refine ⟨hg2, (stepW_tracks H false w hinv s [] hg1).2.congr fun t => ?_⟩
    rw [show flattenStepsF [.step s] = flattenSteps [s] from List.append_nil _]
    exact foldl_steps [s] t
  | failBlock inner n =>
    obtain ⟨hg1, hg2, hg3⟩ := hg
    obtain ⟨f1, f2, -, -⟩ := fail_block_step H w hinv inner n hg1 hg2
    refine ⟨hg3, f1, by rw [f2]; rfl, fun hlen fw hs => ?_⟩
    obtain ⟨-, -, j⟩ := inner_run H false w inner _ _ (binv_begin H false w hinv) rfl hg1
    obtain ⟨j1, j2⟩ := j hlen _ (sim_batchBegin fw w hs hinv.nb)
    obtain ⟨e1, e2⟩ := sim_batchEnd _ _ (sim_setFail _ _ j2 (some n)) false
    exact ⟨snoc_congr j1 e1, sim_setFail _ _ e2 none⟩

theorem runWF_tracks (steps : List HStepF) :
    ∀ w : World, WInv H false w → GoodF H w steps →
      Tracks H false w (fun t => (flattenStepsF steps).foldl C01.applyOp t) (runWF H w steps)
        (fun fw => runFF H fw steps) := by
  induction steps with
  | nil => exact fun w h _ => .refl h
  | cons s rest ih =>
    intro w hinv hg
    obtain ⟨hg', h1⟩ := stepWF_tracks H w hinv s rest hg
    refine (h1.comp (ih _ h1.inv hg')).congr fun t => ?_
    rw [flattenStepsF_cons s rest, List.foldl_append]

/-- **whole histories with failing commits, tree-carrying world**: the trie holds the tree of the flattened history, the
    database is complete for it, and the between-steps invariant holds -/
theorem history_fail_commit_world (steps : List HStepF) (hgood : GoodF H (freshW H false) steps) :
    WInv H false (runWF H (freshW H false) steps).2 ∧
    ((runWF H (freshW H false) steps).2.tries[0]!).tree = run (flattenStepsF steps) ∧
    Complete (stdHashing H) (blankRoot H) (runWF H (freshW H false) steps).2.base ((runWF H (freshW H false) steps).2.tries[0]!) := by
  have h := runWF_tracks H steps _ (winv_fresh H false) hgood
  exact ⟨h.inv, h.tree, h.inv.comp⟩

/-- **the tree-free world (what is run against the code) agrees call by call and ends in the same state** -/
theorem history_fail_commit_lockstep (hlen : ∀ b, (H b).length = 32) (steps : List HStepF)
    (hgood : GoodF H (freshW H false) steps) :
    (runFF H (FWorld.init H false) steps).1 = (runWF H (freshW H false) steps).1 ∧
    Sim (runFF H (FWorld.init H false) steps).2 (runWF H (freshW H false) steps).2 :=
  (runWF_tracks H steps _ (winv_fresh H false) hgood).sim hlen _ (sim_fresh H false)

/-- **"remains fully usable and correct afterwards"**: after any history with failing commits `get` of the tree-free world
    returns the map model's value of the calls that count, and never raises; its root is the root of that tree -/
theorem history_fail_commit_get (hlen : ∀ b, (H b).length = 32) (steps : List HStepF)
    (hgood : GoodF H (freshW H false) steps)
    (hbk : Dict.get? (runFF H (FWorld.init H false) steps).2.base (blankRoot H) = none)
    (hsm : ∀ h b, Dict.get? (runFF H (FWorld.init H false) steps).2.base h = some b → b.length < 2 ^ 64) (key : Bytes) :
    (runFF H (FWorld.init H false) steps).2.get H false key = .ok (spec (flattenStepsF steps) key) ∧
    (runFF H (FWorld.init H false) steps).2.outer.root = rootHash H (run (flattenStepsF steps)) :=
  ⟨tracks_get H hlen (runWF_tracks H steps _ (winv_fresh H false) hgood) hbk hsm key,
    tracks_root H hlen (runWF_tracks H steps _ (winv_fresh H false) hgood)⟩

end
end PyTrie.Props.Free
