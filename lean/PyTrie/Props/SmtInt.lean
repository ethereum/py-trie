import PyTrie.Lemmas.SmtIntProofs
/-! # The integer bit arithmetic of `smt.py` is the bit-list model (C14 / C15)

`Model/SmtInt.lean` transcribes `to_int(key)`, `path & target_bit`, the shifts and the xor scan as written and
is what the correspondence check runs against the code; these theorems identify it with `Model/Smt.lean`,
about which C14 and C15 are proved. -/
namespace PyTrie.Props.SmtInt
open PyTrie PyTrie.Smt PyTrie.SmtInt PyTrie.Bin

/-- bit `i` (from the least significant end) of `to_int(key)` is element `8·len − 1 − i` of `toBits key` -/
theorem bit_is_list_element (key : Bytes) (i : Nat) (hi : i < 8 * key.length) :
    bit (toInt key) i = (toBits key).getD (8 * key.length - 1 - i) false := by
  rw [← bitsOf_toInt key, bitsOf_getD _ _ _ hi]

theorem get_agrees (db : Db) (root : Hash) (key : Bytes) :
    getI db root (8 * key.length) key = getAux db root (toBits key) := by
  rw [getI, getLoop_eq, bitsOf_toInt]
  cases getAux db root (toBits key) <;> simp

/-- when `_get` succeeds the two models produce the same tree and the same returned hashes -/
theorem set_agrees (H : Bytes → Bytes) (t : Tree) (key : Bytes) (hd : t.depth = 8 * key.length) (value : Bytes)
    (hbr : ∀ v br, getAux t.db t.root (toBits key) = some (v, br) → br.length = t.depth) :
    setI H t key value = Smt.set H t (toBits key) value := by
  simp only [setI, Smt.set, hd, get_agrees]
  cases hg : getAux t.db t.root (toBits key) with
  | none => rfl
  | some x =>
    have hl : x.2.length = 8 * key.length := hd ▸ hbr x.1 x.2 hg
    simp only [setLoop_eq, hl, bitsOf_toInt, List.reverse_reverse]

theorem calc_root_agrees (H : Bytes → Bytes) (key value : Bytes) (branch : List Hash) (hb : branch.length = 8 * key.length) :
    calcRootI H key value branch = calcRoot H (toBits key) value branch := by
  rw [calcRootI, calcLoop_eq, hb, bitsOf_toInt]

/-- the scan for the branch point is the index of the first differing bit (root → leaf order) -/
theorem branch_point_is_first_diff (k0 k : Bytes) (hl : k0.length = k.length) :
    branchPoint (8 * k0.length) k0 k = firstDiff (toBits k0) (toBits k) := by
  rw [branchPoint, scan_eq _ _ _ _ (Nat.le_refl _), bitsOf_toInt k0, hl, bitsOf_toInt k]
  simp

theorem proof_update_agrees (k0 : Bytes) (p : Proof) (hk : p.key = toBits k0) (hb : p.branch.length = 8 * k0.length)
    (key : Bytes) (hl : key.length = k0.length) (value : Bytes) (updates : List Hash) :
    updateI k0 p key value updates = p.update (toBits key) value updates := by
  have hlen : (toBits k0).length = (toBits key).length := by rw [toBits_length, toBits_length, hl]
  simp only [updateI, Proof.update, hk, hb, branch_point_is_first_diff k0 key hl.symm,
    xor_eq_zero_iff k0 key hl.symm]
  -- equal keys have no differing bit; different keys have one, so the scan's `none` branch is dead
  cases hf : firstDiff (toBits k0) (toBits key) with
  | none => rw [if_pos (toBits_inj _ _ ((firstDiff_none_iff _ _ hlen).1 hf))]
  | some i =>
    rw [if_neg]
    intro e
    rw [(firstDiff_none_iff _ _ hlen).2 (congrArg toBits e)] at hf
    cases hf

end PyTrie.Props.SmtInt
