import PyTrie.Lemmas.FogProofs
/-! # C11 — HexaryTrieFog is an immutable, order-independent record of unexplored prefixes

`Fog` is the `SortedSet` of unexplored prefixes as a strictly sorted list; `explore`,
`markAllComplete`, `nearestUnknown`, `nearestRight`, `serialize`/`deserialize` are transcribed from
`trie/fog.py` (see `Model/Fog.lean`). The fog is a value: a call returns a new fog or an error, so
"the receiver is never modified" and "rejected without effect" hold by construction of the model
and are tied to the code by the correspondence check (receiver compared before/after every call). -/
namespace PyTrie.Props.C11
open PyTrie PyTrie.Hex PyTrie.Fog

/-- a call of the exploration API -/
inductive Call where
  | explore (old : Path) (subs : List Path)
  | mark (prefixes : List Path)

def call (f : Fog) : Call → Except Err Fog
  | .explore old subs => Fog.explore f old subs
  | .mark ps => markAllComplete f ps

/-- the fog a caller holds after a sequence of calls: a rejected call leaves it with the old fog -/
def runCalls (f : Fog) : List Call → Fog
  | [] => f
  | c :: cs => match call f c with
    | .ok f' => runCalls f' cs
    | .error _ => runCalls f cs

theorem markAllComplete_spec (f : Fog) (hw : Wf f) (ps : List Path) (f' : Fog)
    (h : markAllComplete f ps = .ok f') : Wf f' ∧ ∀ q, q ∈ f' ↔ q ∈ f ∧ q ∉ ps := by
  induction ps generalizing f with
  | nil =>
    simp only [markAllComplete, Except.ok.injEq] at h
    subst h
    exact ⟨hw, by simp⟩
  | cons p ps ih =>
    simp only [markAllComplete] at h
    split at h
    · next hc =>
      -- marking `p` complete is `explore f p []`
      have hw' := (Fog.explore_spec f hw p [] (erase f p) (by rw [explore_nil, if_pos hc])).1
      obtain ⟨h1, h2⟩ := ih (erase f p) hw' h
      refine ⟨h1, fun q => ?_⟩
      rw [h2, mem_erase]
      simp only [List.mem_cons, not_or]
      constructor
      · rintro ⟨⟨a, b⟩, c⟩; exact ⟨a, b, c⟩
      · rintro ⟨a, b, c⟩; exact ⟨⟨a, b⟩, c⟩
    · cases h

/-- **INVARIANT**: after any sequence of calls on a fresh fog — accepted or rejected — the unexplored
    prefixes are strictly sorted and no one starts with another -/
theorem wf_runCalls (calls : List Call) : Wf (runCalls Fog.init calls) := by
  suffices h : ∀ f, Wf f → Wf (runCalls f calls) from h _ wf_init
  induction calls with
  | nil => intro f hf; exact hf
  | cons c cs ih =>
    intro f hf
    simp only [runCalls]
    cases hc : call f c with
    | error e => exact ih f hf
    | ok f' =>
      apply ih
      cases c with
      | explore old subs => exact (explore_spec f hf old subs f' hc).1
      | mark ps => exact (markAllComplete_spec f hf ps f' hc).1

/-- `explore` leaves exactly the set obtained by replacing the explored prefix with its continuations -/
theorem explore_spec (f : Fog) (hw : Wf f) (old : Path) (subs : List Path) (f' : Fog)
    (h : Fog.explore f old subs = .ok f') :
    Wf f' ∧ ∀ q, q ∈ f' ↔ (q ∈ f ∧ q ≠ old) ∨ ∃ s ∈ subs, q = old ++ s := Fog.explore_spec f hw old subs f' h

/-- accepted exactly when the prefix is unexplored and the sub-segments are distinct and prefix-free;
    the only error is `ValidationError` -/
theorem explore_ok_iff (f : Fog) (old : Path) (subs : List Path) :
    (∃ f', Fog.explore f old subs = .ok f') ↔
      old ∈ f ∧ subs.Nodup ∧ (∀ a ∈ subs, ∀ b ∈ subs, a <+: b → a = b) := Fog.explore_ok_iff f old subs

theorem explore_err (f : Fog) (old : Path) (subs : List Path) (e : Err) (h : Fog.explore f old subs = .error e) :
    e = .validation := Fog.explore_err f old subs e h

/-- independent explorations commute (and the other order succeeds as well) -/
theorem explore_comm (f : Fog) (hw : Wf f) (p q : Path) (hpq : p ≠ q) (s₁ s₂ : List Path)
    (f₁ f₁₂ f₂ f₂₁ : Fog)
    (h1 : Fog.explore f p s₁ = .ok f₁) (h12 : Fog.explore f₁ q s₂ = .ok f₁₂)
    (h2 : Fog.explore f q s₂ = .ok f₂) (h21 : Fog.explore f₂ p s₁ = .ok f₂₁) : f₁₂ = f₂₁ :=
  Fog.explore_comm f hw p q hpq s₁ s₂ f₁ f₁₂ f₂ f₂₁ h1 h12 h2 h21

theorem explore_comm_ok (f : Fog) (hw : Wf f) (p q : Path) (hpq : p ≠ q) (s₁ s₂ : List Path)
    (f₁ f₁₂ : Fog) (h1 : Fog.explore f p s₁ = .ok f₁) (h12 : Fog.explore f₁ q s₂ = .ok f₁₂) (hq : q ∈ f) :
    ∃ f₂ f₂₁, Fog.explore f q s₂ = .ok f₂ ∧ Fog.explore f₂ p s₁ = .ok f₂₁ :=
  Fog.explore_comm_ok f hw p q hpq s₁ s₂ f₁ f₁₂ h1 h12 hq

/-- a fog is determined by its set of prefixes -/
theorem fog_ext (f g : Fog) (hf : Sorted f) (hg : Sorted g) (h : ∀ q, q ∈ f ↔ q ∈ g) : f = g :=
  sorted_ext f g hf hg h

theorem isComplete_iff (f : Fog) : isComplete f = true ↔ f = [] := Fog.isComplete_iff f

theorem markAllComplete_eq_fold (f : Fog) (ps : List Path) :
    markAllComplete f ps = ps.foldlM (fun g p => Fog.explore g p []) f := Fog.markAllComplete_eq_fold f ps

/-- `nearest_right(key)`: `PerfectVisibility` exactly on the complete fog, never a `ValidationError`; a result is an
    unexplored prefix: the one that contains the key if there is one, otherwise the least one to the right of the key;
    `FullDirectionalVisibility` exactly when the fog is not complete and nothing unexplored contains the key or lies to
    its right -/
theorem nearestRight_spec (f : Fog) (hw : Wf f) (key : Path) :
    (nearestRight f key = .error .perfect ↔ f = []) ∧
    (nearestRight f key ≠ .error .validation) ∧
    (∀ r, nearestRight f key = .ok r → r ∈ f) ∧
    (∀ q ∈ f, q <+: key → nearestRight f key = .ok q) ∧
    ((∀ q ∈ f, ¬ q <+: key) → ∀ r, nearestRight f key = .ok r →
        plt key r = true ∧ ∀ q ∈ f, plt key q = true → plt q r = false) ∧
    (nearestRight f key = .error .fullDir ↔
        f ≠ [] ∧ (∀ q ∈ f, ¬ q <+: key) ∧ ∀ q ∈ f, plt key q = false) := Fog.nearestRight_spec f hw key

/-- `nearest_unknown(key)`: `PerfectVisibility` exactly on the complete fog, and no other exception; a result is an
    unexplored prefix: the one that contains the key if there is one, and in any case a neighbour of the key (no
    unexplored prefix lies strictly between the two). Which of the two neighbours is nearer is decided by
    `_prefix_distance` and not specified here -/
theorem nearestUnknown_spec (f : Fog) (hw : Wf f) (key : Path) :
    (nearestUnknown f key = .error .perfect ↔ f = []) ∧
    (∀ e, nearestUnknown f key = .error e → e = .perfect) ∧
    (∀ r, nearestUnknown f key = .ok r → r ∈ f) ∧
    (∀ q ∈ f, q <+: key → nearestUnknown f key = .ok q) ∧
    (∀ r, nearestUnknown f key = .ok r → ∀ q ∈ f,
        ¬ (plt r q = true ∧ plt q key = true) ∧ ¬ (plt key q = true ∧ plt q r = true)) :=
  Fog.nearestUnknown_spec f hw key

theorem deserialize_serialize (f : Fog) (hs : Sorted f) : deserialize (serialize f) = some f :=
  Fog.deserialize_serialize f hs

/-- non-vacuity: a fog reached by a branch, an extension and a mixed-length exploration -/
example : runCalls Fog.init [.explore [] [[1], [15]], .explore [1] [[2, 3]], .explore [15] [[0], [1, 2]],
    .explore [9] [], .mark [[1, 2, 3]]] = [[15, 0], [15, 1, 2]] := by decide

end PyTrie.Props.C11
