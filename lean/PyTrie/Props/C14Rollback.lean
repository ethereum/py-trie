import PyTrie.Props.C14
/-! # C14 — histories in which the root is set back to an earlier one

`tree.root_hash = earlier_root` on a live `SparseMerkleTree` (or `from_db(db, earlier_root)`: the same thing, a tree is a
root hash over a database) is something a caller can do at any time
(/verif/seeded/C14n-set-reuses-branch-of-last-write). Events: an ordinary `set` / `delete`, or a ROLLBACK to the root the tree had after the
first `i` events. The map model keeps all versions; a rollback makes version `i` current again. Theorem: the database only grows;
with the final database functional (no hash bound to two bodies — the run-level no-collision fact), EVERY version's root
represents that version's contents in the final database, the current root represents the current contents, and `get` reads
them. -/
namespace PyTrie.Props.C14
open PyTrie PyTrie.Smt
open PyTrie.Bin (Bits)

inductive REv where
  | op (o : Op)
  | rollback (i : Nat)

variable (H : Bytes → Bytes)

/-- state of a run: the tree, and the root after every event so far (index 0 = the initial root) -/
def rstep (s : Tree × List Hash) : REv → Tree × List Hash
  | .op o => let t' := step H s.1 o; (t', s.2 ++ [t'.root])
  | .rollback i => let r := s.2.getD i s.1.root; ({ s.1 with root := r }, s.2 ++ [r])

def rrun (d : Nat) (dflt : Bytes) (evs : List REv) : Tree × List Hash :=
  evs.foldl (rstep H) (init H d dflt, [(init H d dflt).root])

/-- the map model: the contents after every event so far (index 0 = everything default) -/
def rspecStep (dflt : Bytes) (vs : List (Bits → Bytes)) : REv → List (Bits → Bytes)
  | .op o => vs ++ [specStep dflt (vs.getLastD (fun _ => dflt)) o]
  | .rollback i => vs ++ [vs.getD i (vs.getLastD (fun _ => dflt))]

def rspecs (dflt : Bytes) (evs : List REv) : List (Bits → Bytes) := evs.foldl (rspecStep dflt) [fun _ => dflt]

def REvKeysSized (d : Nat) (evs : List REv) : Prop := ∀ o, REv.op o ∈ evs → o.key.length = d

/-- what a run keeps whatever the events are: one recorded root per version, the current root last -/
private structure Shape (d : Nat) (dflt : Bytes) (s : Tree × List Hash) (vs : List (Bits → Bytes)) : Prop where
  len : s.2.length = vs.length
  last : s.1.root = s.2.getLastD []
  depth : s.1.depth = d
  dfl : s.1.default = dflt

private theorem shape_step {d : Nat} {dflt : Bytes} {s : Tree × List Hash} {vs : List (Bits → Bytes)}
    (h : Shape d dflt s vs) (e : REv) : Shape d dflt (rstep H s e) (rspecStep dflt vs e) := by
  cases e with
  | op o =>
    have hm := step_mono H s.1 o
    exact ⟨by simp [rstep, rspecStep, h.len], by simp [rstep], hm.1.trans h.depth, hm.2.1.trans h.dfl⟩
  | rollback i => exact ⟨by simp [rstep, rspecStep, h.len], by simp [rstep], h.depth, h.dfl⟩

/-- what holds when the database is functional: the current root and every recorded root resolve to
    the contents of their versions -/
private structure Reps (d : Nat) (dflt : Bytes) (s : Tree × List Hash) (vs : List (Bits → Bytes)) : Prop where
  cur : Rep H s.1.db d s.1.root (vs.getLastD (fun _ => dflt))
  rep : ∀ j (h : j < s.2.length) (h' : j < vs.length), Rep H s.1.db d s.2[j] vs[j]

/-- both kinds of event add one version, whose root resolves in a database that has only grown -/
private theorem reps_push {d : Nat} {dflt : Bytes} {s : Tree × List Hash} {vs : List (Bits → Bytes)}
    (hl : s.2.length = vs.length) (hr : Reps H d dflt s vs) (t' : Tree) (g : Bits → Bytes)
    (hsub : ∀ x ∈ s.1.db, x ∈ t'.db) (hg : Rep H t'.db d t'.root g) :
    Reps H d dflt (t', s.2 ++ [t'.root]) (vs ++ [g]) := by
  refine ⟨by simpa using hg, fun j h h' => ?_⟩
  by_cases hj : j < vs.length
  · rw [List.getElem_append_left (hl ▸ hj), List.getElem_append_left hj]
    exact rep_mono H _ _ hsub d _ _ (hr.rep j _ hj)
  · have hle : vs.length ≤ j := Nat.le_of_not_lt hj
    rw [List.getElem_append_right (hl ▸ hle), List.getElem_append_right hle]
    simpa using hg

private theorem reps_step (hlen : ∀ b, (H b).length = 32) {d : Nat} {dflt : Bytes} (e : REv)
    (hk : ∀ o, e = REv.op o → o.key.length = d) {s : Tree × List Hash} {vs : List (Bits → Bytes)}
    (hs : Shape d dflt s vs) (hr : Functional s.1.db → Reps H d dflt s vs)
    (hfun : Functional (rstep H s e).1.db) : Reps H d dflt (rstep H s e) (rspecStep dflt vs e) := by
  obtain ⟨hl, _, hd, hdf⟩ := hs
  subst hd hdf
  cases e with
  | op o =>
    have hm := step_mono H s.1 o
    have hfun0 := functional_of_subset hfun hm.2.2
    exact reps_push H hl (hr hfun0) (step H s.1 o) _ hm.2.2
      (step_rep H hlen s.1 _ hfun0 (hr hfun0).cur o (hk o rfl))
  | rollback i =>
    -- an index in range names a recorded version, any other the current one
    refine reps_push H hl (hr hfun) { s.1 with root := s.2.getD i s.1.root } _ (fun _ hx => hx) ?_
    show Rep H s.1.db _ (s.2.getD i s.1.root) (vs.getD i (vs.getLastD fun _ => s.1.default))
    rw [List.getD_eq_getElem?_getD, List.getD_eq_getElem?_getD]
    by_cases hi : i < vs.length
    · rw [List.getElem?_eq_getElem hi, List.getElem?_eq_getElem (hl ▸ hi)]
      exact (hr hfun).rep i _ hi
    · rw [List.getElem?_eq_none (Nat.le_of_not_lt hi), List.getElem?_eq_none (hl ▸ Nat.le_of_not_lt hi)]
      exact (hr hfun).cur

private theorem shape_rrun (d : Nat) (dflt : Bytes) (evs : List REv) :
    Shape d dflt (rrun H d dflt evs) (rspecs dflt evs) :=
  foldl_rel (R := Shape d dflt) evs (fun _ _ e _ h => shape_step H h e) ⟨rfl, rfl, rfl, rfl⟩

/-- one version per event, in both lists -/
theorem rrun_lengths (d : Nat) (dflt : Bytes) (evs : List REv) :
    (rrun H d dflt evs).2.length = evs.length + 1 ∧ (rspecs dflt evs).length = evs.length + 1 := by
  have hspec : ∀ vs : List (Bits → Bytes), (evs.foldl (rspecStep dflt) vs).length = vs.length + evs.length := by
    induction evs with
    | nil => exact fun _ => rfl
    | cons e es ih =>
      intro vs
      rw [List.foldl_cons, ih]
      cases e <;> simp only [rspecStep, List.length_append, List.length_cons, List.length_nil] <;> omega
  have := hspec [fun _ => dflt]
  rw [List.length_singleton, Nat.add_comm] at this
  exact ⟨(shape_rrun H d dflt evs).len.trans this, this⟩

private theorem reps_rrun (hlen : ∀ b, (H b).length = 32) (d : Nat) (dflt : Bytes) (evs : List REv)
    (hk : REvKeysSized d evs) (hfun : Functional (rrun H d dflt evs).1.db) :
    Reps H d dflt (rrun H d dflt evs) (rspecs dflt evs) := by
  have hi := (init_rep H hlen d dflt).1
  refine (foldl_rel (R := fun s vs => Shape d dflt s vs ∧ (Functional s.1.db → Reps H d dflt s vs)) evs
    (fun s vs e he ⟨hs, hr⟩ => ⟨shape_step H hs e, reps_step H hlen e (fun o ho => hk o (ho ▸ he)) hs hr⟩)
    ⟨⟨rfl, rfl, rfl, rfl⟩, fun _ => ⟨hi, fun j _ _ => ?_⟩⟩).2 hfun
  simpa using hi

/-- **every version stays represented**: in the final database the root after `j` events resolves to the full tree of the
    contents after `j` events — for every `j`, rollbacks included -/
theorem rollback_history_rep (hlen : ∀ b, (H b).length = 32) (d : Nat) (dflt : Bytes) (evs : List REv)
    (hk : REvKeysSized d evs) (hfun : Functional (rrun H d dflt evs).1.db) (j : Nat) (hj : j ≤ evs.length) :
    Rep H (rrun H d dflt evs).1.db d ((rrun H d dflt evs).2.getD j []) ((rspecs dflt evs).getD j (fun _ => dflt)) := by
  obtain ⟨h1, h2⟩ := rrun_lengths H d dflt evs
  rw [List.getD_eq_getElem?_getD, List.getD_eq_getElem?_getD, List.getElem?_eq_getElem (by omega),
    List.getElem?_eq_getElem (by omega)]
  exact (reps_rrun H hlen d dflt evs hk hfun).rep j _ _

/-- the current root is the last recorded one, and the tree keeps its depth and default -/
theorem rollback_history_current (d : Nat) (dflt : Bytes) (evs : List REv) :
    (rrun H d dflt evs).1.root = (rrun H d dflt evs).2.getLastD [] ∧
    (rrun H d dflt evs).1.depth = d ∧ (rrun H d dflt evs).1.default = dflt :=
  have h := shape_rrun H d dflt evs
  ⟨h.last, h.depth, h.dfl⟩

/-- **reads after any history with rollbacks**: `get` returns the current version's value (a blank value reads as absent) -/
theorem rollback_history_get (hlen : ∀ b, (H b).length = 32) (d : Nat) (dflt : Bytes) (evs : List REv)
    (hk : REvKeysSized d evs) (hfun : Functional (rrun H d dflt evs).1.db) (key : Bits) (hkey : key.length = d) :
    Smt.get (rrun H d dflt evs).1 key =
      if (rspecs dflt evs).getLastD (fun _ => dflt) key = [] then .error .keyError
      else .ok ((rspecs dflt evs).getLastD (fun _ => dflt) key) := by
  exact get_of_rep H _ hfun d _ (reps_rrun H hlen d dflt evs hk hfun).cur key hkey

end PyTrie.Props.C14
