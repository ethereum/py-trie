import PyTrie.Props.HistoryBlocks
/-! # No call of a history ever raises — as a CONCLUSION, not a premise

`Good` (the run-level premise of `Free.history_lockstep` and `Free.history_blocks_*`) contains, for every call, the conjunct
"the call returns normally". That conjunct is redundant: on the states a history reaches (database complete for the root, or
— inside a block — the view complete for the batch root, exact pruning bookkeeping) a `set` / `delete` whose writes collide
with nothing cannot raise. `Good'` is `Good` without it: only the no-collision facts and the two physical side conditions
remain. Theorems: `Good' → Good` along every history from the fresh world, hence every call of every history — direct or inside a
block, pruning on or off — returns normally in the tree-carrying AND in the tree-free world, and all `history_blocks_*`
theorems hold under `Good'`. -/
namespace PyTrie.Props.Free
open PyTrie PyTrie.Hex PyTrie.HexD PyTrie.HexW PyTrie.HexRaw PyTrie.HexFree
open PyTrie.Props.C01 (Op run spec)

section
variable (H : Bytes → Bytes)

/-- `GoodCall` without "the call returns normally" -/
def GoodCall' (T : TrieSt) (s : OpSt) (k : Bytes) (v : Option Bytes) : Prop :=
  RefSound (stdHashing H) T.tree (nibs k) ∧
  (isBlank (opTree (stdHashing H) T k v).1 = false → hashOf H (opTree (stdHashing H) T k v).1 ≠ blankRoot H) ∧
  NoClobber (storeDb s.store) (opWrites (stdHashing H) T k v) ∧
  Dict.get? (storeDb s.store) (blankRoot H) = none ∧
  (∀ h b, Dict.get? (storeDb s.store) h = some b → b.length < 2 ^ 64)

def GoodInner' : World → List (Bytes × Option Bytes) → Prop
  | _, [] => True
  | w, (k, v) :: rest =>
    (match w.batch with
     | some b => GoodCall' H b.trie (w.batchOpSt b) k v
     | none => False) ∧
    GoodInner' (w.setDel (stdHashing H) (blankRoot H) .batch k v).2 rest

def Good' : World → List HStep → Prop
  | _, [] => True
  | w, .op k v :: rest =>
    GoodCall' H w.tries[0]! (w.opSt 0) k v ∧ Good' (stepW H w (.op k v)).2 rest
  | w, .block inner raised :: rest =>
    GoodInner' H (w.batchBegin 0) inner ∧ Good' (stepW H w (.block inner raised)).2 rest

/-- **a direct call on a state satisfying the between-steps invariant returns normally** -/
theorem direct_call_progress (prune : Bool) (w : World) (hinv : WInv H prune w) (k : Bytes) (v : Option Bytes)
    (hg : GoodCall' H w.tries[0]! (w.opSt 0) k v) : GoodCall H w.tries[0]! (w.opSt 0) k v :=
  ⟨hg.1, hg.2.1, hg.2.2.1, hg.2.2.2.1, hg.2.2.2.2, (op_outer H prune w hinv k v hg.1 hg.2.1 hg.2.2.1).1⟩

/-- **a call on the batch trie inside a block returns normally** -/
theorem batch_call_progress (prune : Bool) (w0 w : World) (hinv : BInv H prune w0 w) (b : Batch) (hb : w.batch = some b)
    (k : Bytes) (v : Option Bytes) (hg : GoodCall' H b.trie (w.batchOpSt b) k v) :
    GoodCall H b.trie (w.batchOpSt b) k v :=
  ⟨hg.1, hg.2.1, hg.2.2.1, hg.2.2.2.1, hg.2.2.2.2, (op_batch H prune w0 w hinv b hb k v hg.1 hg.2.1 hg.2.2.1).1⟩

theorem inner_progress (prune : Bool) (w0 : World) (inner : List (Bytes × Option Bytes)) :
    ∀ w : World, BInv H prune w0 w → GoodInner' H w inner →
      GoodInner H w inner ∧ (∀ r ∈ (innerW H w inner).1, r = .ok ()) ∧ BInv H prune w0 (innerW H w inner).2 := by
  induction inner with
  | nil => intro w hb _; exact ⟨trivial, nofun, hb⟩
  | cons kv rest ih =>
    obtain ⟨k, v⟩ := kv
    intro w hb hg
    obtain ⟨hg1, hg2⟩ := hg
    obtain ⟨b, hwb, _⟩ := hb.blk
    rw [hwb] at hg1
    simp only at hg1
    obtain ⟨hok, hout, hb', -⟩ := op_batch H prune w0 w hb b hwb k v hg1.1 hg1.2.1 hg1.2.2.1
    obtain ⟨i1, i2, i3⟩ := ih _ hb' hg2
    rw [innerW_cons]
    refine ⟨⟨?_, i1⟩, fun r hr => ?_, i3⟩
    · rw [hwb]; exact ⟨hg1.1, hg1.2.1, hg1.2.2.1, hg1.2.2.2.1, hg1.2.2.2.2, hok⟩
    · rcases List.mem_cons.1 hr with rfl | hr
      · exact hout
      · exact i2 r hr

theorem run_progress (prune : Bool) (steps : List HStep) :
    ∀ w : World, WInv H prune w → Good' H w steps →
      Good H w steps ∧ (∀ r ∈ (runW H w steps).1, r = .ok ()) := by
  induction steps with
  | nil => intro w _ _; exact ⟨trivial, nofun⟩
  | cons s rest ih =>
    intro w hinv hg
    rw [runW_cons]
    cases s with
    | op k v =>
      obtain ⟨hg1, hg2⟩ := hg
      obtain ⟨-, hout, hinv', -⟩ := op_outer H prune w hinv k v hg1.1 hg1.2.1 hg1.2.2.1
      rw [stepW_op] at hg2 ⊢
      obtain ⟨i1, i2⟩ := ih _ hinv' hg2
      refine ⟨⟨direct_call_progress H prune w hinv k v hg1, by rw [stepW_op]; exact i1⟩, fun r hr => ?_⟩
      rcases List.mem_cons.1 hr with rfl | hr
      · exact hout
      · exact i2 r hr
    | block inner raised =>
      obtain ⟨hg1, hg2⟩ := hg
      obtain ⟨j1, j2, j3⟩ := inner_progress H prune w inner _ (binv_begin H prune w hinv) hg1
      rw [stepW_block] at hg2 ⊢
      obtain ⟨i1, i2⟩ := ih _ (winv_end H prune w _ hinv j3 raised).1 hg2
      have hend : ((innerW H (w.batchBegin 0) inner).2.batchEnd raised).1 = .ok () := by
        obtain ⟨b, hwb, _⟩ := j3.blk
        cases raised with
        | true => rw [World.batchEnd_true_eq _ b hwb]
        | false => rw [World.batchEnd_false_eq _ b hwb j3.fa]
      refine ⟨⟨j1, by rw [stepW_block]; exact i1⟩, fun r hr => ?_⟩
      simp only [List.mem_append, List.mem_cons, List.not_mem_nil, or_false] at hr
      rcases hr with (hr | rfl) | hr
      · exact j2 r hr
      · exact hend
      · exact i2 r hr

/-- **`Good'` implies `Good`** along every history from the fresh world -/
theorem good_of_good' (prune : Bool) (steps : List HStep) (h : Good' H (freshW H prune) steps) :
    Good H (freshW H prune) steps :=
  (run_progress H prune steps _ (winv_fresh H prune) h).1

/-- **no call of any history raises**: every outcome — of a direct call, of a call inside a block, of leaving a block — is a
    normal return, in the tree-carrying world and in the tree-free world -/
theorem history_never_raises (hlen : ∀ b, (H b).length = 32) (prune : Bool) (steps : List HStep)
    (h : Good' H (freshW H prune) steps) :
    (∀ r ∈ (runW H (freshW H prune) steps).1, r = .ok ()) ∧
    (∀ r ∈ (runF H (FWorld.init H prune) steps).1, r = .ok ()) := by
  have hw := (run_progress H prune steps _ (winv_fresh H prune) h).2
  refine ⟨hw, ?_⟩
  rw [(history_lockstep H hlen prune steps (good_of_good' H prune steps h)).1]
  exact hw

/-- the contents theorem under the weaker premise -/
theorem history_blocks_get' (hlen : ∀ b, (H b).length = 32) (prune : Bool) (steps : List HStep)
    (h : Good' H (freshW H prune) steps)
    (hbk : Dict.get? (runF H (FWorld.init H prune) steps).2.base (blankRoot H) = none)
    (hsm : ∀ h b, Dict.get? (runF H (FWorld.init H prune) steps).2.base h = some b → b.length < 2 ^ 64) (key : Bytes) :
    (runF H (FWorld.init H prune) steps).2.get H false key = .ok (spec (flattenSteps steps) key) :=
  history_blocks_get H hlen prune steps (good_of_good' H prune steps h) hbk hsm key

/-- the root theorem under the weaker premise: Yellow Paper root of the calls that count -/
theorem history_blocks_root' (hlen : ∀ b, (H b).length = 32) (prune : Bool) (steps : List HStep)
    (h : Good' H (freshW H prune) steps) :
    (runF H (FWorld.init H prune) steps).2.outer.root = rootHash H (run (flattenSteps steps)) :=
  (history_blocks_root H hlen prune steps (good_of_good' H prune steps h)).1

/-- exact pruning under the weaker premise -/
theorem history_blocks_pruning_exact' (hlen : ∀ b, (H b).length = 32) (steps : List HStep)
    (h : Good' H (freshW H true) steps) :
    (∀ x, (runF H (FWorld.init H true) steps).2.counts.val x = occRoot (stdHashing H) (run (flattenSteps steps)) x) ∧
    (∀ x, Dict.contains (runF H (FWorld.init H true) steps).2.base x = true ↔
            0 < occRoot (stdHashing H) (run (flattenSteps steps)) x) :=
  history_blocks_pruning_exact H hlen steps (good_of_good' H true steps h)

end
end PyTrie.Props.Free
