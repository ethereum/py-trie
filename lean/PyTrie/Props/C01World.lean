import PyTrie.Lemmas.WorldGet
/-! # C01 — through the executor and the database (companion of `Props/C01.lean`)

`ReachOps prune ops T s`: the trie state `T` and store `s` reached by applying the history `ops` to a fresh
`HexaryTrie(db={}, prune=…)` through `opSetDel` — i.e. with all the database traffic, the pruning
bookkeeping (`_prune_on_success`, `_complete_pruning`) and the root pointer updates of the code — carrying
the run-level no-collision facts of each step (`RefSound`; no node hashes to the blank root; for the
non-pruning trie `NoClobber` of the step's writes). `opGet` is `get`: root fetch, `_traverse_from`'s fetches
through the database, `_get`. -/
namespace PyTrie.Props.C01
open PyTrie PyTrie.Hex PyTrie.HexW

theorem world_tree (Hs : Hashing) (blankRootHash : Hash) (prune : Bool) (ops : List Op) (T : TrieSt) (s : OpSt)
    (h : ReachOps Hs blankRootHash prune ops T s) : T.tree = run ops ∧ T.prune = prune :=
  reachOps_tree Hs blankRootHash prune ops T s h

/-- no `set` / `delete` of such a history ever raises -/
theorem world_progress (Hs : Hashing) (blankRootHash : Hash) (prune : Bool) (ops : List Op) (T : TrieSt) (s : OpSt)
    (h : ReachOps Hs blankRootHash prune ops T s) (o : Op)
    (hrs : RefSound Hs T.tree (nibs (opKey o)))
    (hbl : isBlank (opTree Hs T (opKey o) (opVal o)).1 = false → Hs.hashOf (opTree Hs T (opKey o) (opVal o)).1 ≠ blankRootHash)
    (hnc : prune = false → NoClobber s.store.base (opWrites Hs T (opKey o) (opVal o))) :
    ∃ T', (opSetDel Hs blankRootHash T (opKey o) (opVal o) s).2 = .ok T' :=
  (inv_step Hs blankRootHash prune ops T s (reachOps_inv Hs blankRootHash prune ops T s h) o hrs hbl hnc).imp
    fun _ h => h.1

/-- **`get(k)` through the database** returns the value most recently stored under `k` and `b""` for every
    other key, and never raises — for every history, every byte-string key, pruning on or off -/
theorem world_get (Hs : Hashing) (blankRootHash : Hash) (prune : Bool) (ops : List Op) (T : TrieSt) (s : OpSt)
    (h : ReachOps Hs blankRootHash prune ops T s) (key : Bytes) :
    opGet Hs blankRootHash T key s = .ok (spec ops key) := by
  have hinv := reachOps_inv Hs blankRootHash prune ops T s h
  have htree : T.tree = run ops := hinv.1
  have hcanon : Canon T.tree := htree ▸ canon_run ops
  have hfind : (traverseReads Hs T.tree (nibs key) []).find? (fun e => !(s.store.contains e.1)) = none := by
    rw [List.find?_eq_none]
    intro e he
    obtain ⟨q, n, _, _, hq, hn, hh, hh2⟩ := traverseReads_on_path Hs _ hcanon _ _ _ _ he
    have := inv_reads_present Hs blankRootHash prune ops T s hinv q n hn hq hh
    rw [hh2] at this
    simp [this]
  unfold opGet
  rw [inv_root_present Hs blankRootHash prune ops T s hinv, hfind]
  simp only [Bool.false_eq_true, if_false]
  rw [getT_eq_get T.tree hcanon (nibs key), htree, run_get]

end PyTrie.Props.C01
