import PyTrie.Props.C06
import PyTrie.Lemmas.CacheNoDupPres
/-! # C06 — an operation whose FIRST database write is refused changes nothing

The quick check of C06 injects operations whose first write to the database is refused (`failfirst`; seeded change
`C06m-count-before-write`): "after every operation" the counts must be true and the database exact also after such an
operation. In the executor the reference count is incremented only after the write went through (`setDbValue`), reads and
prune marks do not touch database or counts, and the pending marks are dropped on every exit — so the state is exactly what it
was. For every trie, key, value and state, pruning on or off. -/
namespace PyTrie.Props.C06
open PyTrie PyTrie.Hex PyTrie.HexW

private theorem setDbValue_refused (p : Bool) (s : OpSt) (h : Hash) (b : Bytes)
    (hc : s.store.cache = none) (hfa : s.store.failAfter = some 0) :
    setDbValue p s h b = .error .writeFailed := by
  simp [setDbValue, Store.write, hc, hfa]

/-- the only error of `_complete_pruning` is the validation error of an absent key -/
private theorem completePruning_error (l : List (Hash × Nat)) (s s' : OpSt) (x : Exn)
    (h : completePruning s l = (s', some x)) : x ≠ .writeFailed := by
  induction l generalizing s with
  | nil => cases h
  | cons kn rest ih =>
    simp only [completePruning] at h
    split at h
    · next s1 _ => exact ih s1 h
    · next y h1 =>
      cases h
      unfold pruneStep at h1
      simp only at h1
      split at h1
      · split at h1
        · cases h1; exact fun hh => by cases hh
        · cases h1
      · cases h1

/-- with the next write to a plain dict refused, nothing is written any more: the failure counter stays, and
    the database can only lose entries (to `_complete_pruning`) -/
private theorem refused_stable (d : Dict Bytes) : Store.Stable fun st =>
    st.cache = none ∧ st.failAfter = some 0 ∧ ∀ h b, Dict.get? st.base h = some b → Dict.get? d h = some b := by
  constructor <;> intro st st' k
  · intro b ⟨hc, hfa, _⟩ hw
    simp [Store.write, hc, hfa] at hw
  · intro ⟨hc, hfa, hsub⟩ hd
    simp only [Store.del, hc] at hd
    split at hd
    · cases hd
      refine ⟨rfl, hfa, fun h b hg => hsub h b ?_⟩
      rw [Dict.get?_erase] at hg
      split at hg
      · cases hg
      · exact hg
    · cases hd

section
variable (Hs : Hashing) (blankRootHash : Hash)

/-- with the next write refused, a `writeRoot` that goes through wrote nothing -/
private theorem writeRoot_refused_ok (T : TrieSt) (new : Node) (s s' : OpSt) (r : Hash)
    (hc : s.store.cache = none) (hfa : s.store.failAfter = some 0)
    (h : writeRoot Hs blankRootHash T new s = .ok (s', r)) : s' = s := by
  unfold writeRoot at h
  split at h
  · cases h; rfl
  · rw [setDbValue_refused T.prune s _ _ hc hfa] at h
    cases h

/-- events up to the first refused write leave store and counts alone -/
theorem runEvs_first_write_refused (prune : Bool) (root key : Bytes) (evs : List Ev) (s : OpSt)
    (hc : s.store.cache = none) (hfa : s.store.failAfter = some 0) :
    (runEvs prune root key s evs).1.store = s.store ∧ (runEvs prune root key s evs).1.counts = s.counts :=
  runEvs_inv (Q := fun s' => s'.store = s.store ∧ s'.counts = s.counts) (fun _ _ h => h) prune root key evs
    (fun s1 s' h b _ hs hw => by
      rw [setDbValue_refused prune s1 h b (hs.1 ▸ hc) (hs.1 ▸ hfa)] at hw
      cases hw) s ⟨rfl, rfl⟩

/-- an `opCore` stopped by the refused write has changed neither store nor counts -/
private theorem opCore_refused (T : TrieSt) (key : Bytes) (val : Option Bytes) (s : OpSt)
    (hc : s.store.cache = none) (hfa : s.store.failAfter = some 0)
    (hw : (opCore Hs blankRootHash T key val s).2 = .error .writeFailed) :
    (opCore Hs blankRootHash T key val s).1.store = s.store ∧
    (opCore Hs blankRootHash T key val s).1.counts = s.counts := by
  revert hw
  unfold opCore
  split
  · exact fun _ => ⟨rfl, rfl⟩
  · obtain ⟨rs, rc⟩ := runEvs_first_write_refused T.prune T.root key (opTree Hs T key val).2 s hc hfa
    split
    · next s1 x h1 => rw [h1] at rs rc; exact fun _ => ⟨rs, rc⟩
    · next s1 h1 =>
      rw [h1] at rs rc
      simp only at rs rc
      have ss := schedOldRoot_store_eq Hs blankRootHash T s1
      have sc : (schedOldRoot Hs blankRootHash T s1).counts = s1.counts := by
        unfold schedOldRoot; split <;> rfl
      split
      · exact fun _ => ⟨ss.trans rs, sc.trans rc⟩
      · next s3 newRoot h2 =>
        cases writeRoot_refused_ok Hs blankRootHash T _ _ s3 newRoot (by rw [ss, rs]; exact hc)
          (by rw [ss, rs]; exact hfa) h2
        split
        · next s4 x h3 =>
          intro hw
          cases hw
          unfold finishPrune at h3
          split at h3
          · exact absurd rfl (completePruning_error _ _ _ _ h3)
          · cases h3
        · exact fun hw => by cases hw

/-- **a `set` / `delete` on a plain database that refuses the next write, and that is stopped by that refusal, leaves
    database, failure counter, counts and pending marks exactly as they were** -/
theorem first_write_refused_atomic (T : TrieSt) (key : Bytes) (val : Option Bytes) (s : OpSt)
    (hc : s.store.cache = none) (hfa : s.store.failAfter = some 0)
    (hw : (opSetDel Hs blankRootHash T key val s).2 = .error .writeFailed) :
    (opSetDel Hs blankRootHash T key val s).1.store = s.store ∧
    (opSetDel Hs blankRootHash T key val s).1.counts = s.counts ∧
    (opSetDel Hs blankRootHash T key val s).1.pending = [] := by
  obtain ⟨h1, h2⟩ := opCore_refused Hs blankRootHash T key val { s with pending := [] } hc hfa hw
  exact ⟨h1, h2, rfl⟩

/-- however such an operation ends, it has written nothing: the failure counter is untouched and the database is
    as it was except for what `_complete_pruning` deleted -/
theorem first_write_refused_wrote_nothing (T : TrieSt) (key : Bytes) (val : Option Bytes) (s : OpSt)
    (hc : s.store.cache = none) (hfa : s.store.failAfter = some 0) :
    (opSetDel Hs blankRootHash T key val s).1.store.failAfter = some 0 ∧
    ∀ h b, Dict.get? (opSetDel Hs blankRootHash T key val s).1.store.base h = some b → Dict.get? s.store.base h = some b :=
  (opSetDel_stable Hs blankRootHash (refused_stable s.store.base) T key val s ⟨hc, hfa, fun _ _ h => h⟩).2

/-- and when such an operation is NOT stopped (it returns a trie), it had nothing to write: the database is as it was
    except for what `_complete_pruning` deleted, and the failure counter is untouched -/
theorem first_write_refused_ok_wrote_nothing (T : TrieSt) (key : Bytes) (val : Option Bytes) (s : OpSt)
    (hc : s.store.cache = none) (hfa : s.store.failAfter = some 0) (T' : TrieSt)
    (hok : (opSetDel Hs blankRootHash T key val s).2 = .ok T') :
    (opSetDel Hs blankRootHash T key val s).1.store.failAfter = some 0 ∧
    ∀ h b, Dict.get? (opSetDel Hs blankRootHash T key val s).1.store.base h = some b → Dict.get? s.store.base h = some b :=
  first_write_refused_wrote_nothing Hs blankRootHash T key val s hc hfa

end
end PyTrie.Props.C06
