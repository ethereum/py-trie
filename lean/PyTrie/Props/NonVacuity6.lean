import PyTrie.Props.NonVacuity4
/-! # Non-vacuity, part 6: the pruning history as a `ReachVersions` history; reading earlier versions

`C09.earlier_versions_consistent` and `C09.old_version_read_truthful` are stated over `ReachVersions` (the premises of
`ReachOpsNC` plus, per step, `WritesAgree` of the step's writes with every earlier version and two side conditions on the
base after the step). Here: a Boolean checker for `WritesAgree` (only the tree itself and its finitely many subnodes
matter), a checker for `ReachVersions`, the pruning history `hist5` of `NonVacuity4.lean` as a witness, and the two
theorems applied to it — including an earlier version one of whose hashed nodes has been pruned: reading it through the
final pruned database reports exactly that node as missing. -/
namespace PyTrie.Props.NonVacuity6
open PyTrie PyTrie.Hex PyTrie.Hex.Node PyTrie.HexD
open PyTrie.Props.NonVacuity PyTrie.Props.NonVacuity2 PyTrie.Props.NonVacuity4
open PyTrie.HexW PyTrie.HexRaw
open PyTrie.HexFree (ReachVersions WritesAgree)
open PyTrie.Props.C01 (Op run spec applyOp)

/-! ## 1. The subnodes of a tree -/

/-- all proper subnodes of a tree (children at all 16 indices of a branch, blank ones included) -/
def subnodes : Node → List Node
  | blank => []
  | leaf _ _ => []
  | ext _ c => c :: subnodes c
  | branch ch _ => (List.finRange 16).flatMap fun i => ch i :: subnodes (ch i)

/-- whatever `nodeAt` reaches is the tree itself or one of its subnodes -/
theorem nodeAt_mem_subnodes (t : Node) (q : Path) (m : Node) (h : nodeAt t q = some m) :
    m = t ∨ m ∈ subnodes t := by
  fun_induction nodeAt t q with
  | case1 n => exact Or.inl (Option.some.inj h).symm
  | case2 | case3 | case5 => cases h
  | case4 p c k _ _ ih =>
    rw [subnodes, List.mem_cons]
    exact Or.inr (ih h)
  | case6 ch v a k ih =>
    right
    simp only [subnodes, List.mem_flatMap, List.mem_finRange, true_and, List.mem_cons]
    exact ⟨a, ih h⟩

theorem nodeAt_mem (t : Node) (q : Path) (m : Node) (h : nodeAt t q = some m) : m ∈ t :: subnodes t := by
  rcases nodeAt_mem_subnodes t q m h with h | h
  · exact h ▸ List.mem_cons_self ..
  · exact List.mem_cons_of_mem _ h

/-! ## 2. Boolean checkers for `WritesAgree` and `ReachVersions` -/
section Checker

variable (H : Bytes → Bytes)

/-- every write under the hash of `m` carries the encoding of `m` -/
def agreeNodeB (ws : List (Hash × Bytes)) (m : Node) : Bool :=
  ws.all fun e => !(e.1 == hashOf H m) || e.2 == enc H m

/-- `WritesAgree` as a test: the tree itself, and every hashed node among its subnodes -/
def writesAgreeB (ws : List (Hash × Bytes)) (t0 : Node) : Bool :=
  agreeNodeB H ws t0 && (subnodes t0).all fun m => !(isHashed H m) || agreeNodeB H ws m

theorem agreeNode_of_B (ws : List (Hash × Bytes)) (m : Node) (h : agreeNodeB H ws m = true) (b : Bytes)
    (hm : (hashOf H m, b) ∈ ws) : b = enc H m := by
  simp only [agreeNodeB, List.all_eq_true, Bool.or_eq_true, Bool.not_eq_true', beq_eq_false_iff_ne, beq_iff_eq] at h
  rcases h _ hm with h1 | h1
  · exact absurd rfl h1
  · exact h1

/-- **soundness of the `WritesAgree` test** -/
theorem writesAgree_of_B (ws : List (Hash × Bytes)) (t0 : Node) (h : writesAgreeB H ws t0 = true) :
    WritesAgree H ws t0 := by
  simp only [writesAgreeB, Bool.and_eq_true, List.all_eq_true, Bool.or_eq_true, Bool.not_eq_true'] at h
  intro m b hm hcase
  rcases hcase with rfl | ⟨hh, q, hq⟩
  · exact agreeNode_of_B H ws m h.1 b hm
  · rcases nodeAt_mem_subnodes t0 q m hq with rfl | hs
    · exact agreeNode_of_B H ws m h.1 b hm
    · rcases h.2 m hs with h1 | h1
      · rw [hh] at h1; cases h1
      · exact agreeNode_of_B H ws m h1 b hm

/-- the premises of one step of `ReachVersions`, as a test: those of `ReachOpsNC` (`stepOkNCB`), `WritesAgree` with every
    version `run (pre.take i)`, `i ≤ pre.length`, and the two side conditions on the base after the step -/
def stepOkVB (prune : Bool) (pre : List Op) (st : TrieSt × OpSt) (o : Op) : Bool :=
  stepOkNCB (stdHashing H) (blankRoot H) prune st o &&
  (List.range (pre.length + 1)).all (fun i =>
    writesAgreeB H (opWrites (stdHashing H) st.1 (opKey o) (opVal o)) (run (pre.take i))) &&
  (Dict.get? (stepW (stdHashing H) (blankRoot H) st o).2.store.base (blankRoot H)).isNone &&
  (stepW (stdHashing H) (blankRoot H) st o).2.store.base.all (fun e => decide (e.2.length < 2 ^ 64))

/-- all steps of a history pass the test; `pre` = the operations already executed -/
def allOkVB (prune : Bool) : List Op → TrieSt × OpSt → List Op → Bool
  | _, _, [] => true
  | pre, st, o :: r =>
    stepOkVB H prune pre st o && allOkVB prune (pre ++ [o]) (stepW (stdHashing H) (blankRoot H) st o) r

theorem reachVersions_of_allOk (prune : Bool) (pre : List Op) (st : TrieSt × OpSt) (ops : List Op)
    (hr : ReachVersions H prune pre st.1 st.2) (h : allOkVB H prune pre st ops = true) :
    ReachVersions H prune (pre ++ ops) (ops.foldl (stepW (stdHashing H) (blankRoot H)) st).1
      (ops.foldl (stepW (stdHashing H) (blankRoot H)) st).2 := by
  induction ops generalizing pre st with
  | nil => simpa using hr
  | cons o r ih =>
    simp only [allOkVB, Bool.and_eq_true] at h
    obtain ⟨hstep, hrest⟩ := h
    simp only [stepOkVB, Bool.and_eq_true] at hstep
    obtain ⟨⟨⟨hnc, hwa⟩, hbk⟩, hsm⟩ := hstep
    simp only [List.all_eq_true, List.mem_range] at hwa
    simp only [Option.isNone_iff_eq_none] at hbk
    obtain ⟨h1, h2, h3, h4⟩ := stepOkNC_spec (stdHashing H) (blankRoot H) prune st o hnc
    have hstep' := ReachVersions.step (H := H) (prune := prune) pre st.1 st.2 o _ hr h1 h2 h3
      (fun i hi => writesAgree_of_B H _ _ (hwa i (by omega))) hbk
      (fun hh b hg => bodies_short _ (2 ^ 64) hsm hh b hg) h4
    have := ih (pre ++ [o]) (stepW (stdHashing H) (blankRoot H) st o) hstep' hrest
    simpa using this

/-- **a history all of whose steps pass the test is a `ReachVersions` history** -/
theorem reachVersions_of_check (prune : Bool) (ops : List Op)
    (h : allOkVB H prune [] (initW (blankRoot H) prune) ops = true) :
    ReachVersions H prune ops (runW (stdHashing H) (blankRoot H) prune ops).1
      (runW (stdHashing H) (blankRoot H) prune ops).2 := by
  simpa [runW] using reachVersions_of_allOk H prune [] (initW (blankRoot H) prune) ops ReachVersions.init h

end Checker

/-! ## 3. The pruning history `hist5` is a `ReachVersions` history -/

def k4 : Bytes := [0x25]

def hist6 : List Op := hist5 ++ [.set k4 [6]]

def Tp6 : TrieSt := (runW toyHs (blankRoot toyH) true hist6).1
def sp6 : OpSt := (runW toyHs (blankRoot toyH) true hist6).2
def prunedBase6 : Dict Bytes := sp6.store.base

def v3br : Node := branch (upd (upd emptyCh 2 (leaf [] longW)) 3 (leaf [] [5])) []
def v4br : Node := branch (upd (upd (upd emptyCh 2 (leaf [] longW)) 3 (leaf [] [5])) 4 (leaf [] longV)) []

/-- **The pruning runs of `hist5` and of `hist6`, evaluated once** (as in `NonVacuity4.hist5_eval`; the theorems below are
    the components). -/
theorem versions_eval :
    -- section 3: `hist5` passes the `ReachVersions` test
    allOkVB toyH true [] (initW (blankRoot toyH) true) hist5 = true ∧
    -- section 4: nodes of earlier versions that are gone from the final database
    (Dict.contains prunedBase (hashOf toyH (leaf (nibs k1) longV)) = false ∧
      Dict.contains prunedBase (hashOf toyH t1') = false ∧ Dict.contains prunedBase (hashOf toyH t1br) = false ∧
      Dict.contains prunedBase (hashOf toyH (ext [1] v3br)) = false ∧ Dict.contains prunedBase (hashOf toyH v3br) = false ∧
      Dict.contains prunedBase (hashOf toyH (ext [1] v4br)) = false ∧ Dict.contains prunedBase (hashOf toyH v4br) = false) ∧
    -- section 5: the first missing node on the paths read there; one read by the raw-level reader
    (firstMissingRead toyH prunedBase (run (hist5.take 5)) (nibs k1) [] = none ∧
      firstMissingRead toyH prunedBase (run (hist5.take 2)) (nibs k1) [] = some (hashOf toyH t1br, [1]) ∧
      ((∀ k ∈ [k1, k2, k3], firstMissingRead toyH prunedBase (run (hist5.take 2)) (nibs k) [] = some (hashOf toyH t1br, [1])) ∧
        (∀ k ∈ [k1, k2, k3], firstMissingRead toyH prunedBase (run (hist5.take 3)) (nibs k) [] = some (hashOf toyH v3br, [1])) ∧
        (∀ k ∈ [k1, k2, k3], firstMissingRead toyH prunedBase (run (hist5.take 4)) (nibs k) [] = some (hashOf toyH v4br, [1]))) ∧
      (match traverseOutD toyH prunedBase 3 (toItem toyH (run (hist5.take 2))) (nibs k1) with
        | .error (.missing h pre) => h == hashOf toyH t1br && pre == [1]
        | _ => false) = true) ∧
    -- section 6: `hist6` passes the test; `Tp6` and `prunedBase6` as projections of the run (for rewriting, as in
    -- `NonVacuity4.hist5_eval`); version 5 and what the final database keeps of it; the first missing node on the paths
    -- read there
    allOkVB toyH true [] (initW (blankRoot toyH) true) hist6 = true ∧
    (trieStB Tp6 (runW toyHs (blankRoot toyH) true hist6).1 = true ∧ prunedBase6 = sp6.store.base) ∧
    (sameB (run (hist6.take 5)) tEnd = true ∧ sameB (run (hist6.take 6)) tEnd = false ∧ prunedBase6.length = 4 ∧
      Dict.contains prunedBase6 (hashOf toyH tEnd) = false ∧
      Dict.contains prunedBase6 (hashOf toyH (branch (upd (upd emptyCh 2 (leaf [] longW)) 4 (leaf [] longV)) [])) = true ∧
      Dict.contains prunedBase6 (hashOf toyH (leaf [] longW)) = true ∧
      Dict.contains prunedBase6 (hashOf toyH (leaf [] longV)) = true) ∧
    (∀ k ∈ [k1, k2, k3, k4], firstMissingRead toyH prunedBase6 (run (hist6.take 5)) (nibs k) [] = none) ∧
    firstMissingRead toyH prunedBase6 (run (hist6.take 2)) (nibs k1) [] = some (hashOf toyH t1br, [1]) := by
  decide +kernel

theorem hist5_okV_p : allOkVB toyH true [] (initW (blankRoot toyH) true) hist5 = true := versions_eval.1

/-- **`ReachVersions` with pruning on** for the five-operation history of `NonVacuity4.lean` (same final state `Tp`, `sp`) -/
theorem hist5_versions_p : ReachVersions toyH true hist5 Tp sp :=
  Tp_def ▸ reachVersions_of_check toyH true hist5 hist5_okV_p

/-! ## 4. `earlier_versions_consistent` on the witness -/

/-- **`C09.earlier_versions_consistent` applies, for every `i ≤ 5`**: every version of the run — the empty trie, the four
    intermediate tries, the final one — is partially consistent with the final pruned database -/
theorem hist5_versions_consistent (i : Nat) (hi : i ≤ 5) :
    RootPartial toyH prunedBase (rootHash toyH (run (hist5.take i))) (run (hist5.take i)) ∧
    PartialD toyH prunedBase (run (hist5.take i)) :=
  prunedBase_def ▸ C09.earlier_versions_consistent toyH true hist5 Tp sp hist5_versions_p i hi

/-- the versions of the run of `hist5`: blank; one hashed leaf; `t1'` (extension over the branch `t1br`); the same with
    `longW` for `longV`; with a third (hashed) leaf; the final tree `tEnd` -/
theorem hist5_versions :
    run (hist5.take 0) = blank ∧ run (hist5.take 1) = leaf (nibs k1) longV ∧ run (hist5.take 2) = t1' ∧
    run (hist5.take 3) = ext [1] v3br ∧ run (hist5.take 4) = ext [1] v4br ∧ run (hist5.take 5) = tEnd :=
  ⟨rfl, sameB_eq _ _ (by decide +kernel), sameB_eq _ _ (by decide +kernel), sameB_eq _ _ (by decide +kernel),
   sameB_eq _ _ (by decide +kernel), sameB_eq _ _ (by decide +kernel)⟩

/-- the roots and branches of versions 1–4 are gone from the final pruned database (so for `i = 1 … 4` the statement above
    is about a tree some of whose hashed nodes are absent) -/
theorem earlier_nodes_pruned :
    Dict.contains prunedBase (hashOf toyH (leaf (nibs k1) longV)) = false ∧
    Dict.contains prunedBase (hashOf toyH t1') = false ∧ Dict.contains prunedBase (hashOf toyH t1br) = false ∧
    Dict.contains prunedBase (hashOf toyH (ext [1] v3br)) = false ∧ Dict.contains prunedBase (hashOf toyH v3br) = false ∧
    Dict.contains prunedBase (hashOf toyH (ext [1] v4br)) = false ∧ Dict.contains prunedBase (hashOf toyH v4br) = false :=
  versions_eval.2.1

/-! ## 5. `old_version_read_truthful` on the witness -/

/-- **`C09.old_version_read_truthful` applies**, for every version `i ≤ 5`, every path and enough fuel -/
theorem hist5_read (i : Nat) (hi : i ≤ 5) (p : Path) (fuel : Nat) (hf : p.length < fuel) :
    traverseOutD toyH prunedBase fuel (toItem toyH (run (hist5.take i))) p =
      match firstMissingRead toyH prunedBase (run (hist5.take i)) p [] with
      | some (h, pre) => .error (.missing h pre)
      | none => .ok (TravOut.toD toyH (traverseOut (run (hist5.take i)) p)) :=
  prunedBase_def ▸ C09.old_version_read_truthful toyH toyH_len true hist5 Tp sp hist5_versions_p i hi p fuel hf

/-- (a) the final version (`i = 5`): every node on the path of `k1` (hashed branch, hashed leaf) is in the pruned database … -/
theorem read_v5_none : firstMissingRead toyH prunedBase (run (hist5.take 5)) (nibs k1) [] = none :=
  versions_eval.2.2.1.1

/-- … so the read returns what that version says: the leaf holding `longW` -/
theorem read_v5_ok (fuel : Nat) (hf : 2 < fuel) :
    traverseOutD toyH prunedBase fuel (toItem toyH (run (hist5.take 5))) (nibs k1) =
      .ok (.node (Ann.toD toyH (annotate (leaf [] longW)))) := by
  rw [hist5_read 5 (by decide) (nibs k1) fuel hf, read_v5_none, hist5_versions.2.2.2.2.2]
  rfl

/-- (b) version 2 (`t1'`: extension over the hashed branch `t1br`): its branch has been pruned; the first read the
    final database cannot answer on the path of `k1` is that branch, after the nibble `1` -/
theorem read_v2_missing :
    firstMissingRead toyH prunedBase (run (hist5.take 2)) (nibs k1) [] = some (hashOf toyH t1br, [1]) :=
  versions_eval.2.2.1.2.1

/-- **reading version 2 through the final pruned database reports exactly the pruned branch** -/
theorem read_v2_error (fuel : Nat) (hf : 2 < fuel) :
    traverseOutD toyH prunedBase fuel (toItem toyH (run (hist5.take 2))) (nibs k1) =
      .error (.missing (hashOf toyH t1br) [1]) := by
  rw [hist5_read 2 (by decide) (nibs k1) fuel hf, read_v2_missing]

/-- the same for every key of the history and for versions 2, 3, 4: the read stops at the pruned branch of that version -/
theorem read_old_missing :
    (∀ k ∈ [k1, k2, k3], firstMissingRead toyH prunedBase (run (hist5.take 2)) (nibs k) [] = some (hashOf toyH t1br, [1])) ∧
    (∀ k ∈ [k1, k2, k3], firstMissingRead toyH prunedBase (run (hist5.take 3)) (nibs k) [] = some (hashOf toyH v3br, [1])) ∧
    (∀ k ∈ [k1, k2, k3], firstMissingRead toyH prunedBase (run (hist5.take 4)) (nibs k) [] = some (hashOf toyH v4br, [1])) :=
  versions_eval.2.2.1.2.2.1

/-- cross-check by direct evaluation of the raw-level reader (no theorem involved) -/
theorem read_v2_error_eval :
    traverseOutD toyH prunedBase 3 (toItem toyH (run (hist5.take 2))) (nibs k1) =
      .error (.missing (hashOf toyH t1br) [1]) := by
  have h := versions_eval.2.2.1.2.2.2
  split at h
  · next h' pre heq =>
    simp only [Bool.and_eq_true, beq_iff_eq] at h
    rw [heq, h.1, h.2]
  · cases h

/-! ## 6. A strictly earlier version that is still fully readable

One more operation on `hist5` gives `hist6`: `set k4 [6]` with `k4 = [0x25]` (first nibble 2). The root extension
`ext [1] b` becomes a branch whose child 1 is the **same** hashed branch `b`: the old root `tEnd` is pruned, but every node
below it stays. So version 5 of this six-operation history is a strictly earlier version all of whose fetched nodes are
still present, while version 2 still has its branch pruned. -/

theorem hist6_okV_p : allOkVB toyH true [] (initW (blankRoot toyH) true) hist6 = true := versions_eval.2.2.2.1

theorem Tp6_def : Tp6 = (runW toyHs (blankRoot toyH) true hist6).1 := trieSt_eq _ _ versions_eval.2.2.2.2.1.1

theorem prunedBase6_def : prunedBase6 = sp6.store.base := versions_eval.2.2.2.2.1.2

theorem hist6_versions_p : ReachVersions toyH true hist6 Tp6 sp6 :=
  Tp6_def ▸ reachVersions_of_check toyH true hist6 hist6_okV_p

theorem hist6_versions_consistent (i : Nat) (hi : i ≤ 6) :
    RootPartial toyH prunedBase6 (rootHash toyH (run (hist6.take i))) (run (hist6.take i)) ∧
    PartialD toyH prunedBase6 (run (hist6.take i)) :=
  prunedBase6_def ▸ C09.earlier_versions_consistent toyH true hist6 Tp6 sp6 hist6_versions_p i hi

theorem hist6_read (i : Nat) (hi : i ≤ 6) (p : Path) (fuel : Nat) (hf : p.length < fuel) :
    traverseOutD toyH prunedBase6 fuel (toItem toyH (run (hist6.take i))) p =
      match firstMissingRead toyH prunedBase6 (run (hist6.take i)) p [] with
      | some (h, pre) => .error (.missing h pre)
      | none => .ok (TravOut.toD toyH (traverseOut (run (hist6.take i)) p)) :=
  prunedBase6_def ▸ C09.old_version_read_truthful toyH toyH_len true hist6 Tp6 sp6 hist6_versions_p i hi p fuel hf

/-- version 5 is `tEnd`, it is not the final version, and its root has been pruned while its branch and leaves are kept -/
theorem hist6_v5 :
    run (hist6.take 5) = tEnd ∧ sameB (run (hist6.take 6)) tEnd = false ∧ prunedBase6.length = 4 ∧
    Dict.contains prunedBase6 (hashOf toyH tEnd) = false ∧
    Dict.contains prunedBase6 (hashOf toyH (branch (upd (upd emptyCh 2 (leaf [] longW)) 4 (leaf [] longV)) [])) = true ∧
    Dict.contains prunedBase6 (hashOf toyH (leaf [] longW)) = true ∧
    Dict.contains prunedBase6 (hashOf toyH (leaf [] longV)) = true :=
  ⟨sameB_eq _ _ versions_eval.2.2.2.2.2.1.1, versions_eval.2.2.2.2.2.1.2⟩

/-- (a) the strictly earlier version 5: nothing on the paths of its keys is missing from the final pruned database … -/
theorem read6_v5_none :
    ∀ k ∈ [k1, k2, k3, k4], firstMissingRead toyH prunedBase6 (run (hist6.take 5)) (nibs k) [] = none :=
  versions_eval.2.2.2.2.2.2.1

/-- … so reading it returns what it says: for `k1`, the leaf holding `longW` (fetched through the kept hashed branch) -/
theorem read6_v5_ok (fuel : Nat) (hf : 2 < fuel) :
    traverseOutD toyH prunedBase6 fuel (toItem toyH (run (hist6.take 5))) (nibs k1) =
      .ok (.node (Ann.toD toyH (annotate (leaf [] longW)))) := by
  rw [hist6_read 5 (by decide) (nibs k1) fuel hf, read6_v5_none k1 (by simp), hist6_v5.1]
  rfl

/-- (b) version 2 in the same history: its branch is pruned, and the read says so -/
theorem read6_v2_missing :
    firstMissingRead toyH prunedBase6 (run (hist6.take 2)) (nibs k1) [] = some (hashOf toyH t1br, [1]) :=
  versions_eval.2.2.2.2.2.2.2

theorem read6_v2_error (fuel : Nat) (hf : 2 < fuel) :
    traverseOutD toyH prunedBase6 fuel (toItem toyH (run (hist6.take 2))) (nibs k1) =
      .error (.missing (hashOf toyH t1br) [1]) := by
  rw [hist6_read 2 (by decide) (nibs k1) fuel hf, read6_v2_missing]

end PyTrie.Props.NonVacuity6
