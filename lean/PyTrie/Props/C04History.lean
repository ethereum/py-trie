import PyTrie.Lemmas.OldRootsReadable
import PyTrie.Props.C04
/-! # C04 at history level — after ANY history on a non-pruning trie every earlier root is still fully readable -/
namespace PyTrie.Props.C04
open PyTrie PyTrie.Hex PyTrie.HexD PyTrie.HexW PyTrie.HexRaw
open PyTrie.Props.C01 (Op run spec)

/-- the final database is complete for every earlier version of the trie (as a trie opened at that version's root) -/
theorem history_complete_for_all_versions (H : Bytes → Bytes) (ops : List Op) (T : TrieSt) (s : OpSt)
    (h : ReachOpsNC (stdHashing H) (blankRoot H) false ops T s) (i : Nat) (hi : i ≤ ops.length) :
    Complete (stdHashing H) (blankRoot H) s.store.base
      { tree := run (ops.take i), root := rootHash H (run (ops.take i)), prune := false } := by
  obtain ⟨Ti, si, hr, hp⟩ := noprune_history_prefix H ops T s h i
  have hcomp := complete_mono (stdHashing H) (blankRoot H) _ _ hp Ti
    (reachOpsNC_complete (stdHashing H) (blankRoot H) false _ Ti si hr)
  obtain ⟨htree, hprune⟩ := reachOps_tree (stdHashing H) (blankRoot H) false _ Ti si
    (reachOpsNC_reachOps (stdHashing H) (blankRoot H) false _ Ti si hr)
  have hroot := complete_root_eq H _ Ti hcomp
  obtain ⟨tree, root, prune⟩ := Ti
  subst htree hprune
  obtain rfl : root = rootHash H (run (ops.take i)) := hroot
  exact hcomp

/-- **old roots stay fully readable, for every history**: `get` through rlp-decoded nodes fetched from the FINAL database,
    started at the root hash the trie had after the first `i` operations, returns what was stored at that moment -/
theorem history_old_roots_readable (H : Bytes → Bytes) (hlen : ∀ b, (H b).length = 32) (ops : List Op) (T : TrieSt) (s : OpSt)
    (h : ReachOpsNC (stdHashing H) (blankRoot H) false ops T s)
    (hbk : Dict.get? s.store.base (blankRoot H) = none)
    (hsm : ∀ h b, Dict.get? s.store.base h = some b → b.length < 2 ^ 64)
    (i : Nat) (hi : i ≤ ops.length) (key : Bytes) :
    getD H s.store.base (rootHash H (run (ops.take i))) (nibs key) = .ok (spec (ops.take i) key) := by
  rw [getD_of_complete H hlen _ (PyTrie.Props.C01.canon_run (ops.take i)) s.store.base
    (history_complete_for_all_versions H ops T s h i hi) hbk hsm s.store.base (fun _ => rfl) (nibs key)]
  exact congrArg _ (PyTrie.Props.C01.run_get _ _)

/-- nothing any intermediate database held was ever removed or altered -/
theorem history_preserves_every_binding (H : Bytes → Bytes) (ops : List Op) (T : TrieSt) (s : OpSt)
    (h : ReachOpsNC (stdHashing H) (blankRoot H) false ops T s) (i : Nat) (hi : i ≤ ops.length) :
    ∃ Ti si, ReachOpsNC (stdHashing H) (blankRoot H) false (ops.take i) Ti si ∧ Preserved si.store.base s.store.base :=
  noprune_history_prefix H ops T s h i

end PyTrie.Props.C04
