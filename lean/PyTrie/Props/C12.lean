import PyTrie.Lemmas.BinProofs
/-! # C12 — BinaryTrie is a map with a canonical, history-independent root

`bset` transcribes `_set` / `_set_kv_node` (all eight split cases) / `_set_branch_node` (both
compressions) with the `if_delete_subtrie` flag; `bsetTopS` additionally lists the nodes handed to
`_hash_and_save`. A history is any list of `set` / `delete` / `delete_subtrie` calls on non-empty keys;
a refused call (`NodeOverrideError`) leaves the trie as it was. -/
namespace PyTrie.Props.C12
open PyTrie PyTrie.Bin

inductive Op where
  | set (k : Bits) (v : Bytes)          -- `v = []` is `delete`
  | delete (k : Bits)
  | deleteSubtrie (p : Bits)

def Op.key : Op → Bits
  | .set k _ => k
  | .delete k => k
  | .deleteSubtrie p => p

def apply (t : Option BNode) : Op → Except Err (Option BNode)
  | .set k v => bsetTop t k v false
  | .delete k => bsetTop t k [] false
  | .deleteSubtrie p => bsetTop t p [] true

/-- what the caller holds after a call: a raising call leaves `root_hash` unchanged -/
def step (t : Option BNode) (o : Op) : Option BNode :=
  match apply t o with
  | .ok t' => t'
  | .error _ => t

def run (ops : List Op) : Option BNode := ops.foldl step none

/-- the map model with the prefix rule -/
noncomputable def specStep (m : Bits → Option Bytes) : Op → Bits → Option Bytes
  | .set k v =>
    if v = [] then fun k' => if k' = k then none else m k'
    else
      open Classical in
      if ∃ k' v', m k' = some v' ∧ Related k' k then m
      else fun k' => if k' = k then some v else m k'
  | .delete k => fun k' => if k' = k then none else m k'
  | .deleteSubtrie p => fun k' => if p <+: k' then none else m k'

noncomputable def spec (ops : List Op) : Bits → Option Bytes := ops.foldl specStep (fun _ => none)

theorem bcanon_step (t : Option BNode) (hc : BCanonTop t) (o : Op) (hk : o.key ≠ []) : BCanonTop (step t o) := by
  unfold step
  cases h : apply t o with
  | error e => exact hc
  | ok t' =>
    cases o <;> exact bcanon_bsetTop t hc _ _ _ hk t' h

theorem get_delete (t : Option BNode) (hc : BCanonTop t) (k : Bits) (hk : k ≠ []) (k' : Bits) :
    bgetTop (step t (.delete k)) k' = if k' = k then none else bgetTop t k' := by
  simp only [step, apply]
  cases h : bsetTop t k [] false with
  | ok t' => exact bget_delete t hc k hk t' h k'
  | error e =>
    cases e
    show bgetTop t k' = _
    split
    · next e => rw [e, (delete_override t hc k hk h).1]
    · rfl

/-- one call acts on the contents exactly as the map model says — whether it is accepted or refused -/
theorem get_step (t : Option BNode) (hc : BCanonTop t) (o : Op) (hk : o.key ≠ []) (k' : Bits) :
    bgetTop (step t o) k' = specStep (bgetTop t) o k' := by
  cases o with
  | set k v =>
    by_cases hv : v = []
    · subst hv
      exact (get_delete t hc k hk k').trans (by simp [specStep])
    · simp only [step, apply, specStep, hv, ↓reduceIte]
      cases h : bsetTop t k v false with
      | ok t' =>
        rw [if_neg fun hex => by cases ((set_override_iff t hc k hk v hv).2 hex).symm.trans h]
        exact bget_set t hc k hk v hv t' h k'
      | error e =>
        cases e
        rw [if_pos ((set_override_iff t hc k hk v hv).1 h)]
  | delete k => exact get_delete t hc k hk k'
  | deleteSubtrie p =>
    simp only [step, apply, specStep]
    cases h : bsetTop t p [] true with
    | ok t' => exact bget_delete_subtrie t hc p hk t' h k'
    | error e =>
      cases e
      show bgetTop t k' = _
      split
      · next e =>
        cases hg : bgetTop t k' with
        | none => rfl
        | some v' => exact absurd e ((delete_subtrie_override t hc p hk h).2 k' v' hg)
      · rfl

def KeysNonEmpty (ops : List Op) : Prop := ∀ o ∈ ops, o.key ≠ []

theorem run_invariant (ops : List Op) (hk : KeysNonEmpty ops) (t : Option BNode) (hc : BCanonTop t) :
    BCanonTop (ops.foldl step t) ∧ ∀ k, bgetTop (ops.foldl step t) k = ops.foldl specStep (bgetTop t) k := by
  induction ops generalizing t with
  | nil => exact ⟨hc, fun _ => rfl⟩
  | cons o os ih =>
    have hko : o.key ≠ [] := hk o (by simp)
    have hkos : KeysNonEmpty os := fun x hx => hk x (by simp [hx])
    obtain ⟨h1, h2⟩ := ih hkos (step t o) (bcanon_step t hc o hko)
    refine ⟨h1, fun k => ?_⟩
    rw [List.foldl_cons, List.foldl_cons, h2 k]
    have : bgetTop (step t o) = specStep (bgetTop t) o := funext (get_step t hc o hko)
    rw [this]

/-- every reachable trie is canonical -/
theorem canon_run (ops : List Op) (hk : KeysNonEmpty ops) : BCanonTop (run ops) :=
  (run_invariant ops hk none trivial).1

/-- **map semantics**: after any history the contents are exactly the map model (with the prefix rule),
    for every lookup key — stored, absent, prefixes and extensions of stored keys -/
theorem run_get (ops : List Op) (hk : KeysNonEmpty ops) (k : Bits) : bgetTop (run ops) k = spec ops k :=
  (run_invariant ops hk none trivial).2 k

theorem eq_none_of_empty (a : Option BNode) (ha : BCanonTop a) (h : ∀ k, bgetTop a k = none) : a = none := by
  cases a with
  | none => rfl
  | some n =>
    obtain ⟨k, v, hkv⟩ := exists_key n ha
    cases (h k).symm.trans hkv

/-- two tries with the same contents are the same tree -/
theorem tree_unique (a b : Option BNode) (ha : BCanonTop a) (hb : BCanonTop b)
    (h : ∀ k, bgetTop a k = bgetTop b k) : a = b := by
  cases a with
  | none => exact (eq_none_of_empty b hb fun k => (h k).symm).symm
  | some na =>
    cases b with
    | none => exact eq_none_of_empty _ ha h
    | some nb => rw [bcanon_unique na nb ha hb h]

/-- **the root depends on the contents only**, for EVERY hash function: two histories (any order,
    overwrites, refused calls, deletions, subtrie deletions) with the same resulting mapping give the
    same tree, hence the same root hash -/
theorem root_depends_only_on_contents (H : Bytes → Bytes) (ops₁ ops₂ : List Op)
    (h₁ : KeysNonEmpty ops₁) (h₂ : KeysNonEmpty ops₂) (h : ∀ k, spec ops₁ k = spec ops₂ k) :
    rootOf H (run ops₁) = rootOf H (run ops₂) := by
  rw [tree_unique (run ops₁) (run ops₂) (canon_run ops₁ h₁) (canon_run ops₂ h₂)
    (fun k => by rw [run_get ops₁ h₁, run_get ops₂ h₂, h k])]

/-- the empty mapping has the blank hash `H(b"")` -/
theorem root_empty (H : Bytes → Bytes) (ops : List Op) (hk : KeysNonEmpty ops) (h : ∀ k, spec ops k = none) :
    rootOf H (run ops) = H [] := by
  rw [eq_none_of_empty (run ops) (canon_run ops hk) fun k => by rw [run_get ops hk, h k]]
  rfl

/-- a call that raises has handed nothing to `_hash_and_save`: root and database are untouched -/
theorem raise_changes_nothing (t : Option BNode) (k : Bits) (v : Bytes) (sub : Bool) (e : Err)
    (h : (bsetTopS t k v sub).1 = .error e) : (bsetTopS t k v sub).2 = [] := raise_before_save t k v sub e h

theorem saves_tree (t : Option BNode) (k : Bits) (v : Bytes) (sub : Bool) :
    (bsetTopS t k v sub).1 = bsetTop t k v sub := by
  cases t with
  | none => simp only [bsetTopS, bsetTop]; split <;> rfl
  | some n => exact bsetS_fst n k v sub

/-- every node of the new trie is an old node or one of the nodes just saved (so, the database being
    add-only, every root ever produced stays fully stored) -/
theorem new_nodes_saved (t : Option BNode) (k : Bits) (v : Bytes) (sub : Bool) (n' : BNode)
    (h : (bsetTopS t k v sub).1 = .ok (some n')) (x : BNode) (hx : x ∈ trieNodes n') :
    x ∈ (bsetTopS t k v sub).2 ∨ ∃ n, t = some n ∧ x ∈ trieNodes n := by
  cases t with
  | none =>
    simp only [bsetTopS] at h ⊢
    split at h
    · next hv =>
      rw [if_pos hv]
      have e : BNode.kv k (.leaf v) = n' := by simpa using h
      subst e
      simpa [trieNodes, or_comm] using hx
    · simp at h
  | some n => exact (bsetS_complete n k v sub n' h x hx).imp_right fun h1 => ⟨n, rfl, h1⟩

end PyTrie.Props.C12

