import PyTrie.Props.C09Termination
import PyTrie.Props.HistoryProgress
/-! # C09 — a fog-guided walk interleaved with a history that contains `squash_changes` blocks (non-pruning trie)

`C09.walk_over_history` interleaves the walk with direct `set` / `delete` calls. The repository's own walk tests change the trie
through `squash_changes` while walking. Here: events are steps of a history with blocks (`HStep`: a direct call, a block left
normally or by an exception) or steps of the walk; each walk step sees the database, root and version of the tree-carrying world
at that moment (`schedOfB`). For a NON-pruning trie the database only gains bindings along such a history, so it stays complete
for every earlier version: the schedule satisfies `SchedOk`, and every theorem about raw-level walks applies — never raises
(with the caller's retry on stale cache entries), meets only what some version held, finds every key that kept its value, ends
within the bound. Premises: `Good'` of the history (no-collision facts of every call) and the two physical side conditions on
the database at each walk step. -/
namespace PyTrie.Props.C09
open PyTrie PyTrie.Hex PyTrie.HexD PyTrie.HexW PyTrie.HexRaw PyTrie.HexFree PyTrie.Fog PyTrie.Walk
open PyTrie.Props.Free (Good')

inductive WEvB where
  | hstep (s : HStep)
  | step (p : Path)

section
variable (H : Bytes → Bytes)

def hstepsOf : List WEvB → List HStep
  | [] => []
  | .hstep s :: r => s :: hstepsOf r
  | .step _ :: r => hstepsOf r

/-- the steps of the walk with what the world is at each of them -/
def schedOfB (w : World) : List WEvB → List StepT
  | [] => []
  | .step p :: r => ⟨w.base, (w.tries[0]!).root, (w.tries[0]!).tree, p⟩ :: schedOfB w r
  | .hstep s :: r => schedOfB (stepW H w s).2 r

/-- the two physical side conditions on the database a walk step reads: nothing stored under the blank root's hash, every
    body shorter than 2^64 bytes -/
def StepsPhysical (sched : List StepT) : Prop :=
  ∀ e ∈ sched, Dict.get? e.db (blankRoot H) = none ∧ ∀ h b, Dict.get? e.db h = some b → b.length < 2 ^ 64

private theorem step_preserves (w : World) (hw : WInv H false w) (s : HStep) (rest : List HStep)
    (hg : Good' H w (s :: rest)) :
    WInv H false (stepW H w s).2 ∧ Preserved w.base (stepW H w s).2.base ∧ Good' H (stepW H w s).2 rest := by
  cases s with
  | op k v =>
    obtain ⟨hg1, hg2⟩ := hg
    obtain ⟨hrs, hbl, hnc, _, _⟩ := hg1
    obtain ⟨_, _, hinv', _, hpres⟩ := op_outer H false w hw k v hrs hbl hnc
    rw [stepW_op]
    exact ⟨hinv', hpres rfl, hg2⟩
  | block inner raised =>
    obtain ⟨hg1, hg2⟩ := hg
    have j3 := (PyTrie.Props.Free.inner_progress H false w inner _ (binv_begin H false w hw) hg1).2.2
    obtain ⟨hinv', hpres⟩ := winv_end H false w _ hw j3 raised
    rw [stepW_block]
    exact ⟨hinv', hpres rfl, hg2⟩

/-- **along a history with blocks on a non-pruning trie no database binding is ever lost** -/
theorem history_blocks_preserves (steps : List HStep) (w : World) (hw : WInv H false w) (hg : Good' H w steps) :
    Preserved w.base (runW H w steps).2.base := by
  induction steps generalizing w with
  | nil => exact fun _ _ h => h
  | cons s rest ih =>
    obtain ⟨h1, h2, h3⟩ := step_preserves H w hw s rest hg
    rw [runW_cons]
    exact fun h b hb => ih _ h1 h3 h b (h2 h b hb)

private theorem sched_inv (evs : List WEvB) : ∀ w : World, WInv H false w → Good' H w (hstepsOf evs) →
    (∀ e ∈ schedOfB H w evs, Canon e.t ∧ Complete (stdHashing H) (blankRoot H) e.db ⟨e.t, e.root, false⟩ ∧
      Preserved w.base e.db) ∧
    (schedOfB H w evs).Pairwise (fun a b => Preserved a.db b.db) := by
  induction evs with
  | nil => intro w _ _; exact ⟨fun e he => (by cases he), List.Pairwise.nil⟩
  | cons ev r ih =>
    intro w hw hg
    cases ev with
    | step p =>
      obtain ⟨i1, i2⟩ := ih w hw hg
      have hT : w.tries[0]! = ⟨(w.tries[0]!).tree, (w.tries[0]!).root, false⟩ := by rw [← hw.pr]
      refine ⟨?_, ?_⟩
      · intro e he
        simp only [schedOfB, List.mem_cons] at he
        rcases he with he | he
        · subst he
          refine ⟨hw.canon, ?_, fun _ _ h => h⟩
          have := hw.comp
          rw [hT] at this
          exact this
        · exact i1 e he
      · simp only [schedOfB]
        exact List.Pairwise.cons (fun e he => (i1 e he).2.2) i2
    | hstep s =>
      obtain ⟨h1, h2, h3⟩ := step_preserves H w hw s (hstepsOf r) hg
      obtain ⟨i1, i2⟩ := ih _ h1 h3
      refine ⟨?_, i2⟩
      intro e he
      obtain ⟨a, b, c⟩ := i1 e he
      exact ⟨a, b, fun h x hx => c h x (h2 h x hx)⟩

/-- **the schedule of a walk interleaved with a history with blocks satisfies `SchedOk`** -/
theorem schedOk_of_history_with_blocks (hlen : ∀ b, (H b).length = 32) (evs : List WEvB)
    (hgood : Good' H (freshW H false) (hstepsOf evs))
    (hphys : StepsPhysical H (schedOfB H (freshW H false) evs)) :
    SchedOk H (schedOfB H (freshW H false) evs) := by
  have _ := hlen
  obtain ⟨h1, h2⟩ := sched_inv H evs _ (winv_fresh H false) hgood
  apply schedOk_of'
  refine ⟨?_, ?_⟩
  · intro e he
    obtain ⟨hc, hcomp, _⟩ := h1 e he
    obtain ⟨hbk, hsm⟩ := hphys e he
    exact ⟨hc, stored_of_complete H ⟨e.t, e.root, false⟩ e.db hcomp hbk hsm⟩
  · refine List.Pairwise.imp_of_mem ?_ h2
    intro a b ha hb hab
    obtain ⟨_, hcomp, _⟩ := h1 a ha
    obtain ⟨hbk, hsm⟩ := hphys b hb
    have hcomp' := complete_mono (stdHashing H) (blankRoot H) a.db b.db hab _ hcomp
    exact (partial_of_complete H ⟨a.t, a.root, false⟩ b.db hcomp' hbk hsm).2

/-- **hence the walk never raises, is sound and finds every key that kept its value** (`raw_walk_finds_stable_and_sound`
    instantiated) -/
theorem walk_over_history_with_blocks (hlen : ∀ b, (H b).length = 32) (evs : List WEvB)
    (hgood : Good' H (freshW H false) (hstepsOf evs))
    (hphys : StepsPhysical H (schedOfB H (freshW H false) evs)) :
    let sched := schedOfB H (freshW H false) evs
    (crunDR H cstartD (sched.map StepT.toD) = .ok none) ∨
    ∃ s' : CState, crunDR H cstartD (sched.map StepT.toD) = .ok (some (toCD H s')) ∧
      (∀ k v, (k, v) ∈ s'.met → ∃ e ∈ sched, v ≠ [] ∧ get e.t k = v) ∧
      (s'.fog = [] → ∀ k val, val ≠ [] → (∀ e ∈ sched, get e.t k = val) → (k, val) ∈ s'.met) :=
  raw_walk_finds_stable_and_sound H hlen _ (schedOk_of_history_with_blocks H hlen evs hgood hphys)

end

/-- **a walk interleaved with a history with blocks is bounded**: steps taken + what is left of the fog ≤ 17^(L+1) while the
    versions between the steps store keys of at most `L` nibbles; at the bound the fog is complete -/
theorem walk_over_history_with_blocks_bounded (H : Bytes → Bytes) (hlen : ∀ b, (H b).length = 32) (L : Nat) (evs : List WEvB)
    (hgood : Good' H (freshW H false) (hstepsOf evs))
    (hphys : StepsPhysical H (schedOfB H (freshW H false) evs))
    (hL : ∀ e ∈ schedOfB H (freshW H false) evs, ∀ k, get e.t k ≠ [] → k.length ≤ L)
    (r : CStateD) (hrun : crunDR H cstartD ((schedOfB H (freshW H false) evs).map StepT.toD) = .ok (some r)) :
    (schedOfB H (freshW H false) evs).length + r.fog.length ≤ 17 ^ (L + 1) ∧
    ((schedOfB H (freshW H false) evs).length = 17 ^ (L + 1) → r.fog = []) :=
  ⟨(raw_walk_length_bounded H hlen L _ (schedOk_of_history_with_blocks H hlen evs hgood hphys) hL r hrun).2,
   (raw_walk_complete_at_bound H hlen L _ (schedOk_of_history_with_blocks H hlen evs hgood hphys) hL r hrun).2⟩

end PyTrie.Props.C09
