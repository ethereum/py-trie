import PyTrie.Lemmas.NodesLoopD
import PyTrie.Props.C10
/-! # C10 at raw level — `NodeIterator.nodes()` over the database of encoded bodies

`Model/WalkD.lean` `nodesLoopD` is the loop of `nodes()` as the code runs it: the trie is a root hash over a database, the
`TrieFrontierCache` holds raw node bodies, `traverse` / `traverse_from` fetch and decode children from the database. -/
namespace PyTrie.Props.C10
open PyTrie PyTrie.Hex PyTrie.Hex.Node PyTrie.HexD PyTrie.HexW PyTrie.HexRaw PyTrie.Fog
open PyTrie.Props.C01 (Op run spec)

/-- on any database that stores the (canonical) trie the raw-level loop yields exactly the raw images of what the
    tree-level loop yields, from any fog and any cache of stored parents -/
theorem raw_nodes_loop_refines (H : Bytes → Bytes) (hlen : ∀ b, (H b).length = 32) (db : Db) (root : Hash) (t : Node)
    (hc : Canon t) (hroot : RootPartial H db root t) (hrootIn : isBlank t = false → (lookup db root).isSome)
    (hst : StoredD H db t) (fuel : Nat) (fog : Fog) (cache : Frontier Node)
    (hcache : ∀ p parent seg, Frontier.get cache p = some (parent, seg) → Canon parent ∧ StoredD H db parent) :
    nodesLoopD H db root fuel fog (mapCache H cache) =
      .ok ((nodesLoop t fuel fog cache).map (fun e => (e.1, Ann.toD H (annotate e.2)))) :=
  nodesLoopD_refines H hlen db root t hc hroot hrootIn hst fuel fog cache hcache

/-- **`nodes()` over the database the executor left — pruning on or off — is the pre-order sequence of the trie of the
    history**: never `MissingTraversalNode`, never a partial path, every node once, parents before children, left to right -/
theorem raw_nodes_is_preorder (H : Bytes → Bytes) (hlen : ∀ b, (H b).length = 32) (prune : Bool) (ops : List Op)
    (T : TrieSt) (s : OpSt) (h : ReachOpsNC (stdHashing H) (blankRoot H) prune ops T s)
    (hbk : Dict.get? s.store.base (blankRoot H) = none)
    (hsm : ∀ h b, Dict.get? s.store.base h = some b → b.length < 2 ^ 64)
    (fuel : Nat) (hf : (preorder (run ops) []).length < fuel) :
    nodesOfD H s.store.base T.root fuel =
      .ok ((preorder (run ops) []).map (fun e => (e.1, Ann.toD H (annotate e.2)))) := by
  have hcomp := reachOpsNC_complete (stdHashing H) (blankRoot H) prune ops T s h
  have htree : T.tree = run ops :=
    (reachOps_tree (stdHashing H) (blankRoot H) prune ops T s
      (reachOpsNC_reachOps (stdHashing H) (blankRoot H) prune ops T s h)).1
  rw [nodesOfD_complete H hlen T (htree ▸ PyTrie.Props.C01.canon_run ops) s.store.base hcomp hbk hsm fuel, htree,
    nodes_loop_is_preorder ops fuel hf]

/-- **`items()` over the database the executor left — pruning on or off — yields exactly the stored pairs in key order**
    (`items_exact`, `items_sorted` describe `itemsOf`) -/
theorem raw_items_is_items (H : Bytes → Bytes) (hlen : ∀ b, (H b).length = 32) (prune : Bool) (ops : List Op)
    (T : TrieSt) (s : OpSt) (h : ReachOpsNC (stdHashing H) (blankRoot H) prune ops T s)
    (hbk : Dict.get? s.store.base (blankRoot H) = none)
    (hsm : ∀ h b, Dict.get? s.store.base h = some b → b.length < 2 ^ 64)
    (fuel : Nat) (hf : (preorder (run ops) []).length < fuel) :
    itemsOfD H s.store.base T.root fuel = .ok (itemsOf (run ops)) := by
  unfold itemsOfD
  rw [raw_nodes_is_preorder H hlen prune ops T s h hbk hsm fuel hf]
  simp only [itemsOf, List.filterMap_map]
  rfl

/-- … hence: a pair is yielded iff it is stored (every stored key exactly once, nothing else) -/
theorem raw_items_exact (H : Bytes → Bytes) (hlen : ∀ b, (H b).length = 32) (prune : Bool) (ops : List Op)
    (T : TrieSt) (s : OpSt) (h : ReachOpsNC (stdHashing H) (blankRoot H) prune ops T s)
    (hbk : Dict.get? s.store.base (blankRoot H) = none)
    (hsm : ∀ h b, Dict.get? s.store.base h = some b → b.length < 2 ^ 64)
    (fuel : Nat) (hf : (preorder (run ops) []).length < fuel) :
    ∃ l, itemsOfD H s.store.base T.root fuel = .ok l ∧
      (∀ k v, (nibs k, v) ∈ l ↔ v ≠ [] ∧ spec ops k = v) ∧
      (l.map (·.1)).Pairwise (fun a b => plt a b = true) :=
  ⟨itemsOf (run ops), raw_items_is_items H hlen prune ops T s h hbk hsm fuel hf,
    fun k v => items_exact ops k v, items_sorted ops⟩

/-- **`nodes()` over an incomplete database** (bodies withheld, pruned, not yet downloaded; a cache that may hold stale parents of
    earlier versions): the loop yields exactly the raw images of the tree-level loop, or stops with `MissingTraversalNode`
    naming a node that really is absent — never a wrong node, a skipped subtree or a present node reported missing -/
theorem raw_nodes_loop_partial (H : Bytes → Bytes) (hlen : ∀ b, (H b).length = 32) (db : Db) (root : Hash) (t : Node)
    (hc : Canon t) (hroot : RootPartial H db root t) (hst : PartialD H db t) (fuel : Nat) (fog : Fog) (cache : Frontier Node)
    (hcache : CacheOkD H db cache) :
    (∃ h pre, nodesLoopD H db root fuel fog (mapCache H cache) = .error (.missing h pre) ∧ lookup db h = none) ∨
    nodesLoopD H db root fuel fog (mapCache H cache) =
      .ok ((nodesLoop t fuel fog cache).map (fun e => (e.1, Ann.toD H (annotate e.2)))) :=
  nodesLoopD_partial H hlen db root t hc hroot hst fuel fog cache hcache

theorem raw_nodes_partial (H : Bytes → Bytes) (hlen : ∀ b, (H b).length = 32) (db : Db) (root : Hash) (t : Node)
    (hc : Canon t) (hroot : RootPartial H db root t) (hst : PartialD H db t) (fuel : Nat) :
    (∃ h pre, nodesOfD H db root fuel = .error (.missing h pre) ∧ lookup db h = none) ∨
    nodesOfD H db root fuel = .ok ((nodesOf t fuel).map (fun e => (e.1, Ann.toD H (annotate e.2)))) :=
  nodesLoopD_partial H hlen db root t hc hroot hst fuel Fog.init [] cacheAll_nil

end PyTrie.Props.C10
