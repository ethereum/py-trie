import PyTrie.Props.C06Refused
import PyTrie.Props.HistoryBlocks
/-! # C06 — histories that contain operations whose FIRST database write is refused (pruning on or off)

The C06 check injects `failfirst` operations into its histories. `C06.first_write_refused_atomic` is the one-call statement
(store, counts, pending marks unchanged). Here it is lifted to the world and to whole histories: a direct call that is stopped by
the refusal of its first write leaves the tree-carrying world LITERALLY as it was (the fault is cleared afterwards, as the harness
does), so a history with such steps reaches exactly the world the history without them reaches — in particular all of
`Free.history_blocks_world` (tree of the flattened history, complete database, exact pruning) holds for it. -/
namespace PyTrie.Props.Free
open PyTrie PyTrie.Hex PyTrie.HexD PyTrie.HexW PyTrie.HexRaw PyTrie.HexFree
open PyTrie.Props.C01 (Op run spec)

inductive HStepP where
  | step (s : HStep)
  | refusedFirst (k : Bytes) (v : Option Bytes)

section
variable (H : Bytes → Bytes)

def stepWP (w : World) : HStepP → List (Except Exn Unit) × World
  | .step s => stepW H w s
  | .refusedFirst k v =>
    let (r, w') := ({ w with failAfter := some 0 } : World).setDel (stdHashing H) (blankRoot H) (.trie 0) k v
    ([r], { w' with failAfter := none })

def runWP (w : World) : List HStepP → List (Except Exn Unit) × World
  | [] => ([], w)
  | s :: rest => let (a, w') := stepWP H w s; let (b, w'') := runWP w' rest; (a ++ b, w'')

/-- the ordinary steps of such a history -/
def plainSteps : List HStepP → List HStep
  | [] => []
  | .step s :: r => s :: plainSteps r
  | .refusedFirst _ _ :: r => plainSteps r

/-- every `refusedFirst` step really is stopped by the refusal (otherwise it had nothing to write and is an ordinary call) -/
def RefusedAll : World → List HStepP → Prop
  | _, [] => True
  | w, .step s :: rest => RefusedAll (stepWP H w (.step s)).2 rest
  | w, .refusedFirst k v :: rest =>
    (({ w with failAfter := some 0 } : World).setDel (stdHashing H) (blankRoot H) (.trie 0) k v).1 = .error .writeFailed ∧
    RefusedAll (stepWP H w (.refusedFirst k v)).2 rest

/-- **a direct call stopped by the refusal of its first write leaves the world exactly as it was** — one trie, no block open,
    no fault pending; pruning on or off -/
theorem refused_first_step (w : World) (hsz : w.tries.size = 1) (hcsz : w.counts.size = 1) (hfa : w.failAfter = none)
    (k : Bytes) (v : Option Bytes)
    (hfail : (({ w with failAfter := some 0 } : World).setDel (stdHashing H) (blankRoot H) (.trie 0) k v).1 = .error .writeFailed) :
    (stepWP H w (.refusedFirst k v)).2 = w := by
  have _ := hsz
  have _ := hcsz
  obtain ⟨hw, heq⟩ := World.setDel_trie_error_eq (stdHashing H) (blankRoot H) ({ w with failAfter := some 0 } : World) 0 k v _ hfail
  obtain ⟨h1, h2, _⟩ := C06.first_write_refused_atomic (stdHashing H) (blankRoot H) _ k v _ rfl rfl hw
  show ({ (({ w with failAfter := some 0 } : World).setDel (stdHashing H) (blankRoot H) (.trie 0) k v).2 with
    failAfter := none } : World) = w
  rw [heq, h1, h2]
  obtain ⟨base, fa, tries, counts, batch, roots⟩ := w
  simp only at hfa
  subst hfa
  simp only [World.opSt, array_set!_getElem!]

theorem refused_first_run (prune : Bool) (steps : List HStepP) :
    ∀ (w : World), WInv H prune w → Good H w (plainSteps steps) → RefusedAll H w steps →
      (runWP H w steps).2 = (runW H w (plainSteps steps)).2 := by
  induction steps with
  | nil => intro w _ _ _; rfl
  | cons s rest ih =>
    intro w hinv hg href
    cases s with
    | step s =>
      obtain ⟨h2, h1⟩ := stepW_tracks H prune w hinv s (plainSteps rest) hg
      exact ih _ h1.inv h2 href
    | refusedFirst k v =>
      obtain ⟨hf, href'⟩ := href
      have hw := refused_first_step H w hinv.tsz hinv.csz hinv.fa k v hf
      rw [hw] at href'
      show (runWP H (stepWP H w (.refusedFirst k v)).2 rest).2 = _
      rw [hw]
      exact ih _ hinv hg href'

/-- **a history with refused-first-write steps reaches exactly the world of the history without them** -/
theorem refused_first_history (prune : Bool) (steps : List HStepP)
    (hgood : Good H (freshW H prune) (plainSteps steps)) (href : RefusedAll H (freshW H prune) steps) :
    (runWP H (freshW H prune) steps).2 = (runW H (freshW H prune) (plainSteps steps)).2 :=
  refused_first_run H prune steps _ (winv_fresh H prune) hgood href

/-- hence exact pruning and the contents theorem hold after such histories too -/
theorem refused_first_history_exact (hlen : ∀ b, (H b).length = 32) (steps : List HStepP)
    (hgood : Good H (freshW H true) (plainSteps steps)) (href : RefusedAll H (freshW H true) steps) :
    ((runWP H (freshW H true) steps).2.tries[0]!).tree = run (flattenSteps (plainSteps steps)) ∧
    (∀ x, ((runWP H (freshW H true) steps).2.counts[0]!).val x =
        occRoot (stdHashing H) (run (flattenSteps (plainSteps steps))) x) ∧
    (∀ x, Dict.contains (runWP H (freshW H true) steps).2.base x = true ↔
        0 < occRoot (stdHashing H) (run (flattenSteps (plainSteps steps))) x) := by
  rw [refused_first_history H true steps hgood href]
  have h := Free.history_blocks_world H hlen true (plainSteps steps) hgood
  exact ⟨h.2.2.1, (h.2.2.2.2.2 rfl).1, (h.2.2.2.2.2 rfl).2⟩

end
end PyTrie.Props.Free
