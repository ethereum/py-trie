import PyTrie.Lemmas.FreeBatch
import PyTrie.Lemmas.BeamHistory
import PyTrie.Props.FreeExec
/-! # C05 and C07 stated directly on the tree-free transcription (what is run against the code)

`FWorld` = `squash_changes` without trees (`Model/HexFree.lean`). The C05 statements below need no run-level hypothesis: they
hold for every world, key, value and fault position. The C07 statements are about whole histories in which node bodies
disappear from the database and are supplied again between the calls ("beam sync"). -/
namespace PyTrie.Props.Free
open PyTrie PyTrie.Hex PyTrie.HexD PyTrie.HexW PyTrie.HexRaw PyTrie.HexFree

/-- an operation on the batch trie never touches the wrapped database, the fault counter, the outer trie or its counts -/
theorem batch_op_leaves_outer (H : Bytes → Bytes) (w : FWorld) (key : Bytes) (val : Option Bytes) :
    let w' := (w.setDel H true key val).2
    w'.base = w.base ∧ w'.failAfter = w.failAfter ∧ w'.outer = w.outer ∧ w'.counts = w.counts ∧
    (w.batch.isSome → w'.batch.isSome) := by
  cases hb : w.batch with
  | none => simp [FWorld.setDel, hb]
  | some b =>
    simp only [FWorld.setDel, hb, Bool.not_true, Bool.false_eq_true, ↓reduceIte]
    have h := freeSetDel_base H b.trie key val (w.batchOpSt b) rfl
    generalize freeSetDel H b.trie key val (w.batchOpSt b) = q at h
    obtain ⟨st', r⟩ := q
    obtain ⟨h1, h2, _⟩ := h
    simp only [FWorld.batchOpSt] at h1 h2
    dsimp only
    cases r with
    | ok F' => exact ⟨h1, h2, rfl, rfl, fun _ => rfl⟩
    | error e => exact ⟨h1, h2, rfl, rfl, fun _ => rfl⟩

theorem batchRun_leaves_outer (H : Bytes → Bytes) (w : FWorld) (ops : List (Bytes × Option Bytes)) :
    (FWorld.batchRun H w ops).base = w.base ∧ (FWorld.batchRun H w ops).failAfter = w.failAfter ∧
    (FWorld.batchRun H w ops).outer = w.outer ∧ (FWorld.batchRun H w ops).counts = w.counts ∧
    (w.batch.isSome → (FWorld.batchRun H w ops).batch.isSome) := by
  induction ops generalizing w with
  | nil => exact ⟨rfl, rfl, rfl, rfl, id⟩
  | cons o ops ih =>
    obtain ⟨a1, a2, a3, a4, a5⟩ := batch_op_leaves_outer H w o.1 o.2
    obtain ⟨b1, b2, b3, b4, b5⟩ := ih (w.setDel H true o.1 o.2).2
    simp only [FWorld.batchRun, List.foldl_cons] at b1 b2 b3 b4 b5 ⊢
    exact ⟨b1.trans a1, b2.trans a2, b3.trans a3, b4.trans a4, fun h => b5 (a5 h)⟩

theorem batchRun_begin (H : Bytes → Bytes) (w : FWorld) (ops : List (Bytes × Option Bytes)) :
    ∃ b, FWorld.batchRun H w.batchBegin ops =
      { base := w.base, failAfter := w.failAfter, outer := w.outer, counts := w.counts, batch := some b } := by
  obtain ⟨h1, h2, h3, h4, h5⟩ := batchRun_leaves_outer H w.batchBegin ops
  generalize FWorld.batchRun H w.batchBegin ops = wb at h1 h2 h3 h4 h5
  obtain ⟨ba, fa, ou, co, bt⟩ := wb
  simp only [FWorld.batchBegin] at h1 h2 h3 h4 h5
  cases bt with
  | none => simp at h5
  | some b => exact ⟨b, by simp [h1, h2, h3, h4]⟩

/-- **a block left by an exception restores the world exactly**, whatever was done inside it -/
theorem abort_restores (H : Bytes → Bytes) (w : FWorld) (hb : w.batch = none) (ops : List (Bytes × Option Bytes)) :
    ((FWorld.batchRun H w.batchBegin ops).batchEnd true).2 = w := by
  obtain ⟨b, hw⟩ := batchRun_begin H w ops
  rw [hw]
  obtain ⟨ba, fa, ou, co, bt⟩ := w
  simp only at hb
  subst hb
  simp [FWorld.batchEnd]

/-- **a failing commit keeps the outer root and counts**, and the block is closed -/
theorem commit_failure_keeps_outer (H : Bytes → Bytes) (w : FWorld) (hb : w.batch = none) (ops : List (Bytes × Option Bytes)) :
    let wb := FWorld.batchRun H w.batchBegin ops
    (wb.batchEnd false).1 = .error .writeFailed →
    (wb.batchEnd false).2.outer = w.outer ∧ (wb.batchEnd false).2.counts = w.counts ∧ (wb.batchEnd false).2.batch = none := by
  obtain ⟨b, hw⟩ := batchRun_begin H w ops
  intro wb
  have hwb : wb = _ := hw
  rw [hwb]
  simp only [FWorld.batchEnd, Bool.false_eq_true, ↓reduceIte]
  generalize commitLoop w.outer.prune b.cache w.base w.failAfter = q
  obtain ⟨ok, base', fa'⟩ := q
  cases ok with
  | true => simp
  | false => simp

/-- **a successful commit adopts the batch root** (counts iff pruning) and the database is what the commit loop wrote -/
theorem commit_adopts_root (H : Bytes → Bytes) (w : FWorld) (hb : w.batch = none) (ops : List (Bytes × Option Bytes)) :
    let wb := FWorld.batchRun H w.batchBegin ops
    (wb.batchEnd false).1 = .ok () →
    ∃ b, wb.batch = some b ∧ (wb.batchEnd false).2.outer = { w.outer with root := b.trie.root } ∧
      (wb.batchEnd false).2.counts = (if w.outer.prune then b.counts else w.counts) ∧ (wb.batchEnd false).2.batch = none ∧
      (wb.batchEnd false).2.base = (commitLoop w.outer.prune b.cache w.base w.failAfter).2.1 := by
  obtain ⟨b, hw⟩ := batchRun_begin H w ops
  intro wb
  have hwb : wb = _ := hw
  rw [hwb]
  simp only [FWorld.batchEnd, Bool.false_eq_true, ↓reduceIte]
  generalize hq : commitLoop w.outer.prune b.cache w.base w.failAfter = q
  obtain ⟨ok, base', fa'⟩ := q
  cases ok with
  | true => intro _; exact ⟨b, rfl, by simp [hq]⟩
  | false => simp

/-- the partial-consistency invariant is kept by every event of a history with withheld bodies -/
theorem beam_invariant_step (H : Bytes → Bytes) (hlen : ∀ b, (H b).length = 32) (T : TrieSt) (s : OpSt) (e : BEv)
    (hinv : BeamInv H T s) (hg : GoodEv H T s e) : BeamInv H (bstepT H T s e).1.1 (bstepT H T s e).1.2 := by
  have _ := hlen
  exact beam_inv_step H T s e hinv hg

/-- **whole histories with withheld node bodies: the tree-free executor = the tree-carrying executor** — the same outcome at
    every call (success, `MissingTrieNode` with the same fields), the same final database, counts and root -/
theorem beam_history_lockstep (H : Bytes → Bytes) (hlen : ∀ b, (H b).length = 32) (T : TrieSt) (s : OpSt) (evs : List BEv)
    (hinv : BeamInv H T s) (hg : GoodRun H T s evs) :
    brunF H (toFree T) s evs = ((toFree (brunT H T s evs).1.1, (brunT H T s evs).1.2), (brunT H T s evs).2) ∧
    BeamInv H (brunT H T s evs).1.1 (brunT H T s evs).1.2 := by
  induction evs generalizing T s with
  | nil => exact ⟨rfl, hinv⟩
  | cons e r ih =>
    obtain ⟨hge, hgr⟩ := hg
    have hinv' := beam_inv_step H T s e hinv hge
    obtain ⟨h1, h2⟩ := ih _ _ hinv' hgr
    have hs := beam_step_lockstep H hlen T s e hinv
    rw [brunF_cons, brunT_cons, hs]
    simp only
    rw [h1]
    exact ⟨rfl, h2⟩

/-- **a call that raises `MissingTrieNode` at any point of such a history changed nothing** (root, database, fault
    counter, reference counts; no pending prune mark) **and names an absent node on the key's path** -/
theorem beam_failed_call_atomic (H : Bytes → Bytes) (hlen : ∀ b, (H b).length = 32) (T : TrieSt) (s : OpSt) (key : Bytes)
    (val : Option Bytes) (hinv : BeamInv H T s) (hg : GoodEv H T s (.op key val)) (h root rk : Bytes) (pre : Option Path)
    (he : (bstepF H (toFree T) s (.op key val)).2 = some (.error (.missingTrieNode h root rk pre))) :
    (bstepF H (toFree T) s (.op key val)).1.1 = toFree T ∧
    (bstepF H (toFree T) s (.op key val)).1.2.store = s.store ∧
    (bstepF H (toFree T) s (.op key val)).1.2.counts = s.counts ∧
    (bstepF H (toFree T) s (.op key val)).1.2.pending = [] ∧
    s.store.contains h = false ∧
    (h = T.root ∨ OnPath (stdHashing H) T.tree (nibs key) h ∨ SiblingOnPath (stdHashing H) T.tree (nibs key) h) :=
  HexFree.beam_failed_call_atomic H hlen T s key val hinv hg h root rk pre he

end PyTrie.Props.Free
