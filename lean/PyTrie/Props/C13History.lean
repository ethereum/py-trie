import PyTrie.Props.C13
import PyTrie.Props.C12History
/-! # C13 over whole histories: the branch helpers on the database a BinaryTrie history leaves behind

The C13 theorems quantify over canonical trees stored in a database. Composed with the raw-level history theorem of C12
(`Raw.bin_history`: the raw-level run of any history of accepted calls returns the root of the tree-level history and a database
storing that whole tree) they become statements about `trie/branches.py` run on the root hash and database that the
`BinaryTrie` API itself produced, in terms of the map model `spec ops` — for every history with a non-empty result. -/
namespace PyTrie.Props.C13
open PyTrie PyTrie.Bin PyTrie.BinRaw PyTrie.BranchRaw
open PyTrie.Props.C12 (Op run spec)

/-- what every corollary starts from: the raw-level run ends at the hash of the (non-empty) tree, which is canonical, stored
    as a whole in the run's database, and answers `bget` like the map model -/
theorem history_base (H : Bytes → Bytes) (hlen : ∀ b, (H b).length = 32) (ops : List Op) (t : Option BNode)
    (h : BinReach H ops t) (n : BNode) (hn : run ops = some n) :
    ∃ st, binRawRun H ops (H [], { db := [] }) = .ok (hashNode H n, st) ∧ AllStored H st.db n ∧ BCanon n ∧
      ∀ k, bget n k = spec ops k := by
  obtain ⟨st, hrun, hst⟩ := Raw.bin_history H hlen ops t h
  have ht : t = some n := by rw [Raw.bin_history_tree H ops t h, hn]
  have hk := binReach_keys H ops t h
  refine ⟨st, ?_, hst n ht, reachable_canonical ops hk n hn, fun k => ?_⟩
  · rw [hrun, ht]; rfl
  · have := C12.run_get ops hk k
    rw [hn] at this
    exact this

/-- **`check_if_branch_exist(db, root, p)` over the history's own database is true exactly when some stored key starts with `p`** -/
theorem history_exists (H : Bytes → Bytes) (hlen : ∀ b, (H b).length = 32) (ops : List Op) (t : Option BNode)
    (h : BinReach H ops t) (n : BNode) (hn : run ops = some n) (p : Bits) (fuel : Nat) (hf : p.length + 1 < fuel) :
    ∃ st b, binRawRun H ops (H [], { db := [] }) = .ok (hashNode H n, st) ∧
      existsD (H []) st.db fuel (hashNode H n) p = .ok b ∧
      (b = true ↔ ∃ k v, spec ops k = some v ∧ p <+: k) := by
  obtain ⟨st, hrun, hst, hc, hget⟩ := history_base H hlen ops t h n hn
  refine ⟨st, branchExists n p, hrun, raw_exists H hlen n hc st.db hst p fuel hf, ?_⟩
  simp only [exist_iff n hc p, hget]

/-- **`get_branch` over the history's database returns the encodings of the tree-level branch, and `if_branch_valid`
    confirms the map model's answer with it** (present or absent key); a refusal means the key is unstored and related to a
    stored key -/
theorem history_branch (H : Bytes → Bytes) (hlen : ∀ b, (H b).length = 32) (ops : List Op) (t : Option BNode)
    (h : BinReach H ops t) (n : BNode) (hn : run ops = some n) (k : Bits) (fuel : Nat) (hf : k.length + 1 < fuel) :
    ∃ st, binRawRun H ops (H [], { db := [] }) = .ok (hashNode H n, st) ∧
      getBranchD (H []) st.db fuel (hashNode H n) k = liftR H (getBranch n k) ∧
      (∀ path, getBranch n k = .ok path → NoCollision H n (path.map (encNode H)) →
        ifBranchValid H (path.map (encNode H)) (hashNode H n) k (spec ops k) = .valid) ∧
      ((∃ e, getBranch n k = .error e) →
        spec ops k = none ∧ ∃ k' v', spec ops k' = some v' ∧ Related k' k) := by
  obtain ⟨st, hrun, hst, hc, hget⟩ := history_base H hlen ops t h n hn
  refine ⟨st, hrun, raw_get_branch H hlen n hc st.db hst k fuel hf, ?_, ?_⟩
  · intro path hp hnc
    rw [← hget]
    exact branch_valid H hlen n hc k path hp hnc
  · simp only [← hget]
    exact branch_refusal n hc k

/-- **unforgeable, over histories**: whatever list of byte strings is offered against the history's root, `if_branch_valid`
    confirms only the map model's answer -/
theorem history_branch_sound (H : Bytes → Bytes) (hlen : ∀ b, (H b).length = 32) (ops : List Op) (t : Option BNode)
    (h : BinReach H ops t) (n : BNode) (hn : run ops = some n) (k : Bits) (nodes : List Bytes)
    (hnc : NoCollision H n nodes) (claimed : Option Bytes)
    (hv : ifBranchValid H nodes (hashNode H n) k claimed = .valid) : claimed = spec ops k := by
  obtain ⟨_, _, _, hc, hget⟩ := history_base H hlen ops t h n hn
  rw [← hget]
  exact branch_sound H hlen n hc k nodes hnc claimed hv

/-- **`get_trie_nodes` and `get_witness_for_key_prefix` over the history's database**: the encodings of exactly the nodes of
    the tree / of the tree-level witness; the witness is sufficient to answer `get(k)` = map model for every `k` under `p` -/
theorem history_nodes_and_witness (H : Bytes → Bytes) (hlen : ∀ b, (H b).length = 32) (ops : List Op) (t : Option BNode)
    (h : BinReach H ops t) (n : BNode) (hn : run ops = some n) (p : Bits) (tfuel fuel : Nat)
    (htf : bheight n < tfuel) (hf : bheight n < fuel) :
    ∃ st, binRawRun H ops (H [], { db := [] }) = .ok (hashNode H n, st) ∧
      trieNodesD st.db tfuel (hashNode H n) = .ok ((trieNodes n).map (encNode H)) ∧
      witnessD st.db tfuel fuel (hashNode H n) p = liftR H (getWitness n p) ∧
      (∀ w, getWitness n p = .ok w → NoCollision H n (w.map (encNode H)) →
        ∀ k, p <+: k → ∀ g, k.length + 1 < g →
          bgetD (H []) (offeredDb H (w.map (encNode H))) g (hashNode H n) k = .ok (spec ops k)) := by
  obtain ⟨st, hrun, hst, hc, hget⟩ := history_base H hlen ops t h n hn
  refine ⟨st, hrun, raw_trie_nodes H hlen n hc st.db hst tfuel htf, raw_witness H hlen n hc st.db hst p tfuel fuel htf hf, ?_⟩
  intro w hw hnc k hpk g hg
  rw [← hget]
  exact witness_sufficient H hlen n hc p w hw hnc k hpk g hg

end PyTrie.Props.C13
